import TTV.Model.DecoSrc
/-! `stampInterp`, `qInterp`, `cInterp`, `ffInterp` of Model/DecoSrc interpret what the harness reads out of the `status` of
`TimestampingStreamResult`, `StreamToQueue` (with `route_code`) and `StreamFailFast`, and out of the `startTestRun`,
`stopTestRun` and `status` of `CopyStreamResult`.  Here: on the reference terms `ref…` (defined next to the interpreters, and
what the generated terms are compared with in Props/C11) they compute the steps of the hand-written decorator model of
Model/StreamDeco (`tiInterp` on `refTaggerInit` does so by `rfl`, in `C11_src_tagger_init`). -/
namespace TTV.DecoSrc
open TTV.Stream TTV.Stream.Deco

theorem stampInterp_ref {TG : Type} (e : EventOf TG) :
    stampInterp refStamp e = some { e with timestamp := fillNow e.timestamp } := by
  cases h : e.timestamp <;> simp [stampInterp, refStamp, deval, h, fillNow]

theorem deval_refQueueRoute {TG : Type} (code : Str) (e : EventOf TG) :
    valRoute (deval code e refQueueRoute) = prefixRoute code e.route := by
  cases h : e.route <;> simp [refQueueRoute, deval, valRoute, prefixRoute, h]

theorem qInterp_ref {TG : Type} (code : Str) (e : EventOf TG) :
    qInterp refQueueDict refQueueRoute code e = some { e with route := prefixRoute code e.route } := by
  rw [qInterp, if_pos (by decide)]
  exact congrArg (fun r => some { e with route := r }) (deval_refQueueRoute code e)

theorem cInterp_ref (n : Nat) (ts : List Dec) (h : Heap) (m : Msg) : cInterp n ts h m refCopy none = some (deliverL n ts h m) := rfl

/-- where the tuple in the source (`refFailFast`) meets the table observed from behaviour (`Generated.Stream.failFast`, read by
`fires`) -/
theorem ffInterp_ref (st : Option Status) : ffInterp st refFailFast = some (fires st) := by
  cases st with
  | none => rfl
  | some s => cases s <;> rfl

end TTV.DecoSrc
