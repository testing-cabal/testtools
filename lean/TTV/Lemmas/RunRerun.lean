import TTV.Lemmas.RunInv
/-! `force_failure` is the only state that survives `_reset`; the run reads it only at the forced-failure
test.  Two runs started with different left-over flags agree on everything but the flag (`AgreeFF`), hence
completely once the final flags agree. -/
namespace TTV.Run
open TTV.Spec.Run

def setFF (b : Bool) (s : RS) : RS := { s with ff := b }

def AgreeFF (s s' : RS) : Prop := setFF false s = setFF false s'

theorem AgreeFF.refl (s : RS) : AgreeFF s s := rfl

theorem AgreeFF.of_eq_setFF (s : RS) (b : Bool) : AgreeFF s (setFF b s) := rfl

theorem AgreeFF.eq {s s' : RS} (h : AgreeFF s s') (hff : s.ff = s'.ff) : s = s' :=
  calc s = setFF s.ff (setFF false s) := rfl
    _ = setFF s'.ff (setFF false s') := by rw [h, hff]
    _ = s' := rfl

theorem AgreeFF.stack {s s' : RS} (h : AgreeFF s s') : s.stack = s'.stack :=
  show (setFF false s).stack = (setFF false s').stack from congrArg RS.stack h

/-- a step that does not read the flag (it may set it) preserves agreement -/
theorem AgreeFF.map {f : RS → RS} (hf : ∀ s, AgreeFF (f (setFF false s)) (f s)) {s s' : RS} (h : AgreeFF s s') :
    AgreeFF (f s) (f s') :=
  calc setFF false (f s) = setFF false (f (setFF false s)) := (hf s).symm
    _ = setFF false (f (setFF false s')) := by rw [show setFF false s = setFF false s' from h]
    _ = setFF false (f s') := hf s'

/-- … in particular a step that neither reads nor writes it -/
theorem AgreeFF.map_comm {f : RS → RS} (hf : ∀ b s, f (setFF b s) = setFF b (f s)) {s s' : RS} (h : AgreeFF s s') :
    AgreeFF (f s) (f s') :=
  h.map fun s => by rw [hf]; rfl

theorem reportTb_setFF (e : Exc) (b : Bool) (s : RS) : reportTb (setFF b s) e = setFF b (reportTb s e) := by
  simp [reportTb, setFF]

theorem got_setFF (e : Exc) (b : Bool) (s : RS) : got (setFF b s) e = setFF b (got s e) := by
  simp only [got, reportTb_setFF]; split <;> rfl

theorem gotAll_setFF (es : List Exc) (b : Bool) (s : RS) : gotAll (setFF b s) es = setFF b (gotAll s es) := by
  rw [gotAll_eq_foldl, gotAll_eq_foldl]; exact List.foldl_hom (setFF b) fun s e => got_setFF e b s

theorem runTerm_setFF (t : Term) (b : Bool) (s : RS) :
    runTerm t (setFF b s) = (setFF b (runTerm t s).1, (runTerm t s).2) := by
  cases t <;> try rfl
  case expectFailure r eo x =>
    cases eo
    · rfl
    · exact congrArg (·, _) (reportTb_setFF _ b { s with details := dset s.details nmReason (.reason r) })

theorem runActs_agree (as : List Act) {s s' : RS} (h : AgreeFF s s') : AgreeFF (runActs as s) (runActs as s') := by
  refine h.map fun s => ?_
  induction as generalizing s with
  | nil => rfl
  -- the first action leaves two states that still agree up to the flag, and the rest does not read it
  | cons a as ih => cases a <;> exact AgreeFF.map (f := runActs as) ih rfl

theorem runStage_agree (st : Stage) (d : Bool) {s s' : RS} (h : AgreeFF s s') :
    AgreeFF (runStage st d s).1 (runStage st d s').1 := by
  rw [runStage_eq, runStage_eq]
  have h0 : AgreeFF (stage0 st s) (stage0 st s') := h.map_comm (f := stage0 st) fun _ _ => rfl
  have h2 := (runActs_agree st.acts h0).map_comm (f := fun s => (runTerm st.term s).1) fun b s =>
    congrArg Prod.fst (runTerm_setFF st.term b s)
  have h3 := h2.map_comm (f := fun s => (decoTb d st.term).foldl reportTb s) fun b _ => List.foldl_hom (setFF b) fun s e => reportTb_setFF e b s
  exact h3.map_comm (f := fun s => gotAll s (excsD d st.term)) (gotAll_setFF _)

theorem runCl_agree (c : Cl) {s s' : RS} (h : AgreeFF s s') : AgreeFF (runCl c s) (runCl c s') := by
  cases c with
  | stage st => exact (runStage_agree st false h).map_comm (f := fun s => { s with ran := s.ran ++ [.stage st.id] }) fun _ _ => rfl
  | gather fid ds | unpatch a old => exact h.map_comm fun _ _ => rfl

theorem runCleanups_agree (s : RS) : ∀ s' : RS, AgreeFF s s' → AgreeFF (runCleanups s) (runCleanups s') := by
  fun_induction runCleanups s with
  | case1 s hs =>
    intro s' h
    rw [runCleanups_nil s' (h.stack.symm.trans hs)]; exact h
  | case2 s c rest hs ih =>
    intro s' h
    rw [runCleanups_cons s' c rest (h.stack.symm.trans hs)]
    exact ih _ (runCl_agree c (h.map_comm (f := fun s => { s with stack := rest }) fun _ _ => rfl))

theorem mainPhase_agree (p : Program) (a b : Bool) : AgreeFF (mainPhase p a) (mainPhase p b) := by
  have h1 := runStage_agree p.setUp false (show AgreeFF (initRS p a) (initRS p b) from rfl)
  unfold mainPhase
  split
  · exact runStage_agree p.tearDown false (runStage_agree p.body p.xfailDeco h1)
  · exact h1

/-- C02 gets the hypothesis from `ff = ff0 || (some executed stage expects)`, which after the first run no longer depends on `ff0` -/
theorem runCore_agree (p : Program) (a b : Bool) (hff : (runCore p a).1.ff = (runCore p b).1.ff) :
    runCore p a = runCore p b := by
  have h := runCleanups_agree _ _ (mainPhase_agree p a b)
  rw [runCore_eq, runCore_eq] at hff ⊢
  have hff' : (runCleanups (mainPhase p a)).ff = (runCleanups (mainPhase p b)).ff := by
    revert hff; dsimp only; split <;> split <;> simp_all
  rw [h.eq hff']

end TTV.Run
