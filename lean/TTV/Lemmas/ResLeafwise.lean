import TTV.Lemmas.ResVerdict
/-! Every result by itself: its own `failfast` survives whatever its wrappers are told (`Inv0`, `Inv1`), and it stops
exactly by its own setting or by a fail-fast `ExtendedToOriginalDecorator` above it (`Inv2`, `Inv3`). -/
namespace TTV.Props.C04
open TTV.Result TTV.ResC04 TTV.Spec.C04 TTV.Lemmas.ResEmit TTV.Lemmas.ResStep

mutual
theorem kept_init : ∀ (s : Shape), (leaves s (init s)).map LeafSt.failfast = leafParams s
  | .sink _ | .fsink _ _ _ | .tt _ | .text _ | .tbt | .sff => rfl
  | .etod c | .deco c | .tagger _ _ c | .tfr c | .e2s c => kept_init c
  | .multi cs => kept_initL cs
theorem kept_initL : ∀ (ss : List Shape), (leavesL ss (initL ss)).map LeafSt.failfast = leafParamsL ss
  | [] => rfl
  | s :: ss => by simp only [leavesL, initL, leafParamsL, List.map_append, kept_init s, kept_initL ss]
end

/- every result has the `failfast` it was built with (an old-flavour result: the attribute assigned on it, if any) and
no adapter has one of its own -/
mutual
def Inv0 : (s : Shape) → St s → Prop
  | .sink _, st => st.failfast = false
  | .fsink _ b _, st => st.failfast = b
  | .tt ff, st => st.failfast = ff
  | .text ff, st => st.tt.failfast = ff
  | .tbt, st => st.tt.failfast = false
  | .etod c, (own, inner) => own.failfast = false ∧ Inv0 c inner
  | .deco c, st => Inv0 c st
  | .tagger _ _ c, st => Inv0 c st
  | .tfr c, (own, inner) => own.tt.failfast = false ∧ Inv0 c inner
  | .multi cs, (_, inner) => Inv0L cs inner
  | .e2s _, (own, _) => own.failfast = false
  | .sff, (own, _) => own.failfast = false
def Inv0L : (cs : List Shape) → StL cs → Prop
  | [], _ => True
  | c :: cs, (x, xs) => Inv0 c x ∧ Inv0L cs xs
end

mutual
theorem inv0_step : ∀ (s : Shape) (c : Call), noSF c = true → ∀ (st : St s), Inv0 s st → Inv0 s (step s st c)
  | .sink _ | .fsink _ _ _ | .tt _ | .text _ | .tbt | .e2s _ | .sff => fun c hc st h => (ff_frame _ c hc st).trans h
  | .etod ch => fun c hc (own, inner) h =>
      ⟨(etodStep_failfast_noSF _ own inner hc).trans h.1,
        noSF_closed.keeps (inv0_step ch) hc (etod_down ch own inner c) h.2⟩
  | .tfr ch => fun c hc (own, inner) h =>
      ⟨(ff_frame (.tfr ch) c hc (own, inner)).trans h.1,
        noSF_closed.keeps (inv0_step ch) hc (tfr_down ch own inner c) h.2⟩
  | .deco ch => fun c hc st h => noSF_closed.keeps (inv0_step ch) hc (deco_down ch st c) h
  | .tagger n g ch => fun c hc st h => noSF_closed.keeps (inv0_step ch) hc (tagger_down ch n g st c) h
  | .multi ss => fun c hc (own, inner) h =>
      multi_keeps (X := Inv0L ss) own inner c (fun _ => h) (inv0L_step ss (cutSL_all ss) c hc inner h)
theorem inv0L_step : ∀ (ss : List Shape), Shape.cutSL ss = true → ∀ (c : Call), noSF c = true →
    ∀ (st : StL ss), Inv0L ss st → Inv0L ss (stepL ss st c)
  | [] => fun _ _ _ _ _ => trivial
  | s :: ss => fun _ c hc (x, xs) h => ⟨inv0_step s c hc x h.1, inv0L_step ss (cutSL_all ss) c hc xs h.2⟩
end

theorem inv0_read : ∀ (s : Shape) (st : St s), Inv0 s st → failfastOf s st = ffRead s
  | .sink _, _, h | .fsink _ _ _, _, h | .tbt, _, h | .tt _, _, h | .text _, _, h | .e2s _, _, h | .sff, _, h => h
  | .etod c, (own, inner), h => by
      simp only [failfastOf, ffRead]
      split
      · rename_i hc; simp only [hc, Bool.true_and]; exact inv0_read c inner h.2
      · rename_i hc; simp [hc, h.1]
  | .deco c, st, h | .tagger _ _ c, st, h => inv0_read c st h
  | .tfr _, _, h => h.1
  | .multi [], _, _ => rfl
  | .multi (d :: _), (_, x, _), h => inv0_read d x h.1

mutual
theorem inv0_init : ∀ (s : Shape), Inv0 s (init s)
  | .sink _ | .fsink _ _ _ | .tbt | .tt _ | .text _ | .e2s _ | .sff => rfl
  | .etod c | .tfr c => ⟨rfl, inv0_init c⟩
  | .deco c | .tagger _ _ c => inv0_init c
  | .multi cs => inv0L_init cs (cutSL_all cs)
theorem inv0L_init : ∀ (ss : List Shape), Shape.cutSL ss = true → Inv0L ss (initL ss)
  | [], _ => trivial
  | s :: ss, _ => ⟨inv0_init s, inv0L_init ss (cutSL_all ss)⟩
end

/- every result has the `failfast` it was built with and, if it is set and a bad outcome was reported since the
last `startTestRun` (`b`), has stopped; no wrapper has a `failfast` of its own, so that whether an
`ExtendedToOriginalDecorator` fires fail-fast (`etodFailfast`) is decided by what it reads from its target, and a
`ThreadsafeForwardingResult`, which consults only its own (`tfrStops`), sends no `stop()` (`tfr_down_quiet`) -/
mutual
def Inv1 (b : Bool) : (s : Shape) → St s → Prop
  | .tt ff, st => st.failfast = ff ∧ (b = true → ff = true → st.shouldStop = true)
  | .text ff, st => st.tt.failfast = ff ∧ (b = true → ff = true → st.tt.shouldStop = true)
  | .sink _, _ => True
  | .fsink _ _ _, _ => True
  | .tbt, _ => True
  | .etod c, (own, inner) => own.failfast = false ∧ Inv1 b c inner
  | .deco c, st => Inv1 b c st
  | .tagger _ _ c, st => Inv1 b c st
  | .tfr c, (own, inner) => own.tt.failfast = false ∧ Inv1 b c inner
  | .multi cs, (_, inner) => Inv1L b cs inner
  | .e2s _, _ => True
  | .sff, _ => True
def Inv1L (b : Bool) : (cs : List Shape) → StL cs → Prop
  | [], _ => True
  | c :: cs, (x, xs) => Inv1 b c x ∧ Inv1L b cs xs
end

/-- `upd` is an `act` in the sense of `LeafAct` -/
theorem upd_neutral (c : Call) (hc : Lemmas.LeafAct.Call.key c = false) (b : Bool) : upd b c = b := by
  cases c <;> first | rfl | cases hc

theorem upd_degrade (caps : Caps) (k : Kind) (t : Nat) (x : Arg) (b : Bool) :
    upd b (Spec.C08.degradeCall caps (.add k t x)) = upd b (.add k t x) :=
  congrArg (b || ·) (bad_degrade caps k)

theorem tt_inv1 (ff : Bool) (st : TT) (c : Call) (hc : noSF c = true) (b : Bool)
    (h : st.failfast = ff ∧ (b = true → ff = true → st.shouldStop = true)) :
    (ttStep st c).failfast = ff ∧ (upd b c = true → ff = true → (ttStep st c).shouldStop = true) := by
  obtain ⟨rfl, h2⟩ := h
  refine ⟨(ttStep_failfast st c).trans (ffAfter_noSF hc _), fun hb hf => ?_⟩
  rw [ttStep_shouldStop]
  cases c <;> first | exact h2 hb hf | rfl | cases hb |
    (simp only [upd, ssAfter, Bool.or_eq_true, hf, Bool.true_and] at hb ⊢; exact hb.imp_left (h2 · hf))

theorem upd_steps {s : Shape} {X : Bool → St s → Prop}
    (ih : ∀ c, noSF c = true → ∀ st b, X b st → X (upd b c) (step s st c)) :
    ∀ (cs : List Call), (∀ x ∈ cs, noSF x = true) → ∀ (st : St s) (b : Bool), X b st →
      X (cs.foldl upd b) (cs.foldl (step s) st)
  | [], _, _, _, h => h
  | c :: cs, hc, st, b, h =>
      upd_steps ih cs (fun x hx => hc x (List.mem_cons_of_mem _ hx)) _ _ (ih c (hc c List.mem_cons_self) st b h)

/-- `em` is what an adapter passes on of `c`: no assignment among it, and the same bad outcomes and `startTestRun`s -/
def Sends (c : Call) (em : List Call) : Prop :=
  (∀ x ∈ em, noSF x = true) ∧ ∀ b, em.foldl upd b = upd b c

theorem Sends.keeps {c : Call} {em : List Call} (hem : Sends c em) {s : Shape} {X : Bool → St s → Prop}
    (ih : ∀ c, noSF c = true → ∀ st b, X b st → X (upd b c) (step s st c)) {st st' : St s}
    (he : st' = em.foldl (step s) st) {b : Bool} (hx : X b st) : X (upd b c) st' := by
  rw [he, ← hem.2 b]; exact upd_steps ih em hem.1 st b hx

theorem Sends.of_down {q : Bool} {c : Call} {em : List Call} (hc : noSF c = true) (hd : ∀ x ∈ em, Down q c x)
    (ha : ∀ b, em.foldl upd b = upd b c) : Sends c em :=
  ⟨fun x hx => noSF_closed c x hc (hd x hx), ha⟩

theorem sends_etod {caps : Caps} (hr : caps.startRun = true) {c : Call} (hc : noSF c = true) (k : Nat) :
    Sends c (etodMain caps c ++ List.replicate k Call.stop) :=
  .of_down hc (down_main_stops caps c k) fun b => by
    rw [List.foldl_append, Lemmas.LeafAct.act_main upd_neutral hr (upd_degrade caps),
      Lemmas.LeafAct.foldl_stops upd_neutral]

theorem sends_deco {c : Call} (hc : noSF c = true) : Sends c (Spec.C08.decoPass [c]) :=
  .of_down hc (down_decoPass c) (Lemmas.LeafAct.decoPass_act upd_neutral c)

theorem sends_tagger (n g : TagSet) {c : Call} (hc : noSF c = true) : Sends c (Spec.C08.taggerPass n g [c]) :=
  .of_down hc (down_taggerPass n g c) (Lemmas.LeafAct.taggerPass_act upd_neutral n g c)

theorem sends_tfr {own : TfrOwn} {c : Call} (hc : noSF c = true) : Sends c (tfrSent own c) :=
  .of_down hc (down_tfrSent own c) (Lemmas.LeafAct.tfrSent_act upd_neutral (fun _ _ => rfl) own c)

mutual
theorem inv1_step : ∀ (s : Shape), ownLeaves s = true → s.noStream = true → ∀ (c : Call), noSF c = true →
    ∀ (st : St s) (b : Bool), Inv1 b s st → Inv1 (upd b c) s (step s st c)
  | .sink _ | .fsink _ _ _ | .tbt => fun ho => Bool.noConfusion ho
  | .tt ff => fun _ _ c hc st b h => tt_inv1 ff st c hc b h
  | .text ff => fun _ _ c hc st b h => by
      show (textStep st c).tt.failfast = ff ∧ (_ → _ → (textStep st c).tt.shouldStop = true)
      rw [textStep_tt]; exact tt_inv1 ff st.tt c hc b h
  | .etod ch => fun ho hn c hc (own, inner) b h =>
      have ⟨k, hk⟩ := etodStep_emits ⟨caps ch, step ch, failfastOf ch⟩ own inner c
      ⟨(etodStep_failfast_noSF _ own inner hc).trans h.1,
        (sends_etod (caps_own ch ho).startRun hc k).keeps (inv1_step ch ho hn) hk h.2⟩
  | .deco ch => fun ho hn c hc st b h => (sends_deco hc).keeps (inv1_step ch ho hn) (step_deco ch st c) h
  | .tagger n g ch => fun ho hn c hc st b h => (sends_tagger n g hc).keeps (inv1_step ch ho hn) (step_tagger n g ch st c) h
  | .tfr ch => fun ho hn c hc (own, inner) b h =>
      ⟨(ff_frame (.tfr ch) c hc (own, inner)).trans h.1,
        (sends_tfr hc).keeps (inv1_step ch ho hn) (tfrStep_sent _ own inner c) h.2⟩
  | .multi ss => fun ho hn c hc (own, inner) b h =>
      multi_keeps (X := Inv1L (upd b c) ss) own inner c (fun hp => hp ▸ h) (inv1L_step ss ho hn c hc inner b h)
  | .e2s _ | .sff => fun _ hn => Bool.noConfusion hn
theorem inv1L_step : ∀ (ss : List Shape), ownLeavesL ss = true → Shape.noStreamL ss = true → ∀ (c : Call),
    noSF c = true → ∀ (st : StL ss) (b : Bool), Inv1L b ss st → Inv1L (upd b c) ss (stepL ss st c)
  | [] => fun _ _ _ _ _ _ _ => trivial
  | s :: ss => fun ho hn c hc (x, xs) b h =>
      have ho := Bool.and_eq_true_iff.mp ho
      have hn := Bool.and_eq_true_iff.mp hn
      ⟨inv1_step s ho.1 hn.1 c hc x b h.1, inv1L_step ss ho.2 hn.2 c hc xs b h.2⟩
end

mutual
theorem inv0_of_inv1 : ∀ (s : Shape), ownLeaves s = true → s.noStream = true → ∀ (st : St s) (b : Bool),
    Inv1 b s st → Inv0 s st
  | .sink _ | .fsink _ _ _ | .tbt => fun ho => Bool.noConfusion ho
  | .tt _ | .text _ => fun _ _ _ _ h => h.1
  | .etod c | .tfr c => fun ho hn (_, inner) b h => ⟨h.1, inv0_of_inv1 c ho hn inner b h.2⟩
  | .deco c | .tagger _ _ c => fun ho hn st b h => inv0_of_inv1 c ho hn st b h
  | .multi cs => fun ho hn (_, inner) b h => inv0L_of_inv1L cs ho hn inner b h
  | .e2s _ | .sff => fun _ hn => Bool.noConfusion hn
theorem inv0L_of_inv1L : ∀ (ss : List Shape), ownLeavesL ss = true → Shape.noStreamL ss = true → ∀ (st : StL ss) (b : Bool),
    Inv1L b ss st → Inv0L ss st
  | [] => fun _ _ _ _ _ => trivial
  | s :: ss => fun ho hn (x, xs) b h =>
      have ho := Bool.and_eq_true_iff.mp ho
      have hn := Bool.and_eq_true_iff.mp hn
      ⟨inv0_of_inv1 s ho.1 hn.1 x b h.1, inv0L_of_inv1L ss ho.2 hn.2 xs b h.2⟩
end

theorem inv1_read (s : Shape) (ho : ownLeaves s = true) (hn : s.noStream = true) (st : St s) (b : Bool)
    (h : Inv1 b s st) : failfastOf s st = ffRead s :=
  inv0_read s st (inv0_of_inv1 s ho hn st b h)

mutual
theorem inv1_init : ∀ (s : Shape), Inv1 false s (init s)
  | .sink _ | .fsink _ _ _ | .tbt | .e2s _ | .sff => trivial
  | .tt _ | .text _ => ⟨rfl, fun h => Bool.noConfusion h⟩
  | .etod c | .tfr c => ⟨rfl, inv1_init c⟩
  | .deco c | .tagger _ _ c => inv1_init c
  | .multi cs => inv1L_init cs
theorem inv1L_init : ∀ (ss : List Shape), Inv1L false ss (initL ss)
  | [] => trivial
  | s :: ss => ⟨inv1_init s, inv1L_init ss⟩
end

mutual
theorem inv1_kept : ∀ (s : Shape), ownLeaves s = true → s.noStream = true → ∀ (st : St s) (b : Bool),
    Inv1 b s st → (leaves s st).map LeafSt.failfast = leafParams s
  | .sink _ | .fsink _ _ _ | .tbt => fun ho => Bool.noConfusion ho
  | .tt _ | .text _ => fun _ _ _ _ h => congrArg (fun x => [x]) h.1
  | .etod c | .tfr c => fun ho hn (_, inner) b h => inv1_kept c ho hn inner b h.2
  | .deco c | .tagger _ _ c => fun ho hn st b h => inv1_kept c ho hn st b h
  | .multi cs => fun ho hn (_, inner) b h => inv1L_kept cs ho hn inner b h
  | .e2s _ | .sff => fun _ hn => Bool.noConfusion hn
theorem inv1L_kept : ∀ (ss : List Shape), ownLeavesL ss = true → Shape.noStreamL ss = true → ∀ (st : StL ss) (b : Bool),
    Inv1L b ss st → (leavesL ss st).map LeafSt.failfast = leafParamsL ss
  | [] => fun _ _ _ _ _ => rfl
  | s :: ss => fun ho hn (x, xs) b h => by
      have ho := Bool.and_eq_true_iff.mp ho
      have hn := Bool.and_eq_true_iff.mp hn
      simp only [leavesL, leafParamsL, List.map_append, inv1_kept s ho.1 hn.1 x b h.1, inv1L_kept ss ho.2 hn.2 xs b h.2]
end

/- a result built without fail-fast under no fail-fast `ExtendedToOriginalDecorator` has not stopped; `g` gathers the
decorators passed on the way down, as `Spec.C04.guards` does -/
mutual
def Inv2 (g : Bool) : (s : Shape) → St s → Prop
  | .tt ff, st => ff = false → g = false → st.shouldStop = false
  | .text ff, st => ff = false → g = false → st.tt.shouldStop = false
  | .sink _, _ => True
  | .fsink _ _ _, _ => True
  | .tbt, _ => True
  | .etod c, (_, inner) => Inv2 (g || ffRead (.etod c)) c inner
  | .deco c, st => Inv2 g c st
  | .tagger _ _ c, st => Inv2 g c st
  | .tfr c, (_, inner) => Inv2 g c inner
  | .multi cs, (_, inner) => Inv2L g cs inner
  | .e2s _, _ => True
  | .sff, _ => True
def Inv2L (g : Bool) : (cs : List Shape) → StL cs → Prop
  | [], _ => True
  | c :: cs, (x, xs) => Inv2 g c x ∧ Inv2L g cs xs
end

mutual
theorem inv2_true : ∀ (s : Shape) (st : St s), Inv2 true s st
  | .sink _, _ | .fsink _ _ _, _ | .tbt, _ | .e2s _, _ | .sff, _ => trivial
  | .tt _, _ | .text _, _ => fun _ h => Bool.noConfusion h
  | .etod c, (_, inner) => inv2_true c inner
  | .deco c, st | .tagger _ _ c, st => inv2_true c st
  | .tfr c, (_, inner) => inv2_true c inner
  | .multi cs, (_, inner) => inv2L_true cs inner
theorem inv2L_true : ∀ (ss : List Shape) (st : StL ss), Inv2L true ss st
  | [], _ => trivial
  | s :: ss, (x, xs) => ⟨inv2_true s x, inv2L_true ss xs⟩
end

def quietSF (c : Call) : Bool := noSF c && c != .stop

theorem quietSF_iff {c : Call} : quietSF c = true ↔ noSF c = true ∧ c ≠ .stop := by
  simp [quietSF]

theorem quietSF_down {c x : Call} (hc : quietSF c = true) (hd : Down false c x) : quietSF x = true :=
  have hc := quietSF_iff.mp hc
  quietSF_iff.mpr ⟨noSF_closed c x hc.1 hd, hd.ne_stop hc.2⟩

/- `quietSF` is closed under `Down false` only (`quietSF_down`), and `Inv1` has to come along the list (`inv1_step`): a list
induction of its own, not `Closed.keeps` -/
theorem inv2_steps_of {s : Shape} (ho : ownLeaves s = true) (hn : s.noStream = true)
    (ih : ∀ c, quietSF c = true → ∀ st b g, Inv1 b s st → Inv2 g s st → Inv2 g s (step s st c)) :
    ∀ (cs : List Call), (∀ x ∈ cs, quietSF x = true) → ∀ (st : St s) (b g : Bool), Inv1 b s st → Inv2 g s st →
      Inv2 g s (cs.foldl (step s) st)
  | [], _, _, _, _, _, h => h
  | c :: cs, hc, st, b, g, h1, h2 =>
      have hcc := hc c List.mem_cons_self
      inv2_steps_of ho hn ih cs (fun x hx => hc x (List.mem_cons_of_mem _ hx)) _ _ g
        (inv1_step s ho hn c (quietSF_iff.mp hcc).1 st b h1) (ih c hcc st b g h1 h2)

theorem inv2_down (s : Shape) (ho : ownLeaves s = true) (hn : s.noStream = true)
    (ih : ∀ c, quietSF c = true → ∀ st b g, Inv1 b s st → Inv2 g s st → Inv2 g s (step s st c)) {c : Call}
    (hc : quietSF c = true) {st st' : St s}
    (h : Passes false c (step s) st st') {b g : Bool} (h1 : Inv1 b s st)
    (h2 : Inv2 g s st) : Inv2 g s st' := by
  obtain ⟨em, rfl, hem⟩ := h
  exact inv2_steps_of ho hn ih em (fun x hx => quietSF_down hc (hem x hx)) st b g h1 h2

mutual
theorem inv2_step : ∀ (s : Shape), ownLeaves s = true → s.noStream = true → ∀ (c : Call), quietSF c = true →
    ∀ (st : St s) (b g : Bool), Inv1 b s st → Inv2 g s st → Inv2 g s (step s st c)
  | .sink _ | .fsink _ _ _ | .tbt => fun ho => Bool.noConfusion ho
  | .tt _ => fun _ _ c hc st _ _ h1 h2 h0 hg =>
      (ttStep_shouldStop st c).trans (ssAfter_clear (quietSF_iff.mp hc).2 (.inl (h1.1.trans h0)) (h2 h0 hg))
  | .text _ => fun _ _ c hc st _ _ h1 h2 h0 hg =>
      (textStep_shouldStop st c).trans (ssAfter_clear (quietSF_iff.mp hc).2 (.inl (h1.1.trans h0)) (h2 h0 hg))
  | .etod ch => fun ho hn c hc (own, inner) b g h1 h2 => by
      show Inv2 (g || ffRead (.etod ch)) ch (step (.etod ch) (own, inner) c).2
      cases hg : (g || ffRead (.etod ch))
      · have hq := quietSF_iff.mp hc
        have h2 : Inv2 (g || ffRead (.etod ch)) ch inner := h2
        rw [hg] at h2
        exact inv2_down ch ho hn (inv2_step ch ho hn) hc (etod_down_quiet ch own inner c hq.2
          fun _ => (inv1_read (.etod ch) ho hn (own, inner) b h1).trans (Bool.or_eq_false_iff.mp hg).2)
          h1.2 h2
      · exact inv2_true ch _
  | .deco ch => fun ho hn c hc st b g h1 h2 => inv2_down ch ho hn (inv2_step ch ho hn) hc (deco_down ch st c) h1 h2
  | .tagger n t ch => fun ho hn c hc st b g h1 h2 =>
      inv2_down ch ho hn (inv2_step ch ho hn) hc (tagger_down ch n t st c) h1 h2
  | .tfr ch => fun ho hn c hc (own, inner) b g h1 h2 =>
      inv2_down ch ho hn (inv2_step ch ho hn) hc (tfr_down_quiet ch own inner c (.inl h1.1)) h1.2 h2
  | .multi ss => fun ho hn c hc (own, inner) b g h1 h2 =>
      multi_keeps (X := Inv2L g ss) own inner c (fun _ => h2) (inv2L_step ss ho hn c hc inner b g h1 h2)
  | .e2s _ | .sff => fun _ hn => Bool.noConfusion hn
theorem inv2L_step : ∀ (ss : List Shape), ownLeavesL ss = true → Shape.noStreamL ss = true → ∀ (c : Call),
    quietSF c = true → ∀ (st : StL ss) (b g : Bool), Inv1L b ss st → Inv2L g ss st → Inv2L g ss (stepL ss st c)
  | [] => fun _ _ _ _ _ _ _ _ _ => trivial
  | s :: ss => fun ho hn c hc (x, xs) b g h1 h2 =>
      have ho := Bool.and_eq_true_iff.mp ho
      have hn := Bool.and_eq_true_iff.mp hn
      ⟨inv2_step s ho.1 hn.1 c hc x b g h1.1 h2.1, inv2L_step ss ho.2 hn.2 c hc xs b g h1.2 h2.2⟩
end

theorem inv2_steps : ∀ (s : Shape), ownLeaves s = true → s.noStream = true → ∀ (cs : List Call),
    (∀ x ∈ cs, quietSF x = true) → ∀ (st : St s) (b g : Bool), Inv1 b s st → Inv2 g s st →
    Inv2 g s (cs.foldl (step s) st) :=
  fun s ho hn => inv2_steps_of ho hn (inv2_step s ho hn)

mutual
theorem inv2_init : ∀ (s : Shape) (g : Bool), Inv2 g s (init s)
  | .sink _, _ | .fsink _ _ _, _ | .tbt, _ | .e2s _, _ | .sff, _ => trivial
  | .tt _, _ | .text _, _ => fun _ _ => rfl
  | .etod c, _ => inv2_init c _
  | .deco c, g | .tagger _ _ c, g | .tfr c, g => inv2_init c g
  | .multi cs, g => inv2L_init cs g
theorem inv2L_init : ∀ (ss : List Shape) (g : Bool), Inv2L g ss (initL ss)
  | [], _ => trivial
  | s :: ss, g => ⟨inv2_init s g, inv2L_init ss g⟩
end

mutual
theorem stopped_step : ∀ (s : Shape), ownLeaves s = true → s.noStream = true → ∀ (c : Call), c ≠ Call.startTestRun →
    ∀ (st : St s), Stopped s st → Stopped s (step s st c)
  | .sink _ | .fsink _ _ _ | .tbt => fun ho => Bool.noConfusion ho
  | .tt _ => fun _ _ c hc st h l hl => by
      rw [List.mem_singleton.mp hl]
      exact (ttStep_shouldStop st c).trans (ssAfter_mono hc _ (h (.tt st) (List.mem_singleton.mpr rfl)))
  | .text _ => fun _ _ c hc st h l hl => by
      rw [List.mem_singleton.mp hl]
      exact (textStep_shouldStop st c).trans (ssAfter_mono hc _ (h (.text st) (List.mem_singleton.mpr rfl)))
  | .etod ch => fun ho hn c hc (own, inner) h =>
      noRun_closed.keeps (stopped_step ch ho hn) hc (etod_down ch own inner c) h
  | .tfr ch => fun ho hn c hc (own, inner) h =>
      noRun_closed.keeps (stopped_step ch ho hn) hc (tfr_down ch own inner c) h
  | .deco ch => fun ho hn c hc st h =>
      noRun_closed.keeps (stopped_step ch ho hn) hc (deco_down ch st c) h
  | .tagger n g ch => fun ho hn c hc st h =>
      noRun_closed.keeps (stopped_step ch ho hn) hc (tagger_down ch n g st c) h
  | .multi ss => fun ho hn c hc (own, inner) h =>
      multi_keeps (X := StoppedL ss) own inner c (fun _ => h) (stoppedL_mono ss ho hn c hc inner h)
  | .e2s _ | .sff => fun _ hn => Bool.noConfusion hn
theorem stoppedL_mono : ∀ (ss : List Shape), ownLeavesL ss = true → Shape.noStreamL ss = true → ∀ (c : Call),
    c ≠ Call.startTestRun → ∀ (st : StL ss), StoppedL ss st → StoppedL ss (stepL ss st c)
  | [] => fun _ _ _ _ _ _ _ hl => nomatch hl
  | s :: ss => fun ho hn c hc (x, xs) h => by
      have ho := Bool.and_eq_true_iff.mp ho
      have hn := Bool.and_eq_true_iff.mp hn
      have h := stopped_cons h
      exact fun l hl => (List.mem_append.mp hl).elim (stopped_step s ho.1 hn.1 c hc x h.1 l)
        (stoppedL_mono ss ho.2 hn.2 c hc xs h.2 l)
end

/- below every `ExtendedToOriginalDecorator` whose `failfast` reads true, every result has stopped if a bad outcome was
reported since the last `startTestRun` (`b`) -/
mutual
def Inv3 (b : Bool) : (s : Shape) → St s → Prop
  | .tt _, _ => True
  | .text _, _ => True
  | .sink _, _ => True
  | .fsink _ _ _, _ => True
  | .tbt, _ => True
  | .etod c, (_, inner) => (b = true → ffRead (.etod c) = true → Stopped c inner) ∧ Inv3 b c inner
  | .deco c, st => Inv3 b c st
  | .tagger _ _ c, st => Inv3 b c st
  | .tfr c, (_, inner) => Inv3 b c inner
  | .multi cs, (_, inner) => Inv3L b cs inner
  | .e2s _, _ => True
  | .sff, _ => True
def Inv3L (b : Bool) : (cs : List Shape) → StL cs → Prop
  | [], _ => True
  | c :: cs, (x, xs) => Inv3 b c x ∧ Inv3L b cs xs
end

theorem upd_true_cases (b : Bool) (c : Call) (h : upd b c = true) :
    (b = true ∧ c ≠ .startTestRun) ∨ (b = false ∧ ∃ k t a, c = .add k t a ∧ Kind.bad k = true) := by
  cases c with
  | startTestRun => cases h
  | add k t a =>
    cases b
    · exact .inr ⟨rfl, k, t, a, rfl, h⟩
    · exact .inl ⟨rfl, nofun⟩
  | _ => exact .inl ⟨h, nofun⟩

theorem Sends.keeps_inv3 {c : Call} {em : List Call} (hem : Sends c em) (s : Shape) (ho : ownLeaves s = true)
    (hn : s.noStream = true)
    (ih : ∀ c, noSF c = true → ∀ st b, Inv1 b s st → Inv3 b s st → Inv3 (upd b c) s (step s st c)) {st st' : St s}
    (he : st' = em.foldl (step s) st) {b : Bool} (h1 : Inv1 b s st) (h3 : Inv3 b s st) : Inv3 (upd b c) s st' :=
  (hem.keeps (X := fun b st => Inv1 b s st ∧ Inv3 b s st)
    (fun c hc st b h => ⟨inv1_step s ho hn c hc st b h.1, ih c hc st b h.1 h.2⟩) he ⟨h1, h3⟩).2

mutual
theorem inv3_step : ∀ (s : Shape), ownLeaves s = true → s.noStream = true → ∀ (c : Call), noSF c = true →
    ∀ (st : St s) (b : Bool), Inv1 b s st → Inv3 b s st → Inv3 (upd b c) s (step s st c)
  | .sink _ | .fsink _ _ _ | .tbt => fun ho => Bool.noConfusion ho
  | .tt _ | .text _ => fun _ _ _ _ _ _ _ _ => trivial
  | .etod ch => fun ho hn c hc (own, inner) b h1 h => by
      obtain ⟨k, hk⟩ := etodStep_emits ⟨caps ch, step ch, failfastOf ch⟩ own inner c
      refine ⟨fun hb hff => ?_, (sends_etod (caps_own ch ho).startRun hc k).keeps_inv3 ch ho hn (inv3_step ch ho hn) hk h1.2 h.2⟩
      show Stopped ch (step (.etod ch) (own, inner) c).2
      rcases upd_true_cases b c hb with ⟨hb0, hrun⟩ | ⟨_, k', t, a, rfl, hbad⟩
      · exact noRun_closed.keeps (stopped_step ch ho hn) hrun (etod_down ch own inner c) (h.1 hb0 hff)
      · exact etod_fires ch (X := fun p => Stopped ch p.2)
          (fun own inner => by simp only [etodStop, (caps_own ch ho).stop, ite_true]; exact stop_leaves ch ho hn _)
          own inner t a hbad ((inv1_read (.etod ch) ho hn (own, inner) b h1).trans hff)
  | .deco ch => fun ho hn c hc st b h1 h =>
      (sends_deco hc).keeps_inv3 ch ho hn (inv3_step ch ho hn) (step_deco ch st c) h1 h
  | .tagger n g ch => fun ho hn c hc st b h1 h =>
      (sends_tagger n g hc).keeps_inv3 ch ho hn (inv3_step ch ho hn) (step_tagger n g ch st c) h1 h
  | .tfr ch => fun ho hn c hc (own, inner) b h1 h =>
      (sends_tfr hc).keeps_inv3 ch ho hn (inv3_step ch ho hn) (tfrStep_sent _ own inner c) h1.2 h
  | .multi ss => fun ho hn c hc (own, inner) b h1 h =>
      multi_keeps (X := Inv3L (upd b c) ss) own inner c (fun hp => hp ▸ h) (inv3L_step ss ho hn c hc inner b h1 h)
  | .e2s _ | .sff => fun _ hn => Bool.noConfusion hn
theorem inv3L_step : ∀ (ss : List Shape), ownLeavesL ss = true → Shape.noStreamL ss = true → ∀ (c : Call),
    noSF c = true → ∀ (st : StL ss) (b : Bool), Inv1L b ss st → Inv3L b ss st → Inv3L (upd b c) ss (stepL ss st c)
  | [] => fun _ _ _ _ _ _ _ _ => trivial
  | s :: ss => fun ho hn c hc (x, xs) b h1 h =>
      have ho := Bool.and_eq_true_iff.mp ho
      have hn := Bool.and_eq_true_iff.mp hn
      ⟨inv3_step s ho.1 hn.1 c hc x b h1.1 h.1, inv3L_step ss ho.2 hn.2 c hc xs b h1.2 h.2⟩
end

mutual
theorem inv3_init : ∀ (s : Shape), Inv3 false s (init s)
  | .sink _ | .fsink _ _ _ | .tbt | .tt _ | .text _ | .e2s _ | .sff => trivial
  | .etod c => ⟨fun h _ => Bool.noConfusion h, inv3_init c⟩
  | .deco c | .tagger _ _ c | .tfr c => inv3_init c
  | .multi cs => inv3L_init cs
theorem inv3L_init : ∀ (ss : List Shape), Inv3L false ss (initL ss)
  | [] => trivial
  | s :: ss => ⟨inv3_init s, inv3L_init ss⟩
end

theorem zipAll3_append (p : Bool → Bool → Bool → Bool) : ∀ (a1 b1 c1 a2 b2 c2 : List Bool),
    zipAll3 p a1 b1 c1 = true → zipAll3 p a2 b2 c2 = true → zipAll3 p (a1 ++ a2) (b1 ++ b2) (c1 ++ c2) = true
  | [], [], [], _, _, _, _, h => h
  | x :: a, y :: b, z :: c, _, _, _, h1, h2 => by
      simp only [zipAll3, Bool.and_eq_true, List.cons_append] at h1 ⊢
      exact ⟨h1.1, zipAll3_append p a b c _ _ _ h1.2 h2⟩
  | [], [], _ :: _, _, _, _, h, _ | [], _ :: _, _, _, _, _, h, _ | _ :: _, [], _, _, _, _, h, _
  | _ :: _, _ :: _, [], _, _, _, h, _ => Bool.noConfusion h

theorem leafRule_of {b ss ff g : Bool} (h1 : b = true → ff = true → ss = true) (h2 : ff = false → g = false → ss = false)
    (hg : b = true → g = true → ss = true) : leafRule b ss ff g = true := by
  revert b ss ff g
  decide

/- the fourth hypothesis is what `g` stands for on the way down: under a guard that reads true (an
`ExtendedToOriginalDecorator` passed above: its `Inv3` is added at `.etod`) everything has stopped once `b` -/
mutual
theorem inv_rule : ∀ (s : Shape), ownLeaves s = true → s.noStream = true → ∀ (st : St s) (b g : Bool),
    Inv1 b s st → Inv2 g s st → Inv3 b s st → (b = true → g = true → Stopped s st) →
    zipAll3 (leafRule b) ((leaves s st).map LeafSt.shouldStop) (leafParams s) (guards g s) = true
  | .sink _ | .fsink _ _ _ | .tbt => fun ho => Bool.noConfusion ho
  | .tt _ => fun _ _ st _ _ h1 h2 _ hg =>
      Bool.and_eq_true_iff.mpr
        ⟨leafRule_of h1.2 h2 fun hb hgg => hg hb hgg (.tt st) (List.mem_singleton.mpr rfl), rfl⟩
  | .text _ => fun _ _ st _ _ h1 h2 _ hg =>
      Bool.and_eq_true_iff.mpr
        ⟨leafRule_of h1.2 h2 fun hb hgg => hg hb hgg (.text st) (List.mem_singleton.mpr rfl), rfl⟩
  | .etod c => fun ho hn (_, inner) b _ h1 h2 h3 hg =>
      inv_rule c ho hn inner b _ h1.2 h2 h3.2 (fun hb hgg => (Bool.or_eq_true_iff.mp hgg).elim (hg hb) (h3.1 hb))
  | .deco c | .tagger _ _ c => fun ho hn st b g h1 h2 h3 hg =>
      inv_rule c ho hn st b g h1 h2 h3 hg
  | .tfr c => fun ho hn (_, inner) b g h1 h2 h3 hg => inv_rule c ho hn inner b g h1.2 h2 h3 hg
  | .multi cs => fun ho hn (_, inner) b g h1 h2 h3 hg => invL_rule cs ho hn inner b g h1 h2 h3 hg
  | .e2s _ | .sff => fun _ hn => Bool.noConfusion hn
theorem invL_rule : ∀ (ss : List Shape), ownLeavesL ss = true → Shape.noStreamL ss = true → ∀ (st : StL ss) (b g : Bool),
    Inv1L b ss st → Inv2L g ss st → Inv3L b ss st → (b = true → g = true → StoppedL ss st) →
    zipAll3 (leafRule b) ((leavesL ss st).map LeafSt.shouldStop) (leafParamsL ss) (guardsL g ss) = true
  | [] => fun _ _ _ _ _ _ _ _ _ => rfl
  | s :: ss => fun ho hn (x, xs) b g h1 h2 h3 hg => by
      have ho := Bool.and_eq_true_iff.mp ho
      have hn := Bool.and_eq_true_iff.mp hn
      simp only [leavesL, leafParamsL, guardsL, List.map_append]
      exact zipAll3_append _ _ _ _ _ _ _
        (inv_rule s ho.1 hn.1 x b g h1.1 h2.1 h3.1 (fun hb hgg => (stopped_cons (hg hb hgg)).1))
        (invL_rule ss ho.2 hn.2 xs b g h1.2 h2.2 h3.2 (fun hb hgg => (stopped_cons (hg hb hgg)).2))
end

end TTV.Props.C04
