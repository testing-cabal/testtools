import TTV.Lemmas.RunDetailsWalk
/-! Every detail handed over by a mismatch or a fixture of an executed stage has been stored (ghost list `U`),
with the bytes due: fixture details are gathered right before the fixture's cleanUp stage runs. -/
namespace TTV.Run
open TTV.Spec.Run TTV.Spec.C05

/-- Where the details `ds` of a fixture used by an executed stage are: still to be gathered (the `gather` entry waits on the stack,
right above the fixture's cleanUp); gathered a moment ago, the cleanUp next to run; or gathered right before the cleanUp
ran, as stage number `t`.  The second state occurs only while cleanups run (`s.ran ≠ []`): a stage of the main phase, which
would push on top of the waiting cleanUp, never meets it. -/
def FixState (s : RS) (U : List (DName × Content)) (f : Nat) (ds : List (DName × UC)) (cu : Stage) : Prop :=
  (∃ pre post, s.stack = pre ++ Cl.gather f ds :: Cl.stage cu :: post) ∨
  (∃ post, s.stack = Cl.stage cu :: post ∧ s.ran ≠ [] ∧ ∀ x ∈ gatherU s.execd.length ds, x ∈ U) ∨
  (∃ t, s.execd[t]? = some cu ∧ ∀ x ∈ gatherU t ds, x ∈ U)

structure Cov (s : RS) (U : List (DName × Content)) : Prop where
  acts : ∀ st ∈ s.execd, ∀ x ∈ uqActs st.acts, x ∈ U
  term : ∀ i st, s.execd[i]? = some st → ∀ x ∈ uqTerm (i + 1) st.term, x ∈ U
  fix  : ∀ st ∈ s.execd, ∀ f ds cu, Act.useFixture f ds cu ∈ st.acts → FixState s U f ds cu

theorem Cov.init {p : Program} {ff0 : Bool} : Cov (initRS p ff0) [] :=
  ⟨nofun, nofun, nofun⟩

theorem Cov.frame {s s' : RS} {U : List (DName × Content)} (h : Cov s U) (he : s'.execd = s.execd)
    (hs : s'.stack = s.stack) (hr : s.ran ≠ [] → s'.ran ≠ []) : Cov s' U := by
  refine ⟨by rw [he]; exact h.acts, by rw [he]; exact h.term, fun x hx f ds cu hm => ?_⟩
  unfold FixState
  rw [he, hs]
  exact (h.fix x (he ▸ hx) f ds cu hm).imp_right (Or.imp_left fun ⟨post, hp, hr', hg⟩ => ⟨post, hp, hr hr', hg⟩)

/-- `Cov` over a stage, from the three fields of `Cov` before it — with the middle state of `FixState` in the form it has in a
state whose stack the stage `st` has just left (`cu = st`): that is how `Cov.stepCl` meets it; `Cov.step`, of the main phase,
where nothing has been popped yet, never does -/
theorem Cov.stageStep {s0 : RS} {U : List (DName × Content)} (st : Stage) (d : Bool)
    (hacts : ∀ x ∈ s0.execd, ∀ y ∈ uqActs x.acts, y ∈ U)
    (hterm : ∀ i x, s0.execd[i]? = some x → ∀ y ∈ uqTerm (i + 1) x.term, y ∈ U)
    (hfix : ∀ x ∈ s0.execd, ∀ f ds cu, Act.useFixture f ds cu ∈ x.acts →
      (∃ pre post, s0.stack = pre ++ Cl.gather f ds :: Cl.stage cu :: post) ∨
      (cu = st ∧ ∀ y ∈ gatherU s0.execd.length ds, y ∈ U) ∨
      (∃ t, s0.execd[t]? = some cu ∧ ∀ y ∈ gatherU t ds, y ∈ U))
    (hclock : s0.clock = s0.execd.length) :
    Cov (runStage st d s0).1 (U ++ stageUq s0.clock st) := by
  have e := runStage_effect st d s0
  have hstack := runStage_stack_pushes st d s0
  have hsub : ∀ y ∈ U, y ∈ U ++ stageUq s0.clock st := fun y hy => List.mem_append_left _ hy
  constructor
  · intro x hx y hy
    rw [e.execd] at hx
    simp only [List.mem_append, List.mem_singleton] at hx
    rcases hx with hx | rfl
    · exact hsub y (hacts x hx y hy)
    · exact List.mem_append_right _ (List.mem_append_left _ hy)
  · intro i x hi y hy
    rw [e.execd] at hi
    rcases Nat.lt_trichotomy i s0.execd.length with hlt | rfl | hgt
    · rw [List.getElem?_append_left hlt] at hi
      exact hsub y (hterm i x hi y hy)
    · rw [List.getElem?_concat_length] at hi
      cases hi
      rw [hclock]
      exact List.mem_append_right _ (List.mem_append_right _ hy)
    · rw [List.getElem?_eq_none (by simp; omega)] at hi
      cases hi
  · intro x hx f ds cu hm
    rw [e.execd] at hx
    simp only [List.mem_append, List.mem_singleton] at hx
    rcases hx with hx | rfl
    · rcases hfix x hx f ds cu hm with ⟨pre, post, hp⟩ | ⟨rfl, hg⟩ | ⟨t, ht, hg⟩
      · exact Or.inl ⟨pushes st.acts s0.attrs ++ pre, post, by rw [hstack, hp]; simp⟩
      · refine Or.inr (Or.inr ⟨s0.execd.length, ?_, fun y hy => hsub y (hg y hy)⟩)
        rw [e.execd]; simp
      · refine Or.inr (Or.inr ⟨t, ?_, fun y hy => hsub y (hg y hy)⟩)
        rw [e.execd, List.getElem?_append_left (List.getElem?_eq_some_iff.mp ht).1]; exact ht
    · exact Or.inl (hstack ▸ mid_append s0.stack (pushes_fixture _ _ hm))

theorem Cov.step {s : RS} {U : List (DName × Content)} (h : Cov s U) (st : Stage) (d : Bool) (hran : s.ran = [])
    (hclock : s.clock = s.execd.length) :
    Cov (runStage st d s).1 (U ++ stageUq s.clock st) := by
  apply Cov.stageStep st d h.acts h.term ?_ hclock
  intro x hx f ds cu hm
  rcases h.fix x hx f ds cu hm with hp | ⟨post, _, hr, _⟩ | hd
  · exact Or.inl hp
  · exact absurd hran hr
  · exact Or.inr (Or.inr hd)

theorem Cov.stepCl {s : RS} {U : List (DName × Content)} (h : Cov s U) (c : Cl) (rest : List Cl) (hs : s.stack = c :: rest)
    (hclock : s.clock = s.execd.length) : Cov (runCl c { s with stack := rest }) (U ++ clUq s.clock c) := by
  cases c with
  | stage st =>
    have hc : Cov (runStage st false { s with stack := rest }).1 (U ++ stageUq s.clock st) := by
      apply Cov.stageStep (s0 := { s with stack := rest }) st false h.acts h.term ?_ hclock
      intro x hx f ds cu hm
      rcases h.fix x hx f ds cu hm with ⟨pre, post, hp⟩ | ⟨post, hp, _, hg⟩ | hd
      · rcases List.cons_eq_append_iff.mp (hs.symm.trans hp) with ⟨-, hc⟩ | ⟨pre', -, hp'⟩
        · cases hc
        · exact Or.inl ⟨pre', post, hp'⟩
      · cases hs.symm.trans hp
        exact Or.inr (Or.inl ⟨rfl, hg⟩)
      · exact Or.inr (Or.inr hd)
    simp only [runCl, clUq]
    exact hc.frame rfl rfl fun _ => by simp
  | gather f0 ds0 =>
    have hsub : ∀ y ∈ U, y ∈ U ++ clUq s.clock (.gather f0 ds0) := fun y hy => List.mem_append_left _ hy
    simp only [runCl]
    refine ⟨fun x hx y hy => hsub y (h.acts x hx y hy), fun i x hi y hy => hsub y (h.term i x hi y hy), ?_⟩
    intro x hx f ds cu hm
    rcases h.fix x hx f ds cu hm with ⟨pre, post, hp⟩ | ⟨post, hp, _, _⟩ | ⟨t, ht, hg⟩
    · rcases List.cons_eq_append_iff.mp (hs.symm.trans hp) with ⟨-, hc⟩ | ⟨pre', -, hp'⟩
      · cases hc
        exact Or.inr (Or.inl ⟨post, rfl, by simp, fun y hy => List.mem_append_right _ (hclock ▸ hy)⟩)
      · exact Or.inl ⟨pre', post, hp'⟩
    · cases hs.symm.trans hp
    · exact Or.inr (Or.inr ⟨t, ht, fun y hy => hsub y (hg y hy)⟩)
  | unpatch a o =>
    simp only [runCl, clUq, List.append_nil]
    refine ⟨h.acts, h.term, ?_⟩
    intro x hx f ds cu hm
    rcases h.fix x hx f ds cu hm with ⟨pre, post, hp⟩ | ⟨post, hp, _, _⟩ | hd
    · rcases List.cons_eq_append_iff.mp (hs.symm.trans hp) with ⟨-, hc⟩ | ⟨pre', -, hp'⟩
      · cases hc
      · exact Or.inl ⟨pre', post, hp'⟩
    · cases hs.symm.trans hp
    · exact Or.inr (Or.inr hd)

theorem Cov.forced {s : RS} {U : List (DName × Content)} (h : Cov s U) : Cov (got s forcedFailure) U :=
  h.frame (got_execd _ _) (got_stack _ _) (by rw [got_ran]; exact id)

end TTV.Run
