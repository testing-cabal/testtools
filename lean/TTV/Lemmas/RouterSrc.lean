import TTV.Model.RouterSrc
/-! `statusInterp`, `ctlInterp`, `aInterp`, `iInterp` of Model/RouterSrc interpret what the harness reads out of
`StreamResultRouter.status`, `startTestRun` / `stopTestRun`, `add_rule` with its policy methods, and `__init__`.  Here: on the
reference terms `ref…` (defined next to the interpreters, and what the generated terms are compared with in Props/C18) they
compute `route`, `step`, `regStep` and `init` of the hand-written router model of Model/StreamRouter.  `event_eta` serves the
push/pop inverse of Props/C18. -/
namespace TTV.RouterSrc
open TTV.Stream TTV.Stream.Router

theorem event_eta (e : Event) (r : Option Str) (h : e.route = r) : { e with route := r } = e := by
  subst h; rfl

attribute [local simp] statusInterp refStatusTarget refStatusRoute refPrefix eval route valRoute in
theorem statusInterp_ref (s : State) (e : Event) : statusInterp s e refStatusTarget refStatusRoute = route s e := by
  obtain ⟨tid, st, tg, rn, fn, fb, eof, mi, rt, ts⟩ := e
  cases rt with
  | none => cases hf : s.fallback <;> cases hi : dictGet s.ids tid <;> cases tid <;> simp [hf, hi]
  | some rc =>
    cases hp : dictGet s.prefixes (firstSeg rc) with
    | some p =>
      obtain ⟨sink, consume⟩ := p
      cases consume with
      | false => simp [hp]
      | true =>
        cases hd : rc.drop ((firstSeg rc).length + 1) with
        | nil => simp [hp, stripSeg, hd]
        | cons c cs => simp [hp, stripSeg, hd]
    | none => cases hf : s.fallback <;> cases hi : dictGet s.ids tid <;> cases tid <;> simp [hp, hf, hi]

theorem ctlInterp_ref (s : State) (st : Bool) :
    step s (if st then .start else .stop) =
      ((ctlInterp s (if st then refStart else refStop)).1, (ctlInterp s (if st then refStart else refStop)).2.1,
       resOf (ctlInterp s (if st then refStart else refStop)).2.2) := by
  cases st
  all_goals
    simp only [step, refStart, refStop, ctlInterp, if_true, Bool.false_eq_true, if_false]
    split <;> simp [resOf, *]

/-- the three `add_rule` operations -/
def isAdd : Op → Bool
  | .addPrefix _ _ _ _ => true | .addId _ _ _ => true | .addBad _ _ => true | _ => false

/-- the registration part of `add_rule`, reached once the policy method has returned -/
theorem aInterp_register (tbl : List (String × List PStmt)) (o : Op) (a : ASt) (he : a.err = none) :
    aInterp tbl o (.ifFlag (.ifNotRegistered (.appendSink (.ifInRun (.startSink .done) .done)) .done) .done) a =
      if flagOf o && !a.s.sinks.contains (sinkOf o) then
        { a with s := { a.s with sinks := a.s.sinks ++ [sinkOf o] }, started := if a.s.inRun then some (sinkOf o) else a.started }
      else a := by
  cases hf : flagOf o <;> cases hr : a.s.inRun <;> by_cases hc : sinkOf o ∈ a.s.sinks <;> simp [aInterp, hf, hr, hc, he]

theorem aInterp_ref (s : State) (o : Op) (h : isAdd o = true) :
    regStep s o = ((aInterp refPolicies o refAddRule { s := s }).s, (aInterp refPolicies o refAddRule { s := s }).started,
      resOf (aInterp refPolicies o refAddRule { s := s }).err) := by
  cases o with
  | addPrefix k p c f =>
    have hl : lookup refPolicies "route_code_prefix" = some [.raiseIfSlash, .setPrefix] := by decide
    -- `↓`: the registration tail is rewritten as a whole, before `aInterp` takes it apart statement by statement
    cases hp : p.contains '/' <;>
      simp only [regStep, refAddRule, ↓aInterp_register, aInterp, policyName, hl, pInterp, hp, Bool.false_eq_true, if_false, if_true,
        flagOf, sinkOf, resOf]
    cases f && !s.sinks.contains k <;> rfl
  | addId k t f =>
    have hl : lookup refPolicies "test_id" = some [.setId] := by decide
    simp only [regStep, refAddRule, ↓aInterp_register, aInterp, policyName, hl, pInterp, flagOf, sinkOf]
    cases f && !s.sinks.contains k <;> rfl
  | addBad k f => rfl
  | _ => cases h

theorem iInterp_ref (hb ff : Bool) : iInterp hb ff refInit (none, none, none, none, none) = some (init hb ff) := by
  cases hb <;> cases ff <;> rfl

end TTV.RouterSrc
