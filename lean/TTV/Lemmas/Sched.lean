/-! A scheduler over any state type: `step s t` is what thread `t` does in state `s`, `en s t` says
whether it can, `width s` is the number of threads.  A schedule keeps what every step keeps, and a schedule followed by a loop that keeps picking the
lowest enabled thread ends in a finished state provided some measure pays for every enabled step and an unfinished state is never
stuck; the measures in use are sums over the threads (`sum_map_set`).  Used for the forwarder machine (`Conc.stepThread`) and the concurrent-suite machine (`Conc.stepC`). -/
namespace TTV.Sched

variable {σ : Type} {step : σ → Nat → σ}

theorem run_keeps {P : σ → Prop} (keep : ∀ s t, P s → P (step s t)) (sched : List Nat) {s : σ} (h : P s) :
    P (sched.foldl step s) :=
  List.foldlRecOn sched step h fun s hs t _ => keep s t hs

theorem run_le {P : σ → Prop} {μ : σ → Nat} {en : σ → Nat → Bool} (keep : ∀ s t, P s → P (step s t))
    (dec : ∀ s t, P s → en s t = true → μ (step s t) < μ s) (idle : ∀ s t, en s t = false → step s t = s)
    (sched : List Nat) {s : σ} (h : P s) : μ (sched.foldl step s) ≤ μ s :=
  have le : ∀ s t, P s → μ (step s t) ≤ μ s := fun s t h => by
    cases he : en s t with
    | true => exact Nat.le_of_lt (dec s t h he)
    | false => rw [idle s t he]; exact Nat.le_refl _
  (run_keeps (P := fun s' => P s' ∧ μ s' ≤ μ s) (fun s' t h' => ⟨keep s' t h'.1, Nat.le_trans (le s' t h'.1) h'.2⟩) sched
    ⟨h, Nat.le_refl _⟩).2

theorem sum_map_set {α} (f : α → Nat) (b : α) : ∀ {l : List α} {i : Nat} {a : α}, l[i]? = some a →
    ((l.set i b).map f).sum + f a = (l.map f).sum + f b
  | [], _, _, h => by simp at h
  | x :: l, 0, a, h => by
      cases Option.some.inj h
      simp only [List.set_cons_zero, List.map_cons, List.sum_cons]; omega
  | x :: l, i + 1, a, h => by
      have := sum_map_set f b (l := l) (i := i) (a := a) (by simpa using h)
      simp only [List.set_cons_succ, List.map_cons, List.sum_cons]; omega

variable {en : σ → Nat → Bool} {width : σ → Nat} {d : Nat → σ → σ}

/-- `d` is the loop "while some thread below `width` is enabled and fuel is left, the lowest such thread steps" (`d0`, `dS`: its two
equations).  A run of either machine is the given schedule followed by that loop, with fuel for the measure of the start state. -/
theorem run_drain_ends (d0 : ∀ s, d 0 s = s)
    (dS : ∀ f s, d (f + 1) s = match (List.range (width s)).find? (en s) with
      | none => s
      | some t => d f (step s t))
    {P : σ → Prop} {μ : σ → Nat} {fin : σ → Bool} (keep : ∀ s t, P s → P (step s t))
    (dec : ∀ s t, P s → en s t = true → μ (step s t) < μ s) (idle : ∀ s t, en s t = false → step s t = s)
    (live : ∀ s, P s → fin s = false → ∃ t, t < width s ∧ en s t = true) (sched : List Nat) {fuel : Nat} {s : σ}
    (h : P s) (hμ : μ s ≤ fuel) : P (d fuel (sched.foldl step s)) ∧ fin (d fuel (sched.foldl step s)) = true := by
  have stuck : ∀ s, P s → (∀ t, t < width s → en s t = false) → fin s = true := fun s h hno =>
    Decidable.by_contra fun hf => by
      obtain ⟨t, ht, he⟩ := live s h (by simpa using hf)
      rw [hno t ht] at he; cases he
  have hP := run_keeps keep sched h
  have hle := Nat.le_trans (run_le keep dec idle sched h) hμ
  clear h hμ
  generalize sched.foldl step s = s' at hP hle ⊢
  induction fuel generalizing s' with
  | zero =>
    rw [d0]
    refine ⟨hP, stuck s' hP fun t _ => ?_⟩
    cases he : en s' t with
    | false => rfl
    | true => have := dec s' t hP he; omega
  | succ f ih =>
    rw [dS]
    cases hfe : (List.range (width s')).find? (en s') with
    | none =>
      refine ⟨hP, stuck s' hP fun t ht => ?_⟩
      simpa using List.find?_eq_none.mp hfe t (List.mem_range.mpr ht)
    | some t =>
      have := dec s' t hP (List.find?_some hfe)
      exact ih _ (keep s' t hP) (by omega)

end TTV.Sched
