import TTV.Model.ConvertSrc
/-! `vInterp` of Model/ConvertSrc interprets the statement skeleton the harness reads out of
`ExtendedToStreamDecorator._convert` (with `detailsInterp` / `kInterp` / `chunksInterp` for the loops over details and chunks).
Here: on the reference skeleton `refConvert` (defined next to the interpreters, and what the generated skeleton is compared with
in Props/C09) it computes the hand-written converter `Convert.convert` of Model/StreamConvert.  (`xInterp`, `iInterp`, `tInterp` need no lemma: on
their reference terms they compute by `rfl`, in Props/C09.) -/
namespace TTV.ConvertSrc
open TTV.Stream TTV.Stream.Convert

theorem chunksInterp_ref (mk : Bytes → Bool → Event) : ∀ (cs : List Bytes) (p : Option Bytes),
    ∃ (evs : List Event) (q : Option Bytes), chunksInterp mk [.ifPendingEmit, .setPending] cs p = some (evs, q)
      ∧ evs ++ [mk (q.getD []) true] = chunkLoop mk p cs
  | [], p => ⟨[], p, rfl, by simp [chunkLoop]⟩
  | c :: cs, p => by
      obtain ⟨evs, q, h1, h2⟩ := chunksInterp_ref mk cs (some c)
      cases p with
      | none => exact ⟨evs, q, by simp [chunksInterp, lInterp, h1], by simp [chunkLoop, h2]⟩
      | some b => exact ⟨mk b false :: evs, q, by simp [chunksInterp, lInterp, h1], by simp [chunkLoop, h2]⟩

theorem kInterp_ref (mk : Bytes → Bool → Event) (cs : List Bytes) :
    kInterp mk cs refDetailBody none = some (chunkLoop mk none cs) := by
  obtain ⟨evs, q, h1, h2⟩ := chunksInterp_ref mk cs none
  simp [refDetailBody, kInterp, h1, ← h2]

theorem detailsInterp_ref (id : Nat) (ts : Ts) : ∀ ds : List DetailIn,
    detailsInterp id ts refDetailBody ds
      = some ((ds.map fun d => chunkLoop (fileEvent id ts d.name d.mime) none d.chunks).flatten)
  | [] => rfl
  | d :: ds => by simp [detailsInterp, kInterp_ref, detailsInterp_ref id ts ds]

/-- the outcome methods' arguments, after `_convert` has turned an exc_info into the `traceback` detail, are `convertArgs` -/
theorem callArgs_convertArgs (r : Result) :
    (callArgs r).status = (convertArgs r).1
    ∧ (if (callArgs r).err then some ((callArgs r).details.getD [] ++ [tracebackDetail]) else (callArgs r).details)
        = (convertArgs r).2.1
    ∧ (callArgs r).reason = (convertArgs r).2.2 := by
  rcases r with _ | _ | (_ | _) | (_ | _) | (_ | _) | (_ | _ | _) <;> exact ⟨rfl, rfl, rfl⟩

theorem vInterp_ref (id : Nat) (ts : Ts) (tags : List Nat) (r : Result) :
    vInterp id ts tags (callArgs r) refConvert (callArgs r).details = some (convert id ts tags r) := by
  obtain ⟨h1, h2, h3⟩ := callArgs_convertArgs r
  simp only [refConvert, vInterp, h1, h2, h3, convert]
  cases (convertArgs r).2.1 <;> simp [detailPart, detailEvents, detailsInterp_ref]

end TTV.ConvertSrc
