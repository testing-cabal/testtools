import TTV.Lemmas.SpinnerLoop
/-! The invariants of one `Spinner.run` (C15), carried through `f` and the loop (`runBody_inv`, `loop_inv`) from the state in which
`run` is called (`afterPre` of an `Idle` world): every label is queued or logged exactly once (`Book`; `Labelled`, what the `Spec`
says of the labels), the timeout call is pending, called or cancelled (`TJ`), the clock stays within the timeout and the loop ends
by a crash (`TInv`); `run_facts` assembles them for the state at the end of `reactor.run()`.  After the loop: what
`_restore_signals` puts back (`restoreFrom_get`, `preservedSame_restore`), and what `_clean`'s obligatory iterations keep
(`iterations_frame`, `iterations_reent`, `iterations_sigs`; they may run calls a `spawn` scheduled, which are no calls of the
scenario: `KnownCall`). -/
namespace TTV.Props.C15
open TTV.Reactor TTV.Spinner TTV.Spec.C15

def qlbls (w : W) : List Lbl := w.calls.map (·.act.lbl)
def elbls (w : W) : List Lbl := w.events.map (·.2)

theorem count_qlbls_insert (w' w : W) (c : DCall (QAct Act)) (h : w'.calls = insert c w.calls) (x : Lbl) :
    (qlbls w').count x = (qlbls w).count x + (if c.act.lbl = x then 1 else 0) := by
  rw [qlbls, h, ((insert_perm c w.calls).map _).count_eq]
  simp [qlbls, List.count_cons]

theorem count_qlbls_cons {w : W} {c : DCall (QAct Act)} {rest : List (DCall (QAct Act))} (hc : w.calls = c :: rest) (x : Lbl) :
    (qlbls w).count x = (qlbls ({ w with calls := rest } : W)).count x + (if c.act.lbl = x then 1 else 0) := by
  simp [qlbls, hc, List.count_cons]

theorem count_elbls_log (x l : Lbl) (w : W) :
    (elbls (logEvent l w)).count x = (elbls w).count x + (if l = x then 1 else 0) := by
  simp [elbls, List.count_cons]

theorem qlbls_deliver (r : Res) (w : W) :
    qlbls (deliver r w) = if w.sp.tcall = .pending then (qlbls w).filter (· != .timeout) else qlbls w := by
  rw [qlbls, deliver_calls]
  split
  · exact lbls_filter _
  · rfl

theorem deliver_count_user (r : Res) (w : W) (l : Nat) :
    (qlbls (deliver r w)).count (.user l) = (qlbls w).count (.user l) := by
  rw [qlbls_deliver]
  split
  · exact List.count_filter rfl
  · rfl

theorem count_leftovers_call (w : W) (x : Lbl) : (leftovers w).count (.call x) = (qlbls w).count x := by
  have hsel : (w.sels.map Junk.sel).count (.call x) = 0 := List.count_eq_zero.mpr (by simp)
  rw [leftovers, List.count_append, hsel, qlbls, List.count_eq_countP, List.count_eq_countP, List.countP_map, List.countP_map]
  exact List.countP_congr fun c _ => by simp

theorem leftovers_sels (w : W) : (leftovers w).filterMap junkSel = w.sels := by
  simp [leftovers, List.filterMap_append, List.filterMap_map, Function.comp_def, junkSel]

def isReenter : Act → Bool
  | .reenter _ => true
  | _ => false

/-- `exec l a` from `w` to `w'`, on everything but the spinner's result fields, the Deferred and `crashed` - and `sp.saved`, which is
`exec_saved` -/
structure ExecFrame (l : Nat) (a : Act) (w w' : W) : Prop where
  events : w'.events = w.events
  cnt : ∀ l', (qlbls w').count (.user l') = (qlbls w).count (.user l')
  mem : ∀ c ∈ w'.calls, c ∈ w.calls
  sels : w'.sels = if a = .addSel then w.sels ++ [l] else w.sels
  reent : w'.u.reentries = if isReenter a then w.u.reentries ++ [.reentry] else w.u.reentries
  sigs : w'.sigs.length = w.sigs.length
  now : w'.now = w.now
  t0 : w'.t0 = w.t0
  junk : w'.sp.junk = w.sp.junk
  running : w'.running = w.running
  stopPatched : w'.stopPatched = w.stopPatched

theorem exec_frame (l : Nat) (a : Act) (w : W) : ExecFrame l a w (exec l a w) := by
  -- for an action `a'` that neither registers a selectable nor re-enters, the two `if`s of the frame are the identity
  have hfire : ∀ r a', (∀ x : List Nat, (if a' = .addSel then x ++ [l] else x) = x) →
      (∀ x : List Res, (if isReenter a' then x ++ [.reentry] else x) = x) → ExecFrame l a' w (fireD r w) := fun r a' hs hr =>
    fireD_inv (ExecFrame l a' w) r
      (fun w' h => ⟨h.events, h.cnt, h.mem, h.sels, h.reent, h.sigs, h.now, h.t0, h.junk, h.running, h.stopPatched⟩)
      (fun w' h => ⟨(deliver_events w' r).trans h.events, fun l' => (deliver_count_user r w' l').trans (h.cnt l'),
        fun c hc => h.mem c (deliver_mem r w' c hc), (deliver_sels w' r).trans h.sels,
        (congrArg (·.reentries) (deliver_u w' r)).trans h.reent, (congrArg List.length (deliver_sigs w' r)).trans h.sigs,
        (deliver_now w' r).trans h.now, (deliver_t0 w' r).trans h.t0, (deliver_junk w' r).trans h.junk,
        (deliver_running w' r).trans h.running, (deliver_stopPatched w' r).trans h.stopPatched⟩)
      w ⟨rfl, fun _ => rfl, fun _ h => h, (hs _).symm, (hr _).symm, rfl, rfl, rfl, rfl, rfl, rfl⟩
  cases a with
  | fire _ | fail _ => exact hfire _ _ (fun _ => rfl) (fun _ => rfl)
  | setSig s h => exact ⟨rfl, fun _ => rfl, fun _ h => h, rfl, rfl, List.length_set, rfl, rfl, rfl, rfl, rfl⟩
  | _ => exact ⟨rfl, fun _ => rfl, fun _ h => h, rfl, rfl, rfl, rfl, rfl, rfl, rfl, rfl⟩

theorem exec_saved (l : Nat) (a : Act) (w : W) : (exec l a w).sp.saved = w.sp.saved :=
  exec_inv (fun w' => w'.sp.saved = w.sp.saved) (fun _ _ h => h) (fun r w' _ h => (deliver_saved w' r).trans h)
    (fun _ h => h) (fun _ _ _ _ h => h) l a w rfl

theorem actOf_none (sc : Scen) (l : Nat) (h : labels sc ≤ l) : actOf sc l = none := by
  unfold actOf labels at *
  rw [if_neg (by omega), List.getElem?_eq_none (by omega)]

theorem actOf_mem (sc : Scen) (l : Nat) (a : Act) (h : actOf sc l = some a) : a ∈ sc.pre.map (·.2) ++ sc.body.map opAct' := by
  unfold actOf at h
  split at h
  · rename_i hl
    rw [List.getElem?_eq_getElem hl] at h
    simp only [Option.map_some, Option.some.injEq] at h
    exact List.mem_append_left _ (List.mem_map.mpr ⟨_, List.getElem_mem hl, h⟩)
  · split at h
    · rename_i d a' hb
      injection h with h; subst h
      exact List.mem_append_right _ (List.mem_map.mpr ⟨_, List.mem_of_getElem? hb, rfl⟩)
    · rename_i a' hb
      injection h with h; subst h
      exact List.mem_append_right _ (List.mem_map.mpr ⟨_, List.mem_of_getElem? hb, rfl⟩)
    · cases h

theorem selEv_user (sc : Scen) (t l : Nat) (a : Act) (h : actOf sc l = some a) :
    selEv sc (t, .user l) = if a = .addSel then some l else none := by
  simp only [selEv, h]
  cases a <;> simp

theorem isReenterEv_user (sc : Scen) (t l : Nat) (a : Act) (h : actOf sc l = some a) :
    isReenterEv sc (t, .user l) = isReenter a := by
  simp only [isReenterEv, h]
  cases a <;> rfl

def isLater : Op → Bool
  | .later _ _ => true
  | .now _ => false

/-- the `Spec` knows `ops` under the labels `i`, `i + 1`, … (`preOps sc.pre` from `0`, `sc.body` after them) -/
def Labelled (sc : Scen) (i : Nat) (ops : List Op) : Prop :=
  ∀ j (h : j < ops.length), actOf sc (i + j) = some (opAct' ops[j]) ∧ (isLater ops[j] = true → i + j ∈ delayedLabels sc)

theorem mem_laterLabels : ∀ (i : Nat) (body : List Op) (j : Nat) (h : j < body.length),
    isLater body[j] = true → i + j ∈ laterLabels i body
  | i, .later _ _ :: _, 0, _, _ => List.mem_cons_self
  | i, op :: rest, j + 1, h, hl => by
      have := mem_laterLabels (i + 1) rest j (Nat.lt_of_succ_lt_succ h) hl
      rw [Nat.add_right_comm] at this
      cases op with
      | later d a => exact List.mem_cons_of_mem _ this
      | now a => exact this

theorem laterLabels_lt : ∀ (i : Nat) (body : List Op), ∀ l ∈ laterLabels i body, l < i + body.length
  | _, [], _, h => nomatch h
  | i, op :: rest, l, h => by
      have ih := laterLabels_lt (i + 1) rest l
      rw [List.length_cons, ← Nat.add_assoc, Nat.add_right_comm]
      cases op with
      | later d a => exact (List.mem_cons.mp h).elim (fun e => by omega) ih
      | now a => exact ih h

theorem delayedLabels_lt (sc : Scen) : ∀ l ∈ delayedLabels sc, l < labels sc := by
  intro l h
  unfold labels
  simp only [delayedLabels, List.mem_append, List.mem_range] at h
  rcases h with h | h
  · omega
  · exact laterLabels_lt _ _ l h

theorem pre_labels (sc : Scen) : Labelled sc 0 (preOps sc.pre) := by
  intro j h
  have h' : j < sc.pre.length := by simpa [preOps] using h
  simp only [Nat.zero_add, preOps, List.getElem_map, opAct']
  exact ⟨by simp [actOf, h'], fun _ => List.mem_append_left _ (List.mem_range.mpr h')⟩

theorem body_labels (sc : Scen) : Labelled sc sc.pre.length sc.body := by
  intro j h
  constructor
  · have : ¬ (sc.pre.length + j < sc.pre.length) := by omega
    simp only [actOf, this, if_false, Nat.add_sub_cancel_left, List.getElem?_eq_getElem h]
    cases sc.body[j] <;> rfl
  · exact fun hl => List.mem_append_right _ (mem_laterLabels _ _ j h hl)

structure Reent (sc : Scen) (w : W) : Prop where
  len : w.u.reentries.length = (w.events.filter (isReenterEv sc)).length
  all : ∀ r ∈ w.u.reentries, r = .reentry

/-- The ledger of a run when `k` labels have been issued: each of them is queued or logged, exactly once. -/
structure Book (sc : Scen) (k : Nat) (w : W) : Prop where
  cnt : ∀ l, (qlbls w).count (.user l) + (elbls w).count (.user l) = if l < k then 1 else 0
  lab : ∀ c ∈ w.calls, ∀ l a, c.act = .user l a → actOf sc l = some a ∧ l ∈ delayedLabels sc
  sels : w.sels = w.events.filterMap (selEv sc)
  reent : w.u.reentries.length = (w.events.filter (isReenterEv sc)).length
  reent_all : ∀ r ∈ w.u.reentries, r = .reentry

theorem issued_succ (l k : Nat) :
    (if l < k then 1 else 0) + (if Lbl.user k = Lbl.user l then 1 else 0) = if l < k + 1 then 1 else 0 := by
  simp only [Lbl.user.injEq]
  split <;> split <;> split <;> omega

theorem reent_run (sc : Scen) (w : W) (l : Nat) (a : Act) (hev : isReenterEv sc (w.now - w.t0, .user l) = isReenter a)
    (h : Reent sc w) : Reent sc (exec l a (logEvent (.user l) w)) := by
  have hf := exec_frame l a (logEvent (.user l) w)
  constructor
  · rw [hf.reent, hf.events, logEvent_u, logEvent_events, List.filter_append, List.length_append, List.filter_cons, hev, ← h.len]
    cases isReenter a
    · rfl
    · exact List.length_append
  · rw [hf.reent, logEvent_u]
    cases isReenter a
    · exact h.all
    · exact fun r hr => (List.mem_append.mp hr).elim (h.all r) List.eq_of_mem_singleton

/-- the ledger after a logged action, from the parts of a ledger before it and the count `hcnt` as it stands once the event is
logged: so that it serves an action of `f` (`book_now`, a label is issued: `k` to `k + 1`) and a popped call (`book_pop`, its
label moves from the queue to the log: `k` stays) -/
theorem book_run (sc : Scen) (k : Nat) (w : W) (l : Nat) (a : Act) (hact : actOf sc l = some a)
    (hlab : ∀ c ∈ w.calls, ∀ l a, c.act = .user l a → actOf sc l = some a ∧ l ∈ delayedLabels sc)
    (hsels : w.sels = w.events.filterMap (selEv sc))
    (hre : Reent sc w)
    (hcnt : ∀ l', (qlbls w).count (.user l') + (elbls (logEvent (.user l) w)).count (.user l') = if l' < k then 1 else 0) :
    Book sc k (exec l a (logEvent (.user l) w)) := by
  have hf := exec_frame l a (logEvent (.user l) w)
  have hr := reent_run sc w l a (isReenterEv_user sc _ l a hact) hre
  refine ⟨fun l' => by rw [hf.cnt l', elbls, hf.events]; exact hcnt l', fun c hc => hlab c (hf.mem c hc), ?_, hr.len, hr.all⟩
  rw [hf.sels, hf.events]
  simp only [logEvent_sels, logEvent_events, List.filterMap_append, List.filterMap_cons, List.filterMap_nil,
    selEv_user sc _ l a hact, hsels]
  split <;> simp

theorem Book.of_eq {sc : Scen} {k : Nat} {w w' : W} (h : Book sc k w) (hc : w'.calls = w.calls)
    (he : w'.events = w.events) (hs : w'.sels = w.sels) (hr : w'.u.reentries = w.u.reentries) : Book sc k w' :=
  ⟨by simpa [qlbls, elbls, hc, he] using h.cnt, by rw [hc]; exact h.lab, by rw [hs, he]; exact h.sels,
   by rw [hr, he]; exact h.reent, by rw [hr]; exact h.reent_all⟩

theorem book_deliver {sc : Scen} {k : Nat} {w : W} (r : Res) (h : Book sc k w) : Book sc k (deliver r w) :=
  ⟨fun l => by rw [deliver_count_user]; simpa [elbls] using h.cnt l,
   fun c hc => h.lab c (deliver_mem r w c hc), by simpa using h.sels, by simpa using h.reent, by simpa using h.reent_all⟩

theorem book_schedule_user {sc : Scen} {k : Nat} {w : W} (t : Nat) (a : Act) (h : Book sc k w)
    (hact : actOf sc k = some a) (hmem : k ∈ delayedLabels sc) : Book sc (k + 1) (schedule t (.user k a) w) := by
  refine ⟨fun l => ?_, ?_, h.sels, h.reent, h.reent_all⟩
  · have := h.cnt l
    have := issued_succ l k
    rw [count_qlbls_insert (schedule t (.user k a) w) w _ rfl]
    show _ + (if Lbl.user k = Lbl.user l then 1 else 0) + (elbls w).count (.user l) = _
    omega
  · intro c hc l a' hca
    rcases mem_insert.mp hc with rfl | hc
    · obtain ⟨rfl, rfl⟩ := QAct.user.inj hca
      exact ⟨hact, hmem⟩
    · exact h.lab c hc l a' hca

theorem book_now {sc : Scen} {k : Nat} {w : W} (a : Act) (h : Book sc k w) (hact : actOf sc k = some a) :
    Book sc (k + 1) (exec k a (logEvent (.user k) w)) := by
  refine book_run sc (k + 1) w k a hact h.lab h.sels ⟨h.reent, h.reent_all⟩ fun l => ?_
  have := h.cnt l
  have := issued_succ l k
  rw [count_elbls_log]
  omega

theorem book_pop {sc : Scen} {k : Nat} {w : W} (h : Book sc k w) (c : DCall (QAct Act)) (rest : List (DCall (QAct Act)))
    (hc : w.calls = c :: rest) : Book sc k (execCall exec c { w with calls := rest }) := by
  have hlab : ∀ c' ∈ rest, ∀ l a, c'.act = .user l a → actOf sc l = some a ∧ l ∈ delayedLabels sc :=
    fun c' hc' => h.lab c' (hc ▸ List.mem_cons_of_mem _ hc')
  -- the label of the head moves from the queue to the log
  have hcnt : ∀ x, (qlbls ({ w with calls := rest } : W)).count x + (elbls (logEvent c.act.lbl w)).count x
      = (qlbls w).count x + (elbls w).count x := by
    intro x
    rw [count_elbls_log, count_qlbls_cons hc]
    omega
  rcases c with ⟨t, q⟩
  cases q with
  | timeout =>
    refine ⟨fun l => by simpa [qlbls, elbls, QAct.lbl] using (hcnt (.user l)).trans (h.cnt l), by simpa using hlab, ?_, ?_,
      by simpa using h.reent_all⟩
    · simp [h.sels, selEv]
    · simp [h.reent, isReenterEv]
  | user l a =>
    exact book_run sc k _ l a (h.lab _ (hc ▸ List.mem_cons_self) l a rfl).1 hlab h.sels ⟨h.reent, h.reent_all⟩
      fun l' => (hcnt (.user l')).trans (h.cnt l')

def qT (w : W) : Nat := (qlbls w).count .timeout
def eT (w : W) : Nat := (elbls w).count .timeout

/-- The timeout call and the junk: it is pending - queued once, nothing recorded -, or it has been called - logged once,
`TimeoutError` recorded -, or it was cancelled, neither queued nor logged; only a result of `f` itself cancels it
(`isOwnResult`), which is the third way the clause `cJunk` accounts for it. -/
def TJ (w : W) : Prop :=
  (w.sp.tcall = .pending ∧ w.sp.success = none ∧ w.sp.failure = none ∧ qT w = 1 ∧ eT w = 0) ∨
  (w.sp.tcall = .called ∧ w.sp.success = none ∧ w.sp.failure = some .timeout ∧ qT w = 0 ∧ eT w = 1) ∨
  (w.sp.tcall = .cancelled ∧ isOwnResult (getResult w.sp) = true ∧ qT w = 0 ∧ eT w = 0)

theorem TJ.of_eq {w w' : W} (h : TJ w) (h1 : w'.sp.tcall = w.sp.tcall) (h2 : w'.sp.success = w.sp.success)
    (h3 : w'.sp.failure = w.sp.failure) (h4 : qT w' = qT w) (h5 : eT w' = eT w) : TJ w' := by
  unfold TJ at h ⊢
  have hg : getResult w'.sp = getResult w.sp := by simp [getResult, h2, h3]
  rw [h1, h2, h3, h4, h5, hg]
  exact h

/-- what `TJ` says of the result of the run and of the timeout label in the junk -/
structure Outcome (w : W) : Prop where
  not_stale : getResult w.sp ≠ .stalejunk
  not_reentry : getResult w.sp ≠ .reentry
  not_rejected : getResult w.sp ≠ .rejected
  timeout_once : qT w + eT w + (if isOwnResult (getResult w.sp) = true then 1 else 0) = 1

theorem TJ.outcome {w : W} (h : TJ w) : Outcome w := by
  rcases h with ⟨_, hs, hf, hq, he⟩ | ⟨_, hs, hf, hq, he⟩ | ⟨_, ho, hq, he⟩
  · refine ⟨?_, ?_, ?_, ?_⟩ <;> simp [getResult, hs, hf, hq, he, isOwnResult]
  · refine ⟨?_, ?_, ?_, ?_⟩ <;> simp [getResult, hf, hq, he, isOwnResult]
  · have hne : ∀ r, isOwnResult r = false → getResult w.sp ≠ r := fun r hr h => by rw [h, hr] at ho; cases ho
    exact ⟨hne _ rfl, hne _ rfl, hne _ rfl, by simp [ho, hq, he]⟩

theorem tj_deliver {w : W} (r : Res) (hr : isOwnResult r = true) (h : TJ w) : TJ (deliver r w) := by
  by_cases hp : w.sp.tcall = .pending
  · rcases h with ⟨_, _, hf, _, he⟩ | ⟨ht, _⟩ | ⟨ht, _⟩
    · refine Or.inr (Or.inr ⟨by rw [deliver_tcall, if_pos hp], by rw [deliver_getResult w r hp hf]; exact hr, ?_,
        by simpa [eT, elbls] using he⟩)
      rw [qT, qlbls_deliver, if_pos hp]
      exact List.count_eq_zero.mpr (by simp)
    · rw [hp] at ht; cases ht
    · rw [hp] at ht; cases ht
  · rw [deliver_of_not_pending _ _ hp]
    exact TJ.of_eq h (by simp) (by simp) (by simp) (by simp [qT, qlbls]) (by simp [eT, elbls])

theorem tj_exec {w : W} (l : Nat) (a : Act) (h : TJ w) : TJ (exec l a w) :=
  exec_inv TJ (fun _ _ h => TJ.of_eq h rfl rfl rfl rfl rfl) (fun r _ hr h => tj_deliver r hr h)
    (fun _ h => TJ.of_eq h rfl rfl rfl rfl rfl) (fun _ _ _ _ h => TJ.of_eq h rfl rfl rfl rfl rfl) l a w h

theorem tj_log_user {w : W} (l : Nat) (h : TJ w) : TJ (logEvent (.user l) w) :=
  TJ.of_eq h rfl rfl rfl rfl (by simp [eT, count_elbls_log])

theorem tj_pop {w : W} (h : TJ w) (c : DCall (QAct Act)) (rest : List (DCall (QAct Act)))
    (hc : w.calls = c :: rest) : TJ (execCall exec c { w with calls := rest }) := by
  have hq : qT w = qT ({ w with calls := rest } : W) + (if c.act.lbl = Lbl.timeout then 1 else 0) := count_qlbls_cons hc _
  rcases c with ⟨t, q⟩
  cases q with
  | timeout =>
    replace hq : qT w = qT ({ w with calls := rest } : W) + 1 := hq
    rcases h with ⟨_, hs, _, hq1, he⟩ | ⟨_, _, _, hq0, _⟩ | ⟨_, _, hq0, _⟩
    · refine Or.inr (Or.inl ⟨by simp, by simpa using hs, by simp, ?_, ?_⟩)
      · have : qT ({ w with calls := rest } : W) = 0 := by omega
        simpa [qT, qlbls] using this
      · simp only [eT, elbls] at he
        simp [eT, elbls, List.count_append, he]
    · omega
    · omega
  | user l a => exact tj_exec l a (tj_log_user l (TJ.of_eq h rfl rfl rfl hq.symm rfl))

theorem tj_schedule_user {w : W} (t i : Nat) (a : Act) (h : TJ w) : TJ (schedule t (.user i a) w) :=
  TJ.of_eq h rfl rfl rfl (by rw [qT, count_qlbls_insert _ w _ rfl, if_neg nofun]; rfl) rfl

/-- the clock stays within the timeout instant `T0`, and the loop ends by a crash: while the reactor is not crashed the timeout call
is pending (`alive`), so still queued, due by `T0` (`pend`) - which bounds the time of the head the clock moves to (`tinv_adv`) and
keeps the queue from running empty -/
structure TInv (T0 : Nat) (w : W) : Prop where
  sorted : Sorted w.calls
  now_le : w.now ≤ T0
  alive : w.crashed = false → w.sp.tcall = .pending ∧ w.sp.spinning = true
  pend : w.sp.tcall = .pending → ∃ c ∈ w.calls, c.act.isTimeout = true ∧ c.time ≤ T0

theorem tinv_deliver {T0 : Nat} {w : W} (r : Res) (h : TInv T0 w) : TInv T0 (deliver r w) := by
  refine ⟨?_, by simpa using h.now_le, fun hcr => ?_, fun ht => ?_⟩
  · rw [deliver_calls]
    split
    · exact h.sorted.filter _
    · exact h.sorted
  · -- it crashes the reactor (which is spinning while not crashed) …
    rw [deliver_crashed, crashed_or_spinning h.alive] at hcr
    cases hcr
  · -- … and the timeout call is no longer pending
    rw [deliver_tcall] at ht
    split at ht
    · cases ht
    · contradiction

theorem tinv_pop {T0 : Nat} {w : W} (h : TInv T0 w) (c : DCall (QAct Act)) (rest : List (DCall (QAct Act)))
    (hc : w.calls = c :: rest) : TInv T0 (execCall exec c { w with calls := rest }) := by
  have hsr : Sorted rest := List.Pairwise.of_cons (hc ▸ h.sorted)
  rcases c with ⟨t, q⟩
  cases q with
  | timeout =>
    refine ⟨by simpa using hsr, by simpa using h.now_le, fun hcr => ?_, by simp⟩
    rw [execCall_timeout, execTimeout_crashed] at hcr
    cases (crashed_or_spinning h.alive).symm.trans hcr
  | user l a =>
    have hbase : TInv T0 (logEvent (.user l) { w with calls := rest }) := by
      refine ⟨hsr, h.now_le, h.alive, fun ht => ?_⟩
      obtain ⟨c0, hc0, hto, hle⟩ := h.pend ht
      rcases List.mem_cons.mp (hc ▸ hc0) with rfl | hc0
      · cases hto
      · exact ⟨c0, hc0, hto, hle⟩
    exact exec_inv (TInv T0) (fun _ _ h => ⟨h.sorted, h.now_le, h.alive, h.pend⟩) (fun r _ _ h => tinv_deliver r h)
      (fun _ h => ⟨h.sorted, h.now_le, nofun, h.pend⟩) (fun _ _ _ _ h => ⟨h.sorted, h.now_le, h.alive, h.pend⟩) l a _ hbase

theorem tinv_adv {T0 : Nat} {w : W} (h : TInv T0 w) (c : DCall (QAct Act)) (rest : List (DCall (QAct Act)))
    (hc : w.calls = c :: rest) (hcr : w.crashed = false) : TInv T0 { w with now := max w.now c.time } := by
  refine ⟨h.sorted, ?_, h.alive, h.pend⟩
  -- the timeout call is still queued, behind the head or the head itself
  obtain ⟨c0, hc0, _, hle⟩ := h.pend (h.alive hcr).1
  have : c.time ≤ T0 := by
    rcases List.mem_cons.mp (hc ▸ hc0) with rfl | hc0
    · exact hle
    · exact Nat.le_trans (List.rel_of_pairwise_cons (hc ▸ h.sorted : Sorted (c :: rest)) hc0) hle
  exact Nat.max_le.mpr ⟨h.now_le, this⟩

/-- What holds of a world `w` inside the run that was called in `w0`; `_saved_signals` (touched by `_save_signals` /
`_restore_signals` only) holds the handlers found in `w0`. -/
structure SinceCall (w0 w : W) : Prop where
  junk : w.sp.junk = w0.sp.junk
  sigs : w.sigs.length = w0.sigs.length
  saved : w.sp.saved = w0.sigs
  now_ge : w0.now ≤ w.now

theorem SinceCall.of_eq {w0 w w' : W} (h : SinceCall w0 w) (hj : w'.sp.junk = w.sp.junk) (hs : w'.sigs.length = w.sigs.length)
    (hv : w'.sp.saved = w.sp.saved) (hn : w.now ≤ w'.now) : SinceCall w0 w' :=
  ⟨hj.trans h.junk, hs.trans h.sigs, hv.trans h.saved, Nat.le_trans h.now_ge hn⟩

theorem sinceCall_exec {w0 w : W} (l : Nat) (a : Act) (h : SinceCall w0 w) : SinceCall w0 (exec l a w) :=
  have hf := exec_frame l a w
  h.of_eq hf.junk hf.sigs (exec_saved l a w) (Nat.le_of_eq hf.now.symm)

theorem sinceCall_deliver {w0 w : W} (r : Res) (h : SinceCall w0 w) : SinceCall w0 (deliver r w) :=
  h.of_eq (deliver_junk w r) (congrArg List.length (deliver_sigs w r)) (deliver_saved w r) (Nat.le_of_eq (deliver_now w r).symm)

theorem sinceCall_pop {w0 w : W} (h : SinceCall w0 w) (c : DCall (QAct Act)) (rest : List (DCall (QAct Act))) :
    SinceCall w0 (execCall exec c { w with calls := rest }) := by
  unfold execCall
  split
  · exact h.of_eq (execTimeout_junk _) (congrArg List.length (execTimeout_sigs _)) (execTimeout_saved _)
      (Nat.le_of_eq (execTimeout_now { w with calls := rest }).symm)
  · exact sinceCall_exec _ _ (h.of_eq rfl rfl rfl (Nat.le_refl _))

theorem runBody_inv (P : W → Prop) (hs : ∀ (w : W) t i a, P w → P (schedule t (.user i a) w))
    (hn : ∀ (w : W) i a, P w → P (exec i a (logEvent (.user i) w))) :
    ∀ (i : Nat) (body : List Op) (w : W), P w → P (runBody i body w)
  | _, [], _, h => h
  | i, .later _ a :: rest, w, h => runBody_inv P hs hn (i + 1) rest _ (hs w _ i a h)
  | i, .now a :: rest, w, h => runBody_inv P hs hn (i + 1) rest _ (hn w i a h)

theorem finishF_inv (P : W → Prop) (hd : ∀ (w : W) r, isOwnResult r = true → P w → P (deliver r w))
    (ha : ∀ w : W, P w → P { w with u := { w.u with attached := true } }) (t : Term) (w : W)
    (hown : ∀ r, w.u.dres = some r → isOwnResult r = true) (h : P w) : P (finishF t w) := by
  cases t with
  | ret v => exact hd w (.value v) rfl h
  | raise e => exact hd w (.raised e) rfl h
  | deferred =>
    simp only [finishF]
    split
    · next r hdr => exact hd _ r (hown r hdr) (ha w h)
    · exact ha w h

/-- from the return of `f` to the end of `reactor.run()`: `finishF` (a result of `f` itself is delivered, the callbacks are attached),
then the loop -/
theorem loop_inv (P : W → Prop) (hd : ∀ (w : W) r, isOwnResult r = true → P w → P (deliver r w))
    (ha : ∀ w : W, P w → P { w with u := { w.u with attached := true } })
    (hpop : ∀ (w : W) c rest, P w → w.calls = c :: rest → P (execCall exec c { w with calls := rest }))
    (hadv : ∀ (w : W) c rest, P w → w.calls = c :: rest → w.crashed = false → P { w with now := max w.now c.time })
    (sc : Scen) (w : W) (hown : ∀ r, (runBody sc.pre.length sc.body (fStart sc w)).u.dres = some r → isOwnResult r = true)
    (h : P (runBody sc.pre.length sc.body (fStart sc w))) : P (spinPhase sc w) :=
  spinPhase_eq sc w ▸ spin_inv exec queueLen P hpop hadv _ _ (finishF_inv P hd ha _ _ hown h)

theorem book_runBody {sc : Scen} : ∀ (i : Nat) (rest : List Op) (w : W), Labelled sc i rest →
    Book sc i w → Book sc (i + rest.length) (runBody i rest w)
  | _, [], _, _, h => h
  | i, op :: rest, w, hl, h => by
      have h0 := hl 0 (Nat.zero_lt_succ _)
      have hrest : Labelled sc (i + 1) rest := fun j hj => by
        rw [Nat.add_right_comm]; exact hl (j + 1) (Nat.succ_lt_succ hj)
      rw [List.length_cons, ← Nat.add_assoc, Nat.add_right_comm]
      cases op with
      | later d a => exact book_runBody (i + 1) rest _ hrest (book_schedule_user _ a h h0.1 (h0.2 rfl))
      | now a => exact book_runBody (i + 1) rest _ hrest (book_now a h h0.1)

theorem book_fStart {sc : Scen} {k : Nat} {w : W} (h : Book sc k w) : Book sc k (fStart sc w) := by
  refine ⟨fun l => ?_, fun c hc l a hca => ?_, h.sels, h.reent, h.reent_all⟩
  · rw [count_qlbls_insert (fStart sc w) w _ rfl]
    exact h.cnt l
  · rcases mem_insert.mp hc with rfl | hc
    · cases hca
    · exact h.lab c hc l a hca

theorem tj_fStart (sc : Scen) (w : W) (hq : ∀ c ∈ w.calls, c.act.isTimeout = false) (he : w.events = []) :
    TJ (fStart sc w) := by
  refine Or.inl ⟨rfl, rfl, rfl, ?_, by simp [eT, elbls, fStart, saveSignals_events, he]⟩
  rw [qT, count_qlbls_insert (fStart sc w) w _ rfl]
  refine congrArg (· + 1) (List.count_eq_zero.mpr fun hm => ?_)
  obtain ⟨⟨t, q⟩, hc, hl⟩ := List.mem_map.mp hm
  cases q with
  | timeout => cases hq _ hc
  | user l a => cases hl

/-- `wF` is a state at the end of `reactor.run()` in the run of `sc` called in `w0` -/
structure RunFacts (sc : Scen) (w0 wF : W) : Prop where
  result : getResult wF.sp = expected sc
  crashed : wF.crashed = true
  book : Book sc (sc.pre.length + sc.body.length) wF
  tj : TJ wF
  now_le : wF.now ≤ w0.now + sc.timeout
  now_ge : w0.now ≤ wF.now
  junk : wF.sp.junk = w0.sp.junk
  sigs : wF.sigs.length = w0.sigs.length
  saved : wF.sp.saved = w0.sigs

theorem run_facts (sc : Scen) (w0 : W) (hidle : Idle w0) : RunFacts sc w0 (spinPhase sc (afterPre sc w0)) := by
  have hpre := afterPre_eq sc w0 hidle
  obtain ⟨hres, hend⟩ := spinPhase_result sc w0 hidle
  obtain ⟨hcalls, hnow, hsp, hdr, _⟩ := fStart_body sc w0 hidle
  -- what the Deferred holds when `f` returns was found among the `fire` / `fail` actions of `f`
  have hown : ∀ r, (runBody sc.pre.length sc.body (fStart sc (afterPre sc w0))).u.dres = some r → isOwnResult r = true := by
    intro r h
    obtain ⟨a, _, ha⟩ := List.exists_of_findSome?_eq_some (hdr ▸ h : syncFire sc = some r)
    exact kindOf_own (resOf_eq_some (fireRes_eq a ▸ ha))
  have hbook0 : Book sc 0 (start w0) :=
    ⟨fun l => by simp [qlbls, elbls, start, hidle.calls], by simp [start, hidle.calls], by simp [start, hidle.sels],
     by simp [start], by simp [start]⟩
  have hbookP : Book sc sc.pre.length (afterPre sc w0) := by
    have := book_runBody 0 (preOps sc.pre) (start w0) (pre_labels sc) hbook0
    rwa [← schedPre_eq_runBody, Nat.zero_add, preOps, List.length_map] at this
  have hbook := loop_inv (Book sc _) (fun _ r _ h => book_deliver r h) (fun _ h => Book.of_eq h rfl rfl rfl rfl)
    (fun _ c rest h hc => book_pop h c rest hc) (fun _ _ _ h _ _ => Book.of_eq h rfl rfl rfl rfl) sc _ hown
    (book_runBody sc.pre.length sc.body _ (body_labels sc) (book_fStart hbookP))
  have htj0 : TJ (fStart sc (afterPre sc w0)) := by
    rw [hpre]
    exact tj_fStart sc _ (fun c hc => (laterCalls_mem _ _ _ c (((mem_insAll c _ _).mp hc).resolve_right List.not_mem_nil)).2) rfl
  have htj := loop_inv TJ (fun _ r hr h => tj_deliver r hr h) (fun _ h => TJ.of_eq h rfl rfl rfl rfl rfl)
    (fun _ c rest h hc => tj_pop h c rest hc) (fun _ _ _ h _ _ => TJ.of_eq h rfl rfl rfl rfl rfl) sc _ hown
    (runBody_inv TJ (fun _ t i a h => tj_schedule_user t i a h) (fun _ i a h => tj_exec i a (tj_log_user i h)) _ _ _ htj0)
  -- the timeout call is queued for `w0.now + sc.timeout`
  have hti0 : TInv (w0.now + sc.timeout) (runBody sc.pre.length sc.body (fStart sc (afterPre sc w0))) := by
    refine ⟨hcalls ▸ insAll_sorted _ _ .nil, by rw [hnow]; omega,
      fun _ => ⟨congrArg (·.tcall) hsp, congrArg (·.spinning) hsp⟩,
      fun _ => ⟨⟨w0.now + sc.timeout, .timeout⟩, ?_, rfl, Nat.le_refl _⟩⟩
    rw [hcalls]
    exact (mem_insAll _ _ _).mpr (Or.inl (by simp [allCalls]))
  have hti := loop_inv (TInv _) (fun _ r _ h => tinv_deliver r h) (fun _ h => ⟨h.sorted, h.now_le, h.alive, h.pend⟩)
    (fun _ c rest h hc => tinv_pop h c rest hc) (fun _ c rest h hc hcr => tinv_adv h c rest hc hcr) sc _ hown hti0
  have hsince0 : SinceCall w0 (fStart sc (afterPre sc w0)) := by
    rw [hpre]; exact ⟨rfl, rfl, rfl, Nat.le_refl _⟩
  have hsince := loop_inv (SinceCall w0) (fun _ r _ h => sinceCall_deliver r h) (fun _ h => h.of_eq rfl rfl rfl (Nat.le_refl _))
    (fun _ c rest h _ => sinceCall_pop h c rest) (fun _ _ _ h _ _ => h.of_eq rfl rfl rfl (Nat.le_max_left _ _))
    sc _ hown (runBody_inv (SinceCall w0) (fun _ _ _ _ h => h.of_eq rfl rfl rfl (Nat.le_refl _))
      (fun w i a h => sinceCall_exec i a (w := logEvent (.user i) w) (h.of_eq rfl rfl rfl (Nat.le_refl _))) _ _ _ hsince0)
  refine ⟨hres, ?_, hbook, htj, hti.now_le, hsince.now_ge, hsince.junk, hsince.sigs, hsince.saved⟩
  -- the loop ended by a crash: while not crashed the timeout call is still queued
  refine hend.elim id fun h => Decidable.byContradiction fun hc => ?_
  obtain ⟨c, hc', _⟩ := hti.pend (hti.alive (Bool.eq_false_iff.mpr hc)).1
  rw [h] at hc'
  cases hc'

/-- every signal the property names is in the code's `_PRESERVED_SIGNALS` (re-checked against the table
extracted from the tree on every run) -/
theorem must_preserved : ∀ s, mustPreserve s = true → preserved s = true
  | 0, _ => by decide
  | 1, _ => by decide
  | 2, _ => by decide
  | 3, h => by revert h; decide
  | s + 4, h => nomatch h

theorem preservedSame_restore : ∀ (s : Nat) (a c : List Nat), c.length = a.length →
    preservedSame s a (restoreFrom s a c) = true
  | _, [], [], _ => rfl
  | s, x :: as, y :: cs, h => by
      simp only [restoreFrom, preservedSame, List.headD_cons, List.tail_cons]
      rw [preservedSame_restore (s + 1) as cs (Nat.succ.inj h)]
      cases hm : mustPreserve s
      · rfl
      · simp [must_preserved s hm]

theorem preservedSame_refl : ∀ (s : Nat) (a : List Nat), preservedSame s a a = true
  | _, [] => rfl
  | s, x :: xs => by simp [preservedSame, preservedSame_refl (s + 1) xs]

theorem restoreFrom_get : ∀ (s : Nat) (saved cur : List Nat), cur.length = saved.length →
    ∀ i, preserved (s + i) = true → (restoreFrom s saved cur)[i]? = saved[i]?
  | _, [], [], _, _, _ => rfl
  | s, x :: saved, y :: cur, _, 0, hp => by simp [restoreFrom, show preserved s = true from hp]
  | s, x :: saved, y :: cur, h, i + 1, hp =>
      restoreFrom_get (s + 1) saved cur (Nat.succ.inj h) i (Nat.add_right_comm s 1 i ▸ hp)

/-- `C` is a property of queued calls that `P` guarantees (`hC`), so that `hx` may assume it of the call an iteration runs -/
theorem iterations_inv (sc : Scen) (C : DCall (QAct Act) → Prop) (P : W → Prop)
    (hC : ∀ w, P w → ∀ c ∈ w.calls, C c)
    (hq : ∀ (w : W) (f : DCall (QAct Act) → Bool), P w → P { w with calls := w.calls.filter f })
    (hx : ∀ c w, C c → P w → P (execI sc c w)) : ∀ (n : Nat) (w : W), P w → P (iterations sc n w)
  | 0, _, h => h
  | n + 1, w, h => iterations_inv sc C P hC hq hx n _
      (List.foldlRecOn _ _ (hq w _ h) fun w' hw' c hc => hx c w' (hC w h c (List.mem_filter.mp hc).1) hw')

/-- (`hdead`: a `fire` / `fail` run by `_clean`, which `execI` only logs) -/
theorem execI_cases (sc : Scen) (P : W → Prop) (c : DCall (QAct Act)) (w : W)
    (htime : c.act = .timeout → P (execTimeout w))
    (hspawn : ∀ l d ch, c.act = .user l (.spawn d ch) →
      P (schedule (w.now + d) (.user (l + labels sc) ch.toAct) (logEvent (.user l) w)))
    (hdead : ∀ l a r, c.act = .user l a → kindOf a = .decisive r → P (logEvent (.user l) w))
    (hexec : ∀ l a, c.act = .user l a → P (exec l a (logEvent (.user l) w))) : P (execI sc c w) := by
  rcases c with ⟨t, q⟩
  cases q with
  | timeout => exact htime rfl
  | user l a =>
    cases a with
    | spawn d ch => exact hspawn _ _ _ rfl
    | fire _ | fail _ => exact hdead _ _ _ rfl rfl
    | _ => exact hexec _ _ rfl

structure IFrame (a b : W) : Prop where
  now : b.now = a.now
  running : b.running = a.running
  stopPatched : b.stopPatched = a.stopPatched
  junk : b.sp.junk = a.sp.junk
  t0 : b.t0 = a.t0
  sigsLen : b.sigs.length = a.sigs.length
  saved : b.sp.saved = a.sp.saved

theorem IFrame.trans {a b c : W} (h : IFrame a b) (h' : IFrame b c) : IFrame a c :=
  ⟨h'.now.trans h.now, h'.running.trans h.running, h'.stopPatched.trans h.stopPatched, h'.junk.trans h.junk,
   h'.t0.trans h.t0, h'.sigsLen.trans h.sigsLen, h'.saved.trans h.saved⟩

theorem execI_frame (sc : Scen) (c : DCall (QAct Act)) (w : W) : IFrame w (execI sc c w) :=
  execI_cases sc (IFrame w) c w (fun _ => ⟨by simp, by simp, by simp, by simp, by simp, by simp, by simp⟩)
    (fun _ _ _ _ => ⟨rfl, rfl, rfl, rfl, rfl, rfl, rfl⟩) (fun _ _ _ _ _ => ⟨rfl, rfl, rfl, rfl, rfl, rfl, rfl⟩)
    (fun l a _ =>
      have hf := exec_frame l a (logEvent (.user l) w)
      ⟨hf.now, hf.running, hf.stopPatched, hf.junk, hf.t0, hf.sigs, exec_saved l a _⟩)

theorem iterations_frame (sc : Scen) (n : Nat) (w : W) : IFrame w (iterations sc n w) :=
  iterations_inv sc (fun _ => True) (IFrame w) (fun _ _ _ _ => trivial)
    (fun _ _ h => h.trans ⟨rfl, rfl, rfl, rfl, rfl, rfl, rfl⟩)
    (fun c w' _ h => h.trans (execI_frame sc c w')) n w ⟨rfl, rfl, rfl, rfl, rfl, rfl, rfl⟩

/-- a queued call is one of the scenario (its label says which), or one scheduled by a `spawn` during the iterations: those never
re-enter `run` and never install a signal handler, and their labels `l + labels sc` lie beyond the scenario's (`actOf_none`), so that
no event of theirs is read as one of the scenario -/
def KnownCall (sc : Scen) (c : DCall (QAct Act)) : Prop :=
  ∀ l a, c.act = .user l a →
    actOf sc l = some a ∨ (labels sc ≤ l ∧ isReenter a = false ∧ ∀ s h, a ≠ .setSig s h)

theorem childAct_ok (ch : Child) : isReenter ch.toAct = false ∧ ∀ s h, ch.toAct ≠ .setSig s h := by
  cases ch <;> exact ⟨rfl, nofun⟩

/-- what the obligatory iterations keep of the re-entry accounting, together with what lets them keep it (`lab`) -/
structure IterReent (sc : Scen) (w : W) : Prop where
  lab : ∀ c ∈ w.calls, KnownCall sc c
  reent : Reent sc w

theorem IterReent.log {sc : Scen} {w w' : W} {l : Lbl} (h : IterReent sc w) (hl : isReenterEv sc (w.now - w.t0, l) = false)
    (hlab : ∀ c ∈ w'.calls, KnownCall sc c) (he : w'.events = (logEvent l w).events) (hu : w'.u = w.u) : IterReent sc w' := by
  refine ⟨hlab, ?_, hu ▸ h.reent.all⟩
  rw [hu, he, logEvent_events, List.filter_append, List.length_append, h.reent.len]
  simp [hl]

theorem IterReent.filter {sc : Scen} {w : W} (h : IterReent sc w) (f : DCall (QAct Act) → Bool) :
    IterReent sc { w with calls := w.calls.filter f } :=
  ⟨fun c hc => h.lab c (List.mem_filter.mp hc).1, h.reent.len, h.reent.all⟩

theorem execI_reent (sc : Scen) (c : DCall (QAct Act)) (w : W) (hc : KnownCall sc c) (h : IterReent sc w) :
    IterReent sc (execI sc c w) := by
  have hev : ∀ l a, c.act = .user l a → isReenterEv sc (w.now - w.t0, .user l) = isReenter a := fun l a hca => by
    rcases hc l a hca with h1 | ⟨h1, h2, _⟩
    · exact isReenterEv_user sc _ l a h1
    · rw [h2]; simp [isReenterEv, actOf_none sc l h1]
  refine execI_cases sc (IterReent sc) c w (fun _ => h.log (l := .timeout) rfl (by simpa using h.lab) (by simp) (by simp)) ?_ ?_ ?_
  · intro l d ch hca
    refine h.log (hev l _ hca) (fun c' hc' => ?_) rfl rfl
    rcases mem_insert.mp hc' with rfl | hc'
    · intro l' a' ha'
      obtain ⟨rfl, rfl⟩ := QAct.user.inj ha'
      exact Or.inr ⟨Nat.le_add_left _ _, childAct_ok ch⟩
    · exact h.lab c' hc'
  · intro l a r hca hk
    exact h.log ((hev l a hca).trans (by cases a <;> first | rfl | cases hk)) h.lab rfl rfl
  · intro l a hca
    exact ⟨fun c' hc' => h.lab c' ((exec_frame l a (logEvent (.user l) w)).mem c' hc'), reent_run sc w l a (hev l a hca) h.reent⟩

theorem iterations_reent (sc : Scen) (n : Nat) (w : W) (h : IterReent sc w) : IterReent sc (iterations sc n w) :=
  iterations_inv sc (KnownCall sc) (IterReent sc) (fun _ h => h.lab)
    (fun _ f h => h.filter f)
    (fun c w' hc h => execI_reent sc c w' hc h) n w h

theorem exec_sigs (l : Nat) (a : Act) (w : W) (h : ∀ s k, a ≠ .setSig s k) : (exec l a w).sigs = w.sigs := by
  cases a with
  | fire _ | fail _ => exact fireD_inv (fun w' => w'.sigs = w.sigs) _ (fun _ h => h) (fun w' h => (deliver_sigs w' _).trans h) w rfl
  | setSig s k => exact absurd rfl (h s k)
  | _ => rfl

theorem execI_sigs (sc : Scen) (hno : installsHandler sc = false) (c : DCall (QAct Act)) (w : W) (hc : KnownCall sc c) :
    (execI sc c w).sigs = w.sigs :=
  execI_cases sc (fun w' => w'.sigs = w.sigs) c w (fun _ => execTimeout_sigs w) (fun _ _ _ _ => rfl) (fun _ _ _ _ _ => rfl)
    fun l a hca => exec_sigs l a _ fun s k hk => by
      rcases hc l a hca with h | ⟨_, _, h⟩
      · have := List.any_eq_false.mp hno a (actOf_mem sc l a h)
        rw [hk] at this
        exact this rfl
      · exact h s k hk

theorem iterations_sigs (sc : Scen) (hno : installsHandler sc = false) (n : Nat) (w : W) (h : IterReent sc w) :
    (iterations sc n w).sigs = w.sigs :=
  (iterations_inv sc (KnownCall sc) (fun w' => IterReent sc w' ∧ w'.sigs = w.sigs) (fun _ h => h.1.lab)
    (fun _ f h => ⟨h.1.filter f, h.2⟩)
    (fun c w' hc h => ⟨execI_reent sc c w' hc h.1, (execI_sigs sc hno c w' hc).trans h.2⟩) n w ⟨h, rfl⟩).2

theorem cleaned_zero (sc : Scen) (w0 : W) (h : sc.oblig = 0) : cleaned sc w0 = restored sc w0 := by
  unfold cleaned; rw [h]; rfl

theorem cleaned_frame (sc : Scen) (w0 : W) : IFrame (restored sc w0) (cleaned sc w0) :=
  iterations_frame sc sc.oblig (restored sc w0)

end TTV.Props.C15
