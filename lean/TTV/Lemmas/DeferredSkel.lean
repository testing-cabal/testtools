import TTV.Model.DeferredSkel
/-! Case analysis on the state of a Deferred (`D.byState`: what the proofs about the matchers go by), and: the reference terms of
`TTV.DeferredSkel` mean the hand-written model functions. -/

theorem TTV.Deferred.D.byState {P : TTV.Deferred.D → Prop} (value : ∀ v cbs seen, P ⟨.fired (.ok v), cbs, seen⟩)
    (failure : ∀ e cbs seen, P ⟨.fired (.fail e), cbs, seen⟩) (unfired : ∀ cbs seen, P ⟨.unfired, cbs, seen⟩)
    (paused : ∀ cbs seen, P ⟨.paused, cbs, seen⟩) : ∀ d, P d
  | ⟨.fired (.ok v), cbs, seen⟩ => value v cbs seen
  | ⟨.fired (.fail e), cbs, seen⟩ => failure e cbs seen
  | ⟨.unfired, cbs, seen⟩ => unfired cbs seen
  | ⟨.paused, cbs, seen⟩ => paused cbs seen

namespace TTV.DeferredSkel
open TTV.Deferred

theorem matchI_ref_noResult (d : D) : matchI refOdr refNoResult (fun _ => false) d = some (matchOp .noResult d) := by
  cases d using D.byState <;> rfl

theorem matchI_ref_succeeded (vm : VM) (d : D) :
    matchI refOdr refSucceeded (innerV vm) d = some (matchOp (.succeeded vm) d) := by
  cases d using D.byState <;> rfl

theorem matchI_ref_failed (fm : FM) (d : D) :
    matchI refOdr refFailed (innerF fm) d = some (matchOp (.failed fm) d) := by
  cases d using D.byState <;> rfl

theorem extractI_ref (d : D) : extractI refExtract d = some (extractOp d) := by
  cases d using D.byState <;> rfl

theorem runUserI_ref (b : Beh) : runUserI refRunUserSig refRunUser refGotUserFailure b = some (runUser b) :=
  if_pos (by decide)

end TTV.DeferredSkel
