import TTV.Model.ContentSkel
/-! What the reference terms of `TTV/Model/ContentSkel.lean` mean when interpreted: `refIterText` is the model's `iterText`,
`refReader` the `buffer_now` step, `refChunks` and `refChunksRotated` (the two loop shapes) are `chunks`, `refRepr` is `render` with
`quoteValue`, `refFix` is `fixCharset`.  (`as_text`, `content_from_reader` and `content_from_stream` / `content_from_file` are not
compared with a reference term: `Props/C16` evaluates their interpreters on the generated steps themselves; `readerI_ref` says what
`refReader` means all the same.) -/
namespace TTV.ContentSkel
open TTV.Content

theorem iterTextFrom_feedAll {σ : Type} (D : Decoder σ) : ∀ (chunks : List Bytes) (s : σ),
    iterTextFrom D s chunks = (match feedAll D s chunks with
      | none => none
      | some (s', ps) => (D.flush s').map fun f => ps ++ (if f.isEmpty then [] else [f]))
  | [], s => by simp [iterTextFrom, feedAll]
  | c :: cs, s => by
    simp only [iterTextFrom, feedAll]
    cases D.feed s c with
    | none => rfl
    | some r =>
      simp only [iterTextFrom_feedAll D cs]
      cases feedAll D r.1 cs with
      | none => rfl
      | some r2 => simp only [Option.map_some, Option.map_map]; rfl

theorem iterTextI_ref {σ : Type} (D : Decoder σ) (chunks : List Bytes) :
    iterTextI D chunks refIterText = some (iterText D chunks) := by
  rw [iterText, iterTextFrom_feedAll]
  cases hfa : feedAll D D.init chunks with
  | none => simp [iterTextI, refIterText, textStep, hfa]
  | some r => cases hfl : D.flush r.1 <;> simp [iterTextI, refIterText, textStep, hfa, hfl]

theorem defaultOf_ref : defaultOf refIterText = some .iso8859_1 := rfl

theorem readerI_ref (bufferNow : Bool) (cs : List Bytes) :
    readerI bufferNow cs refReader .evaluateEachTime = some (if bufferNow then .buffered cs else .evaluateEachTime) := by
  simp [readerI, refReader]

/-- the state is the one `refChunks.pre` leaves: the loop is entered after the read that precedes it -/
theorem loopI_ref (n : Nat) : ∀ (f : Nat) (rem : Bytes) (caps : List Nat) (out : List Bytes),
    (loopI n refChunks.body f (cRead n { rem := rem, caps := caps, out := out })).out = out ++ chunksF f n caps rem
    ∧ (loopI n refChunks.body f (cRead n { rem := rem, caps := caps, out := out })).bad = false
  | 0, _, _, out => ⟨(List.append_nil out).symm, rfl⟩
  | f + 1, rem, caps, out => by
    simp only [loopI, chunksF, cRead]
    split
    · simp only [List.append_nil, and_self]
    · rw [List.append_cons out _ (chunksF _ _ _ _)]
      exact loopI_ref n f _ _ _

theorem chunksI_ref (n : Nat) (caps : List Nat) (rem : Bytes) : chunksI refChunks n caps rem = some (chunks n caps rem) := by
  have h := loopI_ref n (rem.length + 1) rem caps []
  simp only [chunksI, refChunks, List.foldl, preStep, Option.isSome_none, Bool.false_eq_true, if_false] at h ⊢
  rw [if_neg (by rw [h.2]; decide), h.1]; rfl

theorem loopTrueI_ref (n : Nat) : ∀ (f : Nat) (rem : Bytes) (caps : List Nat) (cur : Option Bytes) (out : List Bytes),
    (loopTrueI n refChunksRotated.body f { rem := rem, caps := caps, cur := cur, out := out }).out = out ++ chunksF f n caps rem
    ∧ (loopTrueI n refChunksRotated.body f { rem := rem, caps := caps, cur := cur, out := out }).bad = false := by
  intro f
  induction f with
  | zero => intro _ _ _ out; exact ⟨(List.append_nil out).symm, rfl⟩
  | succ f ih =>
    intro rem caps cur out
    simp only [loopTrueI, chunksF, refChunksRotated, List.foldl, bodyStep, cRead, Bool.false_eq_true, if_false]
    by_cases h : (List.take (readLimit n caps) rem).isEmpty = true
    · simp only [h, if_true, List.append_nil, and_self]
    · simp only [h, Bool.false_eq_true, if_false]
      rw [List.append_cons out _ (chunksF _ _ _ _)]
      exact ih _ _ _ _

theorem chunksI_refRotated (n : Nat) (caps : List Nat) (rem : Bytes) :
    chunksI refChunksRotated n caps rem = some (chunks n caps rem) := by
  have h := loopTrueI_ref n (rem.length + 1) rem caps none []
  simp only [refChunksRotated] at h
  simp only [chunksI, refChunksRotated, List.foldl, preStep, Option.isSome_none, Bool.false_eq_true, if_false, h.2]
  simp [h.1, chunks]

theorem quoteI_ref (v : Text) : quoteI refRepr.quote v = quoteValue v := by
  simp only [refRepr, quoteI, List.foldl, replace1]
  induction v with
  | nil => rfl
  | cons c cs ih =>
    rw [List.flatMap_cons, List.flatMap_append, ih, quoteValue]
    by_cases h1 : c = 92
    · subst h1; rfl
    · by_cases h2 : c = 34
      · subst h2; rfl
      · simp [h1, h2, chBackslash, chQuote]

theorem itemI_ref (p : Text × Text) : itemI refRepr p = renderParam p := by
  rw [renderParam, ← quoteI_ref]
  simp [itemI, refRepr, chEq, chQuote]

theorem joinI_ref : ∀ xs : List Text, xs ≠ [] → [59, 32] ++ joinI [59, 32] xs = joinParams xs
  | [], h => absurd rfl h
  | [x], _ => by simp [joinI, joinParams, chSemi, chSpace]
  | x :: y :: xs, _ => by
      have ih := joinI_ref (y :: xs) (by simp)
      rw [joinI, joinParams, ← ih]
      simp [chSemi, chSpace]

theorem renderI_ref (ct : CT) : renderI refRepr ct = render ct := by
  have hmap : ct.params.map (itemI refRepr) = ct.params.map renderParam := List.map_congr_left fun p _ => itemI_ref p
  simp only [renderI, render, hmap]
  simp only [refRepr, if_true, Bool.true_and, chSlash]
  cases hps : ct.params with
  | nil => simp [joinParams]
  | cons p ps =>
    have hj := joinI_ref ((List.map renderParam (p :: ps)).mergeSort lexLe) (List.ne_nil_of_length_pos (by simp))
    simp only [List.map_cons] at hj ⊢
    simp [← hj]

theorem fixI_ref (ps : List (Text × Text)) : fixI refFix ps = fixCharset ps := by
  by_cases h : (ps.any fun x => x.1 == charsetName) = true
  · simp [fixI, refFix, fixCharset, cutAt, h]
  · rw [show fixI refFix ps = ps from if_neg h, fixCharset]
    simp only [Bool.not_eq_true, List.any_eq_false, beq_iff_eq] at h
    exact ((List.map_congr_left fun p hp => if_neg (h p hp)).trans (List.map_id' ps)).symm

end TTV.ContentSkel
