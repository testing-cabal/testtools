import TTV.Lemmas.ResEmit
/-! A generic fact about adapter graphs: if an abstraction `abs` of leaf states moves under every call `c` by
`act c`, and all calls other than `startTestRun`, `stopTestRun`, `startTest` and outcomes are neutral for it, then
one call on the root moves the abstraction of every leaf by `act c` (`act_step`), whatever adapters of an `okShape` graph
are in between: no stream pipeline, `ExtendedToOriginalDecorator`s only over targets the action copes with (`capsOk`), and
no `ThreadsafeForwardingResult` if the action counts `startTest` (`tfrFree`).
(Used for C04: verdict, text summary.) -/
namespace TTV.Lemmas.LeafAct
open TTV.Result TTV.Spec.C08 TTV.Lemmas.ResEmit

/-- the calls an abstraction of the leaves may react to; an adapter may hold back, add or drop any other -/
def Call.key : Call → Bool
  | .startTestRun | .stopTestRun | .startTest _ | .add .. => true
  | _ => false

structure Action (α : Type) where
  abs : LeafSt → α
  act : Call → α → α
  neutral : ∀ c, Call.key c = false → ∀ a, act c a = a
  leaf_sink : ∀ f (st : Sink) c, abs (.sink f (sinkStep f st c)) = act c (abs (.sink f st))
  leaf_tt : ∀ (st : TT) c, abs (.tt (ttStep st c)) = act c (abs (.tt st))
  leaf_text : ∀ (st : TextSt) c, abs (.text (textStep st c)) = act c (abs (.text st))
  leaf_tbt : ∀ (st : TbtSt) c, abs (.tbt (tbtStep st c)) = act c (abs (.tbt st))
  /-- the targets of `ExtendedToOriginalDecorator`s the action can cope with; they take `startTestRun`, which is not
  neutral: a decorator that swallows it would leave the leaf behind `act` -/
  capsOk : Caps → Bool
  capsRun : ∀ caps, capsOk caps = true → caps.startRun = true
  degrade : ∀ caps, capsOk caps = true → ∀ k t x a, act (degradeCall caps (.add k t x)) a = act (.add k t x) a
  /-- the action counts `startTest` (which a `ThreadsafeForwardingResult` holds back until the outcome), so it is
  good for shapes without `ThreadsafeForwardingResult` only; otherwise `startTest` is neutral -/
  tfrFree : Bool
  startNeutral : tfrFree = false → ∀ t a, act (.startTest t) a = a

/- the graphs an action copes with, by the two fields of it that decide (`okShape`): one function for every `α` -/
mutual
def okShapeG (capsOk : Caps → Bool) (tfrFree : Bool) : Shape → Bool
  | .sink _ | .fsink _ _ _ | .tt _ | .text _ | .tbt => true
  | .etod c => capsOk (caps c) && okShapeG capsOk tfrFree c
  | .deco c | .tagger _ _ c => okShapeG capsOk tfrFree c
  | .tfr c => !tfrFree && okShapeG capsOk tfrFree c
  | .multi cs => okShapeGL capsOk tfrFree cs
  | .e2s _ | .sff => false
def okShapeGL (capsOk : Caps → Bool) (tfrFree : Bool) : List Shape → Bool
  | [] => true
  | c :: cs => okShapeG capsOk tfrFree c && okShapeGL capsOk tfrFree cs
end

variable {α : Type} (A : Action α)

def okShape (s : Shape) : Bool := okShapeG A.capsOk A.tfrFree s
def okShapeL (ss : List Shape) : Bool := okShapeGL A.capsOk A.tfrFree ss

/-! what the adapters send, folded with any `act` that is neutral outside the key calls (that of an `Action`, or
`upd` of `ResVerdict`, which `ResLeafwise` walks) -/
section act
variable {act : Call → α → α} (neutral : ∀ c, Call.key c = false → ∀ a, act c a = a)
include neutral

theorem foldl_neutral (cs : List Call) (h : ∀ c ∈ cs, Call.key c = false) (a : α) :
    cs.foldl (fun a c => act c a) a = a := by
  induction cs generalizing a with
  | nil => rfl
  | cons c cs ih =>
    simp only [List.foldl_cons]
    rw [neutral c (h c List.mem_cons_self), ih (fun x hx => h x (List.mem_cons_of_mem _ hx))]

theorem foldl_stops (k : Nat) (a : α) : (List.replicate k Call.stop).foldl (fun a c => act c a) a = a :=
  foldl_neutral neutral _ (fun _ hc => List.eq_of_mem_replicate hc ▸ rfl) a

theorem foldl_opt (b : Bool) {c : Call} (hc : Call.key c = false) (a : α) :
    (if b then [c] else []).foldl (fun a c => act c a) a = a := by
  cases b
  · rfl
  · exact neutral c hc a

theorem act_main {caps : Caps} (hr : caps.startRun = true)
    (degrade : ∀ k t x a, act (degradeCall caps (.add k t x)) a = act (.add k t x) a) (c : Call) (a : α) :
    (etodMain caps c).foldl (fun a c => act c a) a = act c a := by
  cases c with
  | add k t x => exact degrade k t x a
  | startTest _ | stopTest _ => rfl
  | startTestRun | stopTestRun =>
    show List.foldl _ a (if caps.startRun then _ else _) = _
    rw [hr]; rfl
  | stop => exact (neutral .stop rfl a).symm
  | tags _ _ | time _ | progress | done | setFailfast _ => exact (foldl_opt neutral _ rfl a).trans (neutral _ rfl a).symm

theorem tfrBlock_act (hs : ∀ t a, act (.startTest t) a = a) (own : TfrOwn) (k : Kind) (t : Nat) (x : Arg) (a : α) :
    (tfrBlock own k t x).foldl (fun a c => act c a) a = act (.add k t x) a := by
  unfold tfrBlock
  simp only [List.foldl_append, List.foldl_cons, List.foldl_nil]
  rw [neutral (.time own.testStart) rfl, hs, neutral (.time own.tt.clock) rfl]
  rw [foldl_opt neutral _ (c := .tags _ _) rfl, foldl_opt neutral _ (c := .tags _ _) rfl, neutral (.stopTest t) rfl]

theorem tfrSent_act (hs : ∀ t a, act (.startTest t) a = a) (own : TfrOwn) (c : Call) (a : α) :
    (tfrSent own c).foldl (fun a c => act c a) a = act c a := by
  cases c with
  | add k t x =>
    show (tfrBlock own k t x ++ tfrStops own k).foldl _ a = _
    rw [List.foldl_append, tfrBlock_act neutral hs own k t x,
      foldl_neutral neutral _ (fun c hc => by rw [mem_tfrStops own k c hc]; rfl)]
  | startTestRun | stopTestRun | stop | done => rfl
  | startTest t => exact (hs t a).symm
  | stopTest _ | tags _ _ | time _ | setFailfast _ | progress => exact (neutral _ rfl a).symm

theorem decoPass_act (c : Call) (a : α) : (decoPass [c]).foldl (fun a c => act c a) a = act c a := by
  cases c <;> first | rfl | exact (neutral .done rfl a).symm

theorem taggerPass_act (n g : TagSet) (c : Call) (a : α) :
    (taggerPass n g [c]).foldl (fun a c => act c a) a = act c a := by
  cases c <;> first | rfl | exact (neutral .done rfl a).symm | exact neutral (.tags n g) rfl _
end act

def leavesAbs (s : Shape) (st : St s) : List α := (leaves s st).map A.abs

theorem leavesAbs_foldl {s : Shape}
    (h : ∀ (c : Call) (st : St s), leavesAbs A s (step s st c) = (leavesAbs A s st).map (A.act c)) :
    ∀ (cs : List Call) (st : St s),
      leavesAbs A s (cs.foldl (step s) st) = (leavesAbs A s st).map (fun a => cs.foldl (fun a c => A.act c a) a)
  | [], st => by simp
  | c :: cs, st => by simp [leavesAbs_foldl h cs, h c st, List.map_map, Function.comp_def]

theorem act_sent {ch : Shape} (ih : ∀ c st, leavesAbs A ch (step ch st c) = (leavesAbs A ch st).map (A.act c))
    {st st' : St ch} {em : List Call} {c : Call} (he : st' = em.foldl (step ch) st)
    (ha : ∀ a, em.foldl (fun a c => A.act c a) a = A.act c a) :
    leavesAbs A ch st' = (leavesAbs A ch st).map (A.act c) := by
  rw [he, leavesAbs_foldl A ih]; simp only [ha]

mutual
theorem act_step : ∀ (s : Shape), okShape A s = true → ∀ (c : Call) (st : St s),
    leavesAbs A s (step s st c) = (leavesAbs A s st).map (A.act c)
  | .sink f | .fsink _ _ f => fun _ c st => congrArg ([·]) (A.leaf_sink f st c)
  | .tt _ => fun _ c st => congrArg ([·]) (A.leaf_tt st c)
  | .text _ => fun _ c st => congrArg ([·]) (A.leaf_text st c)
  | .tbt => fun _ c st => congrArg ([·]) (A.leaf_tbt st c)
  | .etod ch => fun hs c (own, inner) =>
      have hs := Bool.and_eq_true_iff.mp hs
      have ⟨k, hk⟩ := etodStep_emits ⟨caps ch, step ch, failfastOf ch⟩ own inner c
      act_sent A (act_step ch hs.2) hk fun a => by
        rw [List.foldl_append, foldl_stops A.neutral, act_main A.neutral (A.capsRun _ hs.1) (A.degrade _ hs.1)]
  | .tfr ch => fun hs c (own, inner) =>
      have hs := Bool.and_eq_true_iff.mp hs
      act_sent A (act_step ch hs.2) (tfrStep_sent ⟨caps ch, step ch, failfastOf ch⟩ own inner c)
        (tfrSent_act A.neutral (A.startNeutral (by simpa using hs.1)) own c)
  | .deco ch => fun hs c st => act_sent A (act_step ch hs) (step_deco ch st c) (decoPass_act A.neutral c)
  | .tagger n g ch => fun hs c st => act_sent A (act_step ch hs) (step_tagger n g ch st c) (taggerPass_act A.neutral n g c)
  | .multi ss => fun hs c (own, inner) =>
      multi_keeps (X := fun st => (leavesL ss st).map A.abs = ((leavesL ss inner).map A.abs).map (A.act c)) own inner c
        (fun hp => hp ▸ (List.map_id'' (A.neutral .progress rfl) _).symm) (act_stepL ss hs inner c)
  | .e2s _ | .sff => fun hs => Bool.noConfusion hs
theorem act_stepL : ∀ (ss : List Shape), okShapeL A ss = true → ∀ (st : StL ss) (c : Call),
    (leavesL ss (stepL ss st c)).map A.abs = ((leavesL ss st).map A.abs).map (A.act c)
  | [] => fun _ _ _ => rfl
  | s :: ss => fun hs (x, xs) c => by
      have hs := Bool.and_eq_true_iff.mp hs
      simp only [leavesL, stepL, List.map_append, act_stepL ss hs.2 xs c]
      exact congrArg (· ++ _) (act_step s hs.1 c x)
end

theorem act_steps (s : Shape) (hs : okShape A s = true) (cs : List Call) (st : St s) :
    leavesAbs A s (cs.foldl (step s) st) = (leavesAbs A s st).map (fun a => cs.foldl (fun a c => A.act c a) a) :=
  leavesAbs_foldl A (act_step A s hs) cs st

theorem act_mem (s : Shape) (hs : okShape A s = true) (cs : List Call) (st : St s) {l : LeafSt}
    (hl : l ∈ leaves s (cs.foldl (step s) st)) :
    ∃ l0 ∈ leaves s st, A.abs l = cs.foldl (fun a c => A.act c a) (A.abs l0) := by
  have hm : A.abs l ∈ leavesAbs A s (cs.foldl (step s) st) := List.mem_map_of_mem hl
  rw [act_steps A s hs] at hm
  obtain ⟨a, ha, hal⟩ := List.mem_map.mp hm
  obtain ⟨l0, hl0, rfl⟩ := List.mem_map.mp ha
  exact ⟨l0, hl0, hal.symm⟩

end TTV.Lemmas.LeafAct
