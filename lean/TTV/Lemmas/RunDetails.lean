import TTV.Spec.C05
/-! The details dict of M-Run: `addUnique` (`addDetailUniqueName`, `gather_details`) and `reportTb` (`_report_traceback`)
store under a fresh name and so never overwrite; plain `addDetail` (`dset`) overwrites, and the clobber flag records when
it overwrites what no plain `addDetail` had set.  The invariant `J` of the dict alone, with ghost accumulators: `T` =
tracebacks reported so far, `A` = plain `addDetail` calls so far, `U` = details added under unique names so far
(original name, stored content).  Two layers follow: `JS` (`RunDetailsWalk`) is `J` of the dict, the plain names and
the flag of a run state; `InvD` (`RunDetailsCore`) is `JS` with `T` and `A` tied to what the run has executed. -/
namespace TTV.Run
open TTV.Spec.Run TTV.Spec.C05

theorem dmem_iff (d : Details) (n : DName) : dmem d n = true ↔ n ∈ dnames d := by
  simp only [dmem, dnames, List.any_eq_true, List.mem_map, beq_iff_eq]

theorem dset_of_not_mem (d : Details) (n : DName) (c : Content) (h : n ∉ dnames d) : dset d n c = d ++ [(n, c)] := by
  induction d with
  | nil => rfl
  | cons x d ih =>
    simp only [dnames, List.map_cons, List.mem_cons, not_or] at h
    simp only [dset, Ne.symm h.1, if_false, List.cons_append, ih h.2]

theorem dset_of_mem (d : Details) (n : DName) (c : Content) (h : n ∈ dnames d) :
    ∃ d1 c0 d2, d = d1 ++ (n, c0) :: d2 ∧ dset d n c = d1 ++ (n, c) :: d2 := by
  induction d with
  | nil => simp [dnames] at h
  | cons x d ih =>
    obtain ⟨m, y⟩ := x
    by_cases hm : m = n
    · subst hm
      exact ⟨[], y, d, rfl, by simp [dset]⟩
    · have h' : n ∈ dnames d := by
        simp only [dnames, List.map_cons, List.mem_cons] at h
        rcases h with h | h
        · exact absurd h.symm hm
        · exact h
      obtain ⟨d1, c0, d2, e1, e3⟩ := ih h'
      exact ⟨(m, y) :: d1, c0, d2, by rw [e1]; rfl, by simp [dset, hm, e3]⟩

theorem dnames_dset (d : Details) (n : DName) (c : Content) :
    dnames (dset d n c) = if n ∈ dnames d then dnames d else dnames d ++ [n] := by
  split
  · rename_i h
    obtain ⟨d1, c0, d2, e1, e3⟩ := dset_of_mem d n c h
    rw [e3, e1]; simp [dnames]
  · rename_i h
    rw [dset_of_not_mem d n c h]; simp [dnames]

theorem mem_dnames_dset (d : Details) (n : DName) (c : Content) (m : DName) :
    m ∈ dnames (dset d n c) ↔ m = n ∨ m ∈ dnames d := by
  rw [dnames_dset]
  split
  · rename_i h
    exact ⟨Or.inr, fun h' => h'.elim (· ▸ h) id⟩
  · simp only [List.mem_append, List.mem_singleton, or_comm]

theorem nodup_dset (d : Details) (n : DName) (c : Content) (h : (dnames d).Nodup) : (dnames (dset d n c)).Nodup := by
  rw [dnames_dset]
  split
  · exact h
  · rename_i hn
    exact List.nodup_append.mpr ⟨h, List.pairwise_singleton _ n, fun a ha b hb e => hn (List.mem_singleton.mp hb ▸ e ▸ ha)⟩

theorem length_dset_le (d : Details) (n : DName) (c : Content) : d.length ≤ (dset d n c).length := by
  induction d with
  | nil => simp [dset]
  | cons x d ih =>
    obtain ⟨m, y⟩ := x
    simp only [dset]; split <;> simp [ih]

theorem mem_dset (d : Details) (n : DName) (c : Content) (hnd : (dnames d).Nodup) (x : DName × Content) :
    x ∈ dset d n c ↔ x = (n, c) ∨ (x ∈ d ∧ x.1 ≠ n) := by
  induction d with
  | nil => simp [dset]
  | cons y d ih =>
    simp only [dnames, List.map_cons, List.nodup_cons] at hnd
    simp only [dset]
    split
    · rename_i h
      simp only [List.mem_cons, ← h]
      constructor
      · rintro (h' | h')
        · exact Or.inl h'
        · exact Or.inr ⟨Or.inr h', fun e => hnd.1 (e ▸ List.mem_map_of_mem h')⟩
      · rintro (h' | ⟨rfl | h', hne⟩)
        · exact Or.inl h'
        · exact absurd rfl hne
        · exact Or.inr h'
    · rename_i h
      simp only [List.mem_cons, ih hnd.2]
      constructor
      · rintro (rfl | h' | h')
        · exact Or.inr ⟨Or.inl rfl, h⟩
        · exact Or.inl h'
        · exact Or.inr ⟨Or.inr h'.1, h'.2⟩
      · rintro (h' | ⟨h' | h', hne⟩)
        · exact Or.inr (Or.inl h')
        · exact Or.inl h'
        · exact Or.inr (Or.inr ⟨h', hne⟩)

theorem find_dset_self (d : Details) (n : DName) (c : Content) : (dset d n c).find? (·.1 == n) = some (n, c) := by
  induction d with
  | nil => simp [dset]
  | cons x d ih =>
    simp only [dset]
    split
    · rename_i h; simp [h]
    · rename_i h; simp [h, ih]

theorem find_dset_other (d : Details) (n m : DName) (c : Content) (h : m ≠ n) :
    (dset d n c).find? (·.1 == m) = d.find? (·.1 == m) := by
  induction d with
  | nil => simp [dset, h.symm]
  | cons x d ih =>
    simp only [dset]
    split
    · rename_i hk; simp [hk, h.symm]
    · simp only [List.find?_cons, ih]

theorem find_of_mem_nodup : ∀ (d : Details), (dnames d).Nodup → ∀ x ∈ d, d.find? (fun y => y.1 == x.1) = some x
  | [], _, x, hx => by simp at hx
  | y :: d, hnd, x, hx => by
    simp only [dnames, List.map_cons, List.nodup_cons] at hnd
    simp only [List.mem_cons] at hx
    rcases hx with rfl | hx
    · simp
    · have hne : (y.1 == x.1) = false := by
        simp only [beq_eq_false_iff_ne, ne_eq]
        intro e; exact hnd.1 (e ▸ List.mem_map_of_mem hx)
      simp only [List.find?_cons, hne]
      exact find_of_mem_nodup d hnd.2 x hx

theorem filterMap_dset_none {β : Type} (g : DName × Content → Option β) (d : Details) (n : DName) (c : Content)
    (hnew : g (n, c) = none) (hold : ∀ x ∈ d, x.1 = n → g x = none) :
    (dset d n c).filterMap g = d.filterMap g := by
  induction d with
  | nil => simp [dset, hnew]
  | cons x d ih =>
    obtain ⟨m, y⟩ := x
    simp only [dset]
    split
    · rename_i h; subst h
      have := hold (m, y) List.mem_cons_self rfl
      simp [hnew, this]
    · simp only [List.filterMap_cons]
      rw [ih (fun x hx => hold x (List.mem_cons_of_mem _ hx))]

theorem filter_dset_none (q : DName × Content → Bool) (d : Details) (n : DName) (c : Content)
    (hnew : q (n, c) = false) (hold : ∀ x ∈ d, x.1 = n → q x = false) :
    (dset d n c).filter q = d.filter q := by
  simp only [← List.filterMap_eq_filter]
  exact filterMap_dset_none _ d n c (by simp [Option.guard, hnew]) fun x hx hn => by simp [Option.guard, hold x hx hn]

theorem push_ne (n : DName) (k : Nat) : n.push k ≠ n := by
  intro h
  have := congrArg (fun x => x.sufs.length) h
  simp [DName.push] at this

theorem push_inj (n : DName) (j k : Nat) (h : n.push j = n.push k) : j = k := by
  have := congrArg DName.sufs h
  simpa [DName.push] using this

/-- the `k`-th name the loop of `addDetailUniqueName` / `gather_details` tries: `n`, `n-1`, `n-2`, … -/
def uniqCand (n : DName) (k : Nat) : DName := if k = 0 then n else n.push k

theorem uniqCand_inj (n : DName) {i j : Nat} (h : uniqCand n i = uniqCand n j) : i = j := by
  unfold uniqCand at h
  split at h <;> split at h
  · omega
  · exact absurd h.symm (push_ne n j)
  · exact absurd h (push_ne n i)
  · exact push_inj n i j h

/-- the candidates are pairwise distinct, so removing a rejected one from `taken` (which is what makes `uniqFrom` terminate)
changes no later test, and the model's loop is the code's `while full_name in existing_details` -/
theorem uniqFrom_spec (n : DName) (k : Nat) (taken : List DName) :
    ∃ j, k ≤ j ∧ uniqFrom n k taken = uniqCand n j ∧ uniqCand n j ∉ taken ∧
      ∀ i, k ≤ i → i < j → uniqCand n i ∈ taken := by
  fun_induction uniqFrom n k taken with
  | case1 k taken c h ih =>
    obtain ⟨j, hkj, e, hfree, hfirst⟩ := ih
    have hne : uniqCand n j ≠ uniqCand n k := fun e => by have := uniqCand_inj n e; omega
    refine ⟨j, by omega, e, fun hm => hfree ((List.mem_erase_of_ne hne).mpr hm), fun i hki hij => ?_⟩
    by_cases hik : i = k
    · exact hik ▸ h
    · exact List.mem_of_mem_erase (hfirst i (by omega) hij)
  | case2 k taken c h => exact ⟨k, Nat.le_refl k, rfl, h, fun i hki hik => by omega⟩

theorem uniq_not_mem (d : Details) (n : DName) : uniq d n ∉ dnames d := by
  obtain ⟨j, -, e, hfree, -⟩ := uniqFrom_spec n 0 (dnames d)
  rwa [uniq, e]

theorem uniq_ne_reason (d : Details) (n : DName) (h : n ≠ nmReason) : uniq d n ≠ nmReason := by
  obtain ⟨j, -, e, -, -⟩ := uniqFrom_spec n 0 (dnames d)
  rw [uniq, e, uniqCand]
  split
  · exact h
  · intro h'
    simpa [DName.push, nmReason] using congrArg DName.sufs h'

theorem uniq_renaming (d : Details) (n : DName) : isRenaming n (uniq d n) = true := by
  obtain ⟨j, -, e, -, -⟩ := uniqFrom_spec n 0 (dnames d)
  rw [uniq, e, uniqCand]
  split <;> simp [isRenaming, DName.push]

/-- the labels `tbLabel` tries grow by one suffix each, so every label it finds taken lowers this count for the next one
(`longNames_succ_lt`) -/
def longNames (names : List DName) (k : Nat) : Nat := (names.filter fun n => decide (k ≤ n.sufs.length)).length

theorem longNames_succ_lt (names : List DName) (l : DName) (h : l ∈ names) :
    longNames names (l.sufs.length + 1) < longNames names l.sufs.length := by
  have e : names.filter (fun n => decide (l.sufs.length + 1 ≤ n.sufs.length)) =
      (names.filter fun n => decide (l.sufs.length ≤ n.sufs.length)).filter
        (fun n => decide (l.sufs.length + 1 ≤ n.sufs.length)) := by
    rw [List.filter_filter]
    exact List.filter_congr fun n _ => by
      by_cases h1 : l.sufs.length + 1 ≤ n.sufs.length <;> simp [h1]; omega
  rw [longNames, longNames, e, List.length_filter_lt_length_iff_exists]
  exact ⟨l, List.mem_filter.mpr ⟨h, by simp⟩, by simp⟩

/-- the label found is free, if the fuel exceeds the number of names at least as long as the first label tried (fuel 0
returns its label unchecked, hence `<`) -/
theorem tbLabel_fresh (names : List DName) : ∀ (fuel c : Nat) (l : DName),
    longNames names (l.sufs.length + (if c = 0 then 0 else 1)) < fuel → (tbLabel names fuel c l).1 ∉ names
  | 0, _, _, h => by omega
  | fuel + 1, c, l, h => by
    have hlen : (if c = 0 then l else l.push c).sufs.length = l.sufs.length + (if c = 0 then 0 else 1) := by
      split <;> simp [DName.push]
    simp only [tbLabel]
    generalize (if c = 0 then l else l.push c) = l' at hlen
    split
    · rename_i hm
      apply tbLabel_fresh names fuel (c + 1)
      simp only [Nat.add_eq_zero_iff, Nat.succ_ne_self, and_false, if_false]
      have := longNames_succ_lt names _ hm
      rw [hlen] at this ⊢
      omega
    · rename_i hm; exact hm

theorem tbLabel_base (names : List DName) : ∀ (fuel c : Nat) (l : DName), (tbLabel names fuel c l).1.base = l.base
  | 0, _, _ => rfl
  | fuel + 1, c, l => by
    have hb : (if c = 0 then l else l.push c).base = l.base := by split <;> simp [DName.push]
    simp only [tbLabel]
    generalize (if c = 0 then l else l.push c) = l' at hb
    split
    · rw [tbLabel_base names fuel, hb]
    · exact hb

/-- the label `_report_traceback` stores under -/
def tbName (s : RS) : DName := (tbLabel (dnames s.details) (s.details.length + 2) s.tbCount nmTraceback).1

theorem reportTb_details (s : RS) (e : Exc) : (reportTb s e).details = dset s.details (tbName s) (.tb e) := by
  simp [reportTb, tbName]

theorem tbName_fresh (s : RS) : tbName s ∉ dnames s.details := by
  apply tbLabel_fresh
  -- `reportTb` gives fuel `length + 2`: `longNames ≤ length`, and one to spare
  have : longNames (dnames s.details) (nmTraceback.sufs.length + (if s.tbCount = 0 then 0 else 1)) ≤ _ :=
    List.length_filter_le _ _
  simp only [dnames, List.length_map] at this ⊢
  omega

theorem tbName_ne_reason (s : RS) : tbName s ≠ nmReason := by
  intro h
  have := congrArg DName.base h
  rw [tbName, tbLabel_base] at this
  simp [nmTraceback, nmReason] at this

theorem freeze_cases (c : Content) : (∀ t, freeze t c = c) ∨ ∃ i, c = .user ⟨i, true⟩ := by
  cases c with
  | user u =>
    obtain ⟨i, l⟩ := u
    cases l
    · exact Or.inl fun _ => rfl
    · exact Or.inr ⟨i, rfl⟩
  | _ => exact Or.inl fun _ => rfl

theorem freeze_idem (a b : Nat) (c : Content) : freeze a (freeze b c) = freeze b c := by
  rcases freeze_cases c with h | ⟨i, rfl⟩
  · rw [h, h]
  · rfl

theorem freeze_user (k : Nat) (c : UC) : freeze k (.user c) = evalAt k c := by
  obtain ⟨i, l⟩ := c
  cases l <;> simp [freeze, evalAt]

def tbOf : DName × Content → Option Exc
  | (_, .tb e) => some e
  | (_, .user _) => none
  | (_, .frozen _ _) => none
  | (_, .expectation _) => none
  | (_, .reason _) => none

theorem tbOf_freeze (k : Nat) (x : DName × Content) : tbOf (x.1, freeze k x.2) = tbOf x := by
  rcases freeze_cases x.2 with h | ⟨i, h⟩
  · rw [h]
  · obtain ⟨n, c⟩ := x; subst h; rfl

theorem tbsIn_eq (d : Details) : tbsIn d = d.filterMap tbOf := by
  unfold tbsIn
  congr 1
  funext x
  obtain ⟨n, c⟩ := x
  cases c <;> rfl

/-- the content kinds `addDetailUniqueName` / `gather_details` store ("uq" = under a unique name).  Plain `addDetail`
stores `.user _` as well: what separates the two is the name, see `uqEntries` -/
def isUq : Content → Bool
  | .user _ => true
  | .frozen _ _ => true
  | .expectation _ => true
  | .tb _ => false
  | .reason _ => false

theorem isUq_freeze (k : Nat) (c : Content) : isUq (freeze k c) = isUq c := by
  rcases freeze_cases c with h | ⟨i, rfl⟩
  · rw [h]
  · rfl

/-- entries that were stored under a unique name: not (re)set by a plain `addDetail` -/
def uqEntries (d : Details) (pl : List DName) : Details := d.filter fun x => !pl.contains x.1 && isUq x.2

theorem mem_uqEntries (d : Details) (pl : List DName) (x : DName × Content) :
    x ∈ uqEntries d pl ↔ x ∈ d ∧ x.1 ∉ pl ∧ isUq x.2 = true := by
  simp [uqEntries]

def lastAdd (A : List (DName × UC)) (n : DName) : Option UC := (A.reverse.find? (·.1 == n)).map (·.2)

theorem lastAdd_append (A : List (DName × UC)) (m : DName) (c : UC) (n : DName) :
    lastAdd (A ++ [(m, c)]) n = if m = n then some c else lastAdd A n := by
  by_cases h : m = n <;> simp [lastAdd, h]

theorem lastAdd_mem (A : List (DName × UC)) (n : DName) (c : UC) (h : lastAdd A n = some c) : (n, c) ∈ A := by
  simp only [lastAdd, Option.map_eq_some_iff] at h
  obtain ⟨x, hx, rfl⟩ := h
  have h1 := List.mem_of_find?_eq_some hx
  have h2 := List.find?_some hx
  simp only [beq_iff_eq] at h2
  rw [← h2]
  simpa using h1

theorem lastAdd_some_of_mem (A : List (DName × UC)) (n : DName) (h : n ∈ A.map (·.1)) : ∃ c, lastAdd A n = some c := by
  obtain ⟨x, hx, he⟩ := List.mem_map.mp h
  unfold lastAdd
  cases hf : A.reverse.find? (fun x => x.1 == n) with
  | some y => exact ⟨y.2, rfl⟩
  | none =>
    have := List.find?_eq_none.mp hf x (by simpa using hx)
    simp [he] at this

theorem lastAdd_of_idx (A : List (DName × UC)) (n : DName) (c : UC) (i : Nat) (h : A[i]? = some (n, c))
    (hno : (A.drop (i + 1)).any (fun x => x.1 == n) = false) : lastAdd A n = some c := by
  obtain ⟨hi, hget⟩ := List.getElem?_eq_some_iff.mp h
  have hA : A = A.take i ++ (n, c) :: A.drop (i + 1) := by
    rw [← hget, ← List.drop_eq_getElem_cons hi, List.take_append_drop]
  have hnone : (A.drop (i + 1)).reverse.find? (fun x => x.1 == n) = none := by
    rw [List.find?_eq_none]
    intro x hx
    have := List.any_eq_false.mp hno x (by simpa using hx)
    simpa using this
  unfold lastAdd
  rw [hA]
  simp only [List.reverse_append, List.reverse_cons, List.append_assoc, List.find?_append, hnone, Option.none_or]
  simp

/-- `Match2 us xs`: entry by entry, `xs` holds the contents of `us` under renamings of their names.  In order, so that the two
lists have the same contents as lists (`Match2_contents`): that turns "stored exactly once" into `Nodup` of the contents of
the ghost list (`stored_once` in `Props/C05.lean`). -/
def Match2 : List (DName × Content) → List (DName × Content) → Prop
  | [], [] => True
  | u :: us, x :: xs => x.2 = u.2 ∧ isRenaming u.1 x.1 = true ∧ Match2 us xs
  | [], _ :: _ => False
  | _ :: _, [] => False

theorem Match2_append {us xs us' xs' : List (DName × Content)} (h : Match2 us xs) (h' : Match2 us' xs') :
    Match2 (us ++ us') (xs ++ xs') := by
  induction us generalizing xs with
  | nil => cases xs with
    | nil => exact h'
    | cons x xs => exact False.elim h
  | cons u us ih => cases xs with
    | nil => exact False.elim h
    | cons x xs => exact ⟨h.1, h.2.1, ih h.2.2⟩

theorem Match2_contents : ∀ (U E : List (DName × Content)), Match2 U E → E.map (·.2) = U.map (·.2)
  | [], [], _ => rfl
  | [], _ :: _, h | _ :: _, [], h => False.elim h
  | u :: us, x :: xs, h => by simp [h.1, Match2_contents us xs h.2.2]

theorem Match2_mem : ∀ (U E : List (DName × Content)), Match2 U E →
    ∀ u ∈ U, ∃ m, (m, u.2) ∈ E ∧ isRenaming u.1 m = true
  | [], _, _, u, hu => by simp at hu
  | _ :: _, [], h, _, _ => False.elim h
  | u0 :: us, x :: xs, h, u, hu => by
    rcases List.mem_cons.mp hu with rfl | hu
    · exact ⟨x.1, by rw [← h.1]; exact List.mem_cons_self, h.2.1⟩
    · obtain ⟨m, hm, hr⟩ := Match2_mem us xs h.2.2 u hu
      exact ⟨m, List.mem_cons_of_mem _ hm, hr⟩

/-- `d` is the details dict, `pl` the names set by plain `addDetail`, `cl` the clobber flag: a plain `addDetail` has replaced an
entry that no plain `addDetail` had set.  `plainNe`: `reason` is not among the plain names (the framework sets it itself);
`ud` ("user detail"): a name set by plain `addDetail` holds what the last such call gave it.  `plainUser`, `reason`: what a
plain `addDetail` of a plain name, or the framework's own write of `reason`, replaces is a `.user` / `.reason` entry, so the
overwrite is invisible to `tbsIn` and `uqEntries`.
`tbs`, `uqs`: the tracebacks in the dict are `T`, and the entries stored under unique names are `U` up to renaming, one by
one in order — as long as nothing was clobbered, for a clobbered entry is lost (finding D3, see `Props/C05.lean`).
`T`, `A`, `U` are free here: each write says what it appends to them (`J.plain`, `J.append`, `J.reasonSet`), and the run
invariants (`InvD`, `KeyPerm`, `Cov`) say of the same three lists what they are in terms of the run. -/
structure J (d : Details) (pl : List DName) (cl : Bool) (T : List Exc) (A : List (DName × UC))
    (U : List (DName × Content)) : Prop where
  nodup     : (dnames d).Nodup
  plainIn   : ∀ n ∈ pl, n ∈ dnames d
  plainUser : ∀ x ∈ d, x.1 ∈ pl → ∃ uc, x.2 = .user uc
  reason    : ∀ x ∈ d, x.1 = nmReason → ∃ r, x.2 = .reason r
  plainNe   : nmReason ∉ pl
  addsPlain : ∀ x ∈ A, x.1 ∈ pl
  plainSub  : ∀ n ∈ pl, n ∈ A.map (·.1)
  ud        : ∀ n c, lastAdd A n = some c → d.find? (·.1 == n) = some (n, .user c)
  tbs       : cl = false → tbsIn d = T
  uqs       : cl = false → Match2 U (uqEntries d pl)

theorem J.init : J [] [] false [] [] [] := by
  constructor <;> simp [dnames, lastAdd, tbsIn, uqEntries, Match2]

theorem J.plainEntry {d pl cl T A U} (h : J d pl cl T A U) (x : DName × Content) (hx : x ∈ d) (hp : x.1 ∈ pl) :
    ∃ c, (x.1, c) ∈ A ∧ x.2 = .user c := by
  obtain ⟨c, hc⟩ := lastAdd_some_of_mem A x.1 (h.plainSub x.1 hp)
  have hf := h.ud x.1 c hc
  rw [find_of_mem_nodup d h.nodup x hx] at hf
  exact ⟨c, lastAdd_mem A x.1 c hc, congrArg Prod.snd (Option.some.inj hf)⟩

theorem J.uq_isUq {d pl T A U} (h : J d pl false T A U) : ∀ x ∈ U, isUq x.2 = true := by
  intro x hx
  obtain ⟨m, hm, -⟩ := Match2_mem _ _ (h.uqs rfl) x hx
  exact ((mem_uqEntries _ _ _).mp hm).2.2

/-- plain `addDetail(n, c)` -/
theorem J.plain {d : Details} {pl : List DName} {cl : Bool} {T : List Exc} {A : List (DName × UC)}
    {U : List (DName × Content)} (h : J d pl cl T A U) (n : DName) (c : UC) (hn : n ≠ nmReason) :
    J (dset d n (.user c)) (n :: pl) (cl || (dmem d n && !pl.contains n)) T (A ++ [(n, c)]) U := by
  have hmem := mem_dset d n (.user c) h.nodup
  -- while the clobber flag stays down, an entry that gets replaced was itself set by a plain `addDetail`
  have hdown : (cl || (dmem d n && !pl.contains n)) = false → cl = false ∧ (n ∈ dnames d → n ∈ pl) := by
    intro h'
    simp only [Bool.or_eq_false_iff] at h'
    exact ⟨h'.1, fun hin => by simpa [(dmem_iff d n).mpr hin] using h'.2⟩
  refine ⟨nodup_dset d n _ h.nodup, ?_, ?_, ?_, ?_, ?_, ?_, ?_, ?_, ?_⟩
  · intro m hm
    rw [mem_dnames_dset]
    exact (List.mem_cons.mp hm).imp_right (h.plainIn m)
  · intro x hx hxp
    rcases (hmem x).mp hx with rfl | ⟨hx', hne⟩
    · exact ⟨c, rfl⟩
    · exact h.plainUser x hx' ((List.mem_cons.mp hxp).resolve_left hne)
  · intro x hx hxr
    rcases (hmem x).mp hx with rfl | ⟨hx', _⟩
    · exact absurd hxr hn
    · exact h.reason x hx' hxr
  · exact fun hm => (List.mem_cons.mp hm).elim (fun e => hn e.symm) h.plainNe
  · intro x hx
    rcases List.mem_append.mp hx with hx | hx
    · exact List.mem_cons_of_mem _ (h.addsPlain x hx)
    · rw [List.mem_singleton.mp hx]; exact List.mem_cons_self
  · intro m hm
    rw [List.map_append, List.mem_append]
    exact (List.mem_cons.mp hm).symm.imp (h.plainSub m) fun e => by simp [e]
  · intro m c' hl
    rw [lastAdd_append] at hl
    by_cases hm : n = m
    · subst hm
      rw [if_pos rfl] at hl
      cases hl
      exact find_dset_self d n _
    · rw [if_neg hm] at hl
      rw [find_dset_other d n m _ (Ne.symm hm)]
      exact h.ud m c' hl
  · intro h'
    obtain ⟨hcl, hpl⟩ := hdown h'
    rw [← h.tbs hcl, tbsIn_eq, tbsIn_eq]
    refine filterMap_dset_none _ _ _ _ rfl fun x hx hxn => ?_
    obtain ⟨uc, huc⟩ := h.plainUser x hx (hxn ▸ hpl (hxn ▸ List.mem_map_of_mem hx))
    obtain ⟨m, y⟩ := x
    cases huc; rfl
  · intro h'
    obtain ⟨hcl, hpl⟩ := hdown h'
    have : uqEntries (dset d n (.user c)) (n :: pl) = uqEntries d pl := by
      unfold uqEntries
      rw [filter_dset_none _ d n _ (by simp) (by intro x _ hx; simp [hx])]
      refine List.filter_congr fun x hx => ?_
      by_cases hxn : x.1 = n
      · simp [hxn, hpl (hxn ▸ List.mem_map_of_mem hx)]
      · simp [hxn]
    rw [this]; exact h.uqs hcl

/-- a write under a name not yet in the dict (`addDetailUniqueName`, `_report_traceback`: `J.unique`, `J.tbAdd`) -/
theorem J.append {d : Details} {pl : List DName} {cl : Bool} {T : List Exc} {A : List (DName × UC)}
    {U : List (DName × Content)} (h : J d pl cl T A U) (m : DName) (c : Content) (hm : m ∉ dnames d)
    (hr : m ≠ nmReason) (orig : DName) (hren : isRenaming orig m = true) :
    J (dset d m c) pl cl (T ++ (tbOf (m, c)).toList) A (U ++ (if isUq c then [(orig, c)] else [])) := by
  have hmp : m ∉ pl := fun hp => hm (h.plainIn m hp)
  rw [dset_of_not_mem d m c hm]
  refine ⟨?_, ?_, ?_, ?_, h.plainNe, h.addsPlain, h.plainSub, ?_, ?_, ?_⟩
  · have := nodup_dset d m c h.nodup
    rwa [dset_of_not_mem d m c hm] at this
  · intro n hn
    simp only [dnames, List.map_append, List.mem_append]
    exact Or.inl (h.plainIn n hn)
  · intro x hx hxp
    simp only [List.mem_append, List.mem_singleton] at hx
    rcases hx with hx | rfl
    · exact h.plainUser x hx hxp
    · exact absurd hxp hmp
  · intro x hx hxr
    simp only [List.mem_append, List.mem_singleton] at hx
    rcases hx with hx | rfl
    · exact h.reason x hx hxr
    · exact absurd hxr hr
  · intro n c' hl
    rw [List.find?_append, h.ud n c' hl]; rfl
  · intro hcl
    rw [tbsIn_eq, List.filterMap_append, ← tbsIn_eq, h.tbs hcl]
    simp only [List.filterMap_cons, List.filterMap_nil]
    cases tbOf (m, c) <;> rfl
  · intro hcl
    have hU := h.uqs hcl
    have : uqEntries (d ++ [(m, c)]) pl = uqEntries d pl ++ (if isUq c then [(m, c)] else []) := by
      have hc : pl.contains m = false := by simpa using hmp
      simp only [uqEntries, List.filter_append, List.filter_cons, List.filter_nil, hc, Bool.not_false, Bool.true_and]
    rw [this]
    apply Match2_append hU
    split
    · exact ⟨rfl, hren, trivial⟩
    · trivial

/-- `_report_traceback` -/
theorem J.tbAdd {d : Details} {pl : List DName} {cl : Bool} {T : List Exc} {A : List (DName × UC)}
    {U : List (DName × Content)} (h : J d pl cl T A U) (m : DName) (e : Exc) (hm : m ∉ dnames d)
    (hr : m ≠ nmReason) : J (dset d m (.tb e)) pl cl (T ++ [e]) A U := by
  have := h.append m (.tb e) hm hr m (by simp [isRenaming])
  simpa [tbOf, isUq] using this

/-- `addDetailUniqueName(n, c)` -/
theorem J.unique {d : Details} {pl : List DName} {cl : Bool} {T : List Exc} {A : List (DName × UC)}
    {U : List (DName × Content)} (h : J d pl cl T A U) (n : DName) (c : Content) (hn : n ≠ nmReason)
    (hc : isUq c = true) : J (addUnique d n c) pl cl T A (U ++ [(n, c)]) := by
  have := h.append (uniq d n) c (uniq_not_mem d n) (uniq_ne_reason d n hn) n (uniq_renaming d n)
  have ht : tbOf (uniq d n, c) = none := by cases c <;> simp_all [isUq, tbOf]
  simpa [ht, hc, addUnique] using this

/-- the framework's own `addDetail('reason', …)` -/
theorem J.reasonSet {d : Details} {pl : List DName} {cl : Bool} {T : List Exc} {A : List (DName × UC)}
    {U : List (DName × Content)} (h : J d pl cl T A U) (r : Nat) :
    J (dset d nmReason (.reason r)) pl cl T A U := by
  have hmem := mem_dset d nmReason (.reason r) h.nodup
  have hold : ∀ x ∈ d, x.1 = nmReason → ∃ r', x = (nmReason, .reason r') := fun x hx hxr =>
    (h.reason x hx hxr).imp fun r' hr' => Prod.ext hxr hr'
  refine ⟨nodup_dset d _ _ h.nodup, ?_, ?_, ?_, h.plainNe, h.addsPlain, h.plainSub, ?_, ?_, ?_⟩
  · intro n hn
    rw [mem_dnames_dset]; exact Or.inr (h.plainIn n hn)
  · intro x hx hxp
    rcases (hmem x).mp hx with rfl | ⟨hx', _⟩
    · exact absurd hxp h.plainNe
    · exact h.plainUser x hx' hxp
  · intro x hx hxr
    rcases (hmem x).mp hx with rfl | ⟨hx', _⟩
    · exact ⟨r, rfl⟩
    · exact h.reason x hx' hxr
  · intro n c' hl
    have hnp : n ∈ pl := h.addsPlain _ (lastAdd_mem A n c' hl)
    have hne : n ≠ nmReason := fun e => h.plainNe (e ▸ hnp)
    rw [find_dset_other d nmReason n _ hne]
    exact h.ud n c' hl
  · intro hcl
    rw [← h.tbs hcl, tbsIn_eq, tbsIn_eq]
    apply filterMap_dset_none _ _ _ _ rfl
    intro x hx hxr
    obtain ⟨r', rfl⟩ := hold x hx hxr
    rfl
  · intro hcl
    have : uqEntries (dset d nmReason (.reason r)) pl = uqEntries d pl := by
      unfold uqEntries
      apply filter_dset_none
      · simp [isUq]
      · intro x hx hxr
        obtain ⟨r', rfl⟩ := hold x hx hxr
        simp [isUq]
    rw [this]; exact h.uqs hcl

end TTV.Run
