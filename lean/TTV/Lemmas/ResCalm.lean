import TTV.Lemmas.ResStep
/-! Not earlier: without `stop()`, and without fail-fast set somewhere while a bad outcome arrives, nothing sets
`shouldStop`.  Two invariants of graphs: `FFree` (fail-fast set nowhere) and `Calm` (nothing that `shouldStop` of the
object reads is set). -/
namespace TTV.Props.C04
open TTV.Result TTV.ResC04 TTV.Spec.C04 TTV.Lemmas.ResEmit TTV.Lemmas.ResStep

/- `shouldStopOf s st = false` (`calm_iff`) as a predicate by recursion over the graph, a conjunction over the targets of a
`MultiTestResult` where `shouldStopOf` has `any`: the form in which the inductions below keep it.  It goes down to (and
including) the first stream decorator on each path: what lies below an `ExtendedToStreamDecorator` is not read from above -/
mutual
def Calm : (s : Shape) → St s → Prop
  | .sink _, st => st.shouldStop = false
  | .fsink _ _ _, st => st.shouldStop = false
  | .tt _, st => st.shouldStop = false
  | .text _, st => st.tt.shouldStop = false
  | .tbt, st => st.tt.shouldStop = false
  | .etod c, (own, inner) => if (caps c).shouldStop then Calm c inner else own.shouldStop = false
  | .deco c, st => Calm c st
  | .tagger _ _ c, st => Calm c st
  | .tfr c, (_, inner) => Calm c inner
  | .multi cs, (_, inner) => CalmL cs inner
  | .e2s _, (own, _) => own.shouldStop = false
  | .sff, (own, _) => own.shouldStop = false
def CalmL : (cs : List Shape) → StL cs → Prop
  | [], _ => True
  | c :: cs, (x, xs) => Calm c x ∧ CalmL cs xs
end

mutual
theorem calm_iff : ∀ (s : Shape) (st : St s), Calm s st ↔ shouldStopOf s st = false
  | .sink _, _ | .fsink _ _ _, _ | .tbt, _ | .tt _, _ | .text _, _ | .e2s _, _ | .sff, _ => Iff.rfl
  | .etod c, (own, inner) => by
      simp only [Calm, shouldStopOf]; split
      · exact calm_iff c inner
      · exact Iff.rfl
  | .deco c, st | .tagger _ _ c, st => calm_iff c st
  | .tfr c, (_, inner) => calm_iff c inner
  | .multi cs, (_, inner) => calmL_iff cs inner
theorem calmL_iff : ∀ (ss : List Shape) (st : StL ss), CalmL ss st ↔ (shouldStopL ss st).any id = false
  | [], _ => by simp [CalmL, shouldStopL]
  | s :: ss, (x, xs) => by
      simp only [CalmL, shouldStopL, List.any_cons, id, Bool.or_eq_false_iff]
      exact and_congr (calm_iff s x) (calmL_iff ss xs)
end

mutual
def FFree : (s : Shape) → St s → Prop
  | .sink _, st => st.failfast = false
  | .fsink _ _ _, st => st.failfast = false
  | .tt _, st => st.failfast = false
  | .text _, st => st.tt.failfast = false
  | .tbt, st => st.tt.failfast = false
  | .etod c, (own, inner) => own.failfast = false ∧ FFree c inner
  | .deco c, st => FFree c st
  | .tagger _ _ c, st => FFree c st
  | .tfr c, (own, inner) => own.tt.failfast = false ∧ FFree c inner
  | .multi cs, (_, inner) => FFreeL cs inner
  | .e2s _, (own, _) => own.failfast = false
  | .sff, (own, _) => own.failfast = false
def FFreeL : (cs : List Shape) → StL cs → Prop
  | [], _ => True
  | c :: cs, (x, xs) => FFree c x ∧ FFreeL cs xs
end

theorem ffree_read : ∀ (s : Shape) (st : St s), FFree s st → failfastOf s st = false
  | .sink _, _, h | .fsink _ _ _, _, h | .tt _, _, h | .text _, _, h | .tbt, _, h => h
  | .etod c, (own, inner), h => by
      simp only [failfastOf]; split
      · exact ffree_read c inner h.2
      · exact h.1
  | .deco c, st, h | .tagger _ _ c, st, h => ffree_read c st h
  | .tfr _, _, h => h.1
  | .e2s _, _, h | .sff, _, h => h
  | .multi [], _, _ => rfl
  | .multi (c :: _), (_, x, _), h => ffree_read c x h.1

/-- switching `failfast` off is harmless here -/
def notFFTrue : Call → Bool
  | .setFailfast true => false
  | _ => true

theorem notFF_closed : Closed (notFFTrue · = true) := by
  intro q c x hc hd
  cases hd <;> first | exact hc | rfl

theorem ffAfter_false {c : Call} (hc : notFFTrue c = true) {f : Bool} (h : f = false) : ffAfter c f = false := by
  cases c <;> first | exact h | (rename_i b; cases b <;> first | rfl | cases hc)

mutual
theorem ffree_step : ∀ (s : Shape) (c : Call), notFFTrue c = true → ∀ (st : St s), FFree s st → FFree s (step s st c)
  | .sink f | .fsink _ _ f => fun c hc st h => (sinkStep_failfast f st c).trans (ffAfter_false hc h)
  | .tt _ => fun c hc st h => (ttStep_failfast st c).trans (ffAfter_false hc h)
  | .text _ => fun c hc st h => (textStep_failfast st c).trans (ffAfter_false hc h)
  | .tbt => fun c hc st h => (tbtStep_failfast st c).trans (ffAfter_false hc h)
  | .etod ch => fun c hc (own, inner) h => by
      refine ⟨?_, notFF_closed.keeps (ffree_step ch) hc (etod_down ch own inner c) h.2⟩
      show (etodStep ⟨caps ch, step ch, failfastOf ch⟩ own inner c).1.failfast = false
      rw [etodStep_failfast]
      split
      · exact h.1
      · exact ffAfter_false hc h.1
  | .tfr ch => fun c hc (own, inner) h =>
      ⟨(tfrStep_failfast _ own inner c).trans (ffAfter_false hc h.1),
        notFF_closed.keeps (ffree_step ch) hc (tfr_down ch own inner c) h.2⟩
  | .deco ch => fun c hc st h => notFF_closed.keeps (ffree_step ch) hc (deco_down ch st c) h
  | .tagger n g ch => fun c hc st h => notFF_closed.keeps (ffree_step ch) hc (tagger_down ch n g st c) h
  | .multi ss => fun c hc (own, inner) h =>
      multi_keeps (X := FFreeL ss) own inner c (fun _ => h) (ffreeL_step ss (cutSL_all ss) c hc inner h)
  | .e2s ch => fun c hc (own, inner) h =>
      (e2sStep_failfast ⟨caps ch, step ch, failfastOf ch⟩ own inner c).trans (ffAfter_false hc h)
  | .sff => fun c hc (own, _) h => (e2sStep_failfast nullTarget own () c).trans (ffAfter_false hc h)
theorem ffreeL_step : ∀ (ss : List Shape), Shape.cutSL ss = true → ∀ (c : Call), notFFTrue c = true →
    ∀ (st : StL ss), FFreeL ss st → FFreeL ss (stepL ss st c)
  | [] => fun _ _ _ _ _ => trivial
  | s :: ss => fun _ c hc (x, xs) h => ⟨ffree_step s c hc x h.1, ffreeL_step ss (cutSL_all ss) c hc xs h.2⟩
end

/-- fail-fast is set nowhere and none of the calls sets it, or there is no bad outcome among them.  (The first alternative
speaks of the state, which `ffree_step` has to carry along the list, and `· ≠ .stop` is closed under `Down false` only
(`Down.ne_stop`): so `Closed.keeps` does not apply as it stands, and `calm_steps_of` walks the list sent down itself.) -/
def Safe (s : Shape) (st : St s) (cs : List Call) : Prop :=
  (FFree s st ∧ ∀ x ∈ cs, notFFTrue x = true) ∨ (∀ x ∈ cs, isBadAdd x = false)

abbrev Safe1 (s : Shape) (st : St s) (c : Call) : Prop := (FFree s st ∧ notFFTrue c = true) ∨ isBadAdd c = false

theorem Safe1.down {ch : Shape} {st : St ch} {c : Call} (h : Safe1 ch st c) {q : Bool} {em : List Call}
    (hem : ∀ x ∈ em, Down q c x) : Safe ch st em :=
  h.imp (fun p => ⟨p.1, fun x hx => notFF_closed c x p.2 (hem x hx)⟩) (fun p x hx => notBad_closed c x p (hem x hx))

theorem calm_steps_of {s : Shape}
    (ih : ∀ c, c ≠ Call.stop → ∀ st, Safe1 s st c → Calm s st → Calm s (step s st c)) :
    ∀ (cs : List Call), (∀ x ∈ cs, x ≠ Call.stop) → ∀ (st : St s), Safe s st cs → Calm s st → Calm s (cs.foldl (step s) st)
  | [], _, _, _, h => h
  | c :: cs, hc, st, hs, h => by
      have hs1 : Safe1 s st c := hs.imp (fun p => ⟨p.1, p.2 c List.mem_cons_self⟩) (fun p => p c List.mem_cons_self)
      refine calm_steps_of ih cs (fun x hx => hc x (List.mem_cons_of_mem _ hx)) _ ?_ (ih c (hc c List.mem_cons_self) st hs1 h)
      exact hs.imp (fun p => ⟨ffree_step s c (p.2 c List.mem_cons_self) st p.1, fun x hx => p.2 x (List.mem_cons_of_mem _ hx)⟩)
        (fun p x hx => p x (List.mem_cons_of_mem _ hx))

theorem calm_down {ch : Shape}
    (ih : ∀ c, c ≠ Call.stop → ∀ st, Safe1 ch st c → Calm ch st → Calm ch (step ch st c)) {c : Call} (hc : c ≠ .stop)
    {st st' : St ch} (hd : Passes false c (step ch) st st')
    (hs : Safe1 ch st c) (h : Calm ch st) : Calm ch st' := by
  obtain ⟨em, rfl, hem⟩ := hd
  exact calm_steps_of ih em (fun x hx => (hem x hx).ne_stop hc) st (hs.down hem) h

mutual
theorem calm_step : ∀ (s : Shape) (c : Call), c ≠ Call.stop → ∀ (st : St s), Safe1 s st c → Calm s st → Calm s (step s st c)
  | .sink f | .fsink _ _ f => fun c hc st hs h => by
      show (sinkStep f st c).shouldStop = false
      have h : st.shouldStop = false := h
      rw [sinkStep_shouldStop]
      cases c <;> first | exact h | exact absurd rfl hc | (rcases hs with ⟨hf, _⟩ | hs <;> simp_all [isBadAdd, FFree])
  | .tt _ => fun c hc st hs h => (ttStep_shouldStop st c).trans (ssAfter_clear hc (hs.imp_left (·.1)) h)
  | .text _ => fun c hc st hs h => (textStep_shouldStop st c).trans (ssAfter_clear hc (hs.imp_left (·.1)) h)
  | .tbt => fun c hc st hs h => (tbtStep_shouldStop st c).trans (ssAfter_clear hc (hs.imp_left (·.1)) h)
  | .etod ch => fun c hc (own, inner) hs h => by
      have hs' : Safe1 ch inner c := hs.imp_left fun ⟨⟨_, hin⟩, hc⟩ => ⟨hin, hc⟩
      -- fail-fast does not fire: it reads false, or the call is no bad outcome
      have hread : isBadAdd c = true → failfastOf (.etod ch) (own, inner) = false := fun hb =>
        hs.elim (fun hf => ffree_read (.etod ch) (own, inner) hf.1) fun hx => by rw [hx] at hb; cases hb
      cases hss : (caps ch).shouldStop
      · -- the flag lives in the adapter
        simp only [Calm, hss, Bool.false_eq_true, ite_false] at h ⊢
        rw [etod_quiet ch own inner hc hread, ownAfter_shouldStop, h, Bool.and_false]
      · simp only [Calm, hss, ite_true] at h ⊢
        exact calm_down (calm_step ch) hc (etod_down_quiet ch own inner c hc hread) hs' h
  | .deco ch => fun c hc st hs h => calm_down (calm_step ch) hc (deco_down ch st c) hs h
  | .tagger n g ch => fun c hc st hs h => calm_down (calm_step ch) hc (tagger_down ch n g st c) hs h
  | .tfr ch => fun c hc (own, inner) hs h =>
      calm_down (calm_step ch) hc (tfr_down_quiet ch own inner c (hs.imp_left fun ⟨⟨hown, _⟩, _⟩ => hown))
        (hs.imp_left fun ⟨⟨_, hin⟩, hc⟩ => ⟨hin, hc⟩) h
  | .multi ss => fun c hc (own, inner) hs h =>
      multi_keeps (X := CalmL ss) own inner c (fun _ => h) (calmL_step ss (cutSL_all ss) c hc inner hs h)
  | .e2s ch => fun c hc (own, inner) hs h =>
      e2sStep_ss_clear ⟨caps ch, step ch, failfastOf ch⟩ own inner hc (hs.imp_left (·.1)) h
  | .sff => fun c hc (own, _) hs h => e2sStep_ss_clear nullTarget own () hc (hs.imp_left (·.1)) h
theorem calmL_step : ∀ (ss : List Shape), Shape.cutSL ss = true → ∀ (c : Call), c ≠ Call.stop →
    ∀ (st : StL ss), ((FFreeL ss st ∧ notFFTrue c = true) ∨ isBadAdd c = false) → CalmL ss st → CalmL ss (stepL ss st c)
  | [] => fun _ _ _ _ _ _ => trivial
  | s :: ss => fun _ c hc (x, xs) hs h =>
      ⟨calm_step s c hc x (hs.imp_left fun ⟨⟨hx, _⟩, hc⟩ => ⟨hx, hc⟩) h.1,
        calmL_step ss (cutSL_all ss) c hc xs (hs.imp_left fun ⟨⟨_, hxs⟩, hc⟩ => ⟨hxs, hc⟩) h.2⟩
end

theorem calm_steps : ∀ (s : Shape), s.cutS = true → ∀ (cs : List Call), (∀ x ∈ cs, x ≠ Call.stop) →
    ∀ (st : St s), Safe s st cs → Calm s st → Calm s (cs.foldl (step s) st) :=
  fun s _ => calm_steps_of (calm_step s)

theorem caps_run_of_reset (c : Shape) (hss : (caps c).shouldStop = true) (ho : resetLeaves c = true) :
    (caps c).startRun = true := by
  cases c <;> first | rfl | exact Bool.noConfusion ho | (rename_i f; cases f <;> first | rfl | exact Bool.noConfusion hss)

mutual
theorem calm_run : ∀ (s : Shape), resetLeaves s = true → ∀ (st : St s), Calm s (step s st .startTestRun)
  | .sink _ | .fsink _ _ _ | .tbt => fun ho => Bool.noConfusion ho
  | .tt _ => fun _ st => ttStep_shouldStop st .startTestRun
  | .text _ => fun _ st => textStep_shouldStop st .startTestRun
  | .etod ch => fun ho (own, inner) => by
      rw [etod_run]
      cases hss : (caps ch).shouldStop
      · simp only [Calm, hss, Bool.false_eq_true, ite_false]
      · have ho' : resetLeaves ch = true := by simpa [resetLeaves, hss] using ho
        simp only [Calm, hss, ite_true, caps_run_of_reset ch hss ho']
        exact calm_run ch ho' inner
  | .deco ch | .tagger _ _ ch => fun ho st => calm_run ch ho st
  | .tfr ch => fun ho (_, inner) => calm_run ch ho inner
  | .multi ss => fun ho (_, inner) => calmL_run ss ho (cutSL_all ss) inner
  | .e2s ch => fun _ (own, inner) => e2sStep_shouldStop ⟨caps ch, step ch, failfastOf ch⟩ own inner .startTestRun
  | .sff => fun _ (own, _) => e2sStep_shouldStop nullTarget own () .startTestRun
theorem calmL_run : ∀ (ss : List Shape), resetLeavesL ss = true → Shape.cutSL ss = true → ∀ (st : StL ss),
    CalmL ss (stepL ss st .startTestRun)
  | [] => fun _ _ _ => trivial
  | s :: ss => fun ho _ (x, xs) =>
      have ho := Bool.and_eq_true_iff.mp ho
      ⟨calm_run s ho.1 x, calmL_run ss ho.2 (cutSL_all ss) xs⟩
end

mutual
theorem calm_init : ∀ (s : Shape), Calm s (init s)
  | .sink _ | .fsink _ _ _ | .tt _ | .text _ | .tbt | .e2s _ | .sff => rfl
  | .etod c => by
      simp only [Calm, init]; split
      · exact calm_init c
      · trivial
  | .deco c | .tagger _ _ c | .tfr c => calm_init c
  | .multi ss => calmL_init ss (cutSL_all ss)
theorem calmL_init : ∀ (ss : List Shape), Shape.cutSL ss = true → CalmL ss (initL ss)
  | [], _ => trivial
  | s :: ss, _ => ⟨calm_init s, calmL_init ss (cutSL_all ss)⟩
end

mutual
theorem ffree_init : ∀ (s : Shape), (leafParams s).any id = false → FFree s (init s)
  | .sink _, _ | .tbt, _ | .e2s _, _ | .sff, _ => rfl
  | .fsink _ b _, h | .tt b, h | .text b, h => by simpa [leafParams, FFree, init] using h
  | .etod c, h | .tfr c, h => ⟨rfl, ffree_init c h⟩
  | .deco c, h | .tagger _ _ c, h => ffree_init c h
  | .multi ss, h => ffreeL_init ss (cutSL_all ss) h
theorem ffreeL_init : ∀ (ss : List Shape), Shape.cutSL ss = true → (leafParamsL ss).any id = false →
    FFreeL ss (initL ss)
  | [], _, _ => trivial
  | s :: ss, _, h => by
      simp only [leafParamsL, List.any_append, Bool.or_eq_false_iff] at h
      exact ⟨ffree_init s h.1, ffreeL_init ss (cutSL_all ss) h.2⟩
end

theorem calmL_ss : ∀ (ss : List Shape), resetLeavesL ss = true → ∀ (st : StL ss), CalmL ss st →
    ∀ b ∈ shouldStopL ss st, b = false :=
  fun ss _ st h b hb => by simpa using List.any_eq_false.mp ((calmL_iff ss st).mp h) b hb

end TTV.Props.C04
