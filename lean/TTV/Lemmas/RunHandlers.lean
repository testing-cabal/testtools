import TTV.Lemmas.RunStatic
/-! Facts about the handler table (incl. the rows generated from the source) and exception selection. -/
namespace TTV.Run
open TTV.Spec.Run

theorem ancestors_self (c : Cls) : c ∈ c.ancestors := by
  cases c <;> simp [Cls.ancestors]

theorem builtin_closed : ∀ a ∈ [Cls.base, .exc, .skip, .failure, .xfail, .uxs, .ki, .sysexit],
    ∀ b ∈ a.ancestors, ∀ c ∈ b.ancestors, c ∈ a.ancestors := by decide

theorem ancestors_trans : ∀ (a b : Cls), b ∈ a.ancestors → ∀ c, c ∈ b.ancestors → c ∈ a.ancestors
  | .user i p, b, hb, c, hc => by
      simp only [Cls.ancestors, List.mem_cons] at hb ⊢
      rcases hb with rfl | hb
      · simpa [Cls.ancestors] using hc
      · exact Or.inr (ancestors_trans p b hb c hc)
  | .base, b, hb, c, hc | .exc, b, hb, c, hc | .skip, b, hb, c, hc | .failure, b, hb, c, hc | .xfail, b, hb, c, hc
  | .uxs, b, hb, c, hc | .ki, b, hb, c, hc | .sysexit, b, hb, c, hc => builtin_closed _ (by decide) b hb c hc

theorem isSub_trans {a b c : Cls} (h1 : isSub a b = true) (h2 : isSub b c = true) : isSub a c = true := by
  simp only [isSub, decide_eq_true_eq] at *
  exact ancestors_trans a b h1 c h2

theorem claimed_eq_any (hs : Handlers) (e : Exc) : claimed hs e = hs.any (fun h => isSub e.cls h.1) := by
  simp only [claimed, handlerFor, Option.isSome_map]
  induction hs with
  | nil => rfl
  | cons h hs ih =>
    simp only [List.find?_cons, List.any_cons]
    cases isSub e.cls h.1 <;> simp [ih]

theorem default_classes_exc : defaultHandlers.all (fun h => isSub h.1 .exc) = true := by decide
theorem default_has_exc : defaultHandlers.any (fun h => h.1 == Cls.exc) = true := by decide

theorem claimed_eq_isSub_exc (p : Program) (hwf : wf p = true) (e : Exc) :
    claimed (handlers p) e = isSub e.cls .exc := by
  rw [claimed_eq_any]
  cases hsub : isSub e.cls .exc with
  | true =>
    obtain ⟨h, hm, hc⟩ := List.any_eq_true.mp default_has_exc
    exact List.any_eq_true.mpr ⟨h, List.mem_append_right _ hm, by simpa [beq_iff_eq.mp hc] using hsub⟩
  | false =>
    rw [Bool.eq_false_iff]
    intro hany
    obtain ⟨h, hm, hc⟩ := List.any_eq_true.mp hany
    -- every handler class derives from `Exception`, so an instance of one is an `Exception`
    have hex : isSub h.1 .exc = true := by
      rcases List.mem_append.mp hm with hm | hm
      · exact List.all_eq_true.mp (wf_handlers p hwf) h hm
      · exact List.all_eq_true.mp default_classes_exc h hm
    rw [isSub_trans hc hex] at hsub
    cases hsub

theorem default_reporters : defaultHandlers.all (fun h => match h.2 with | .std o => o != .success | .user _ _ => false) = true := by
  decide

theorem handlerFor_append (u d : Handlers) (e : Exc) :
    handlerFor (u ++ d) e = (handlerFor u e).or (handlerFor d e) := by
  simp only [handlerFor, List.find?_append]
  cases List.find? (fun h => isSub e.cls h.1) u <;> simp

theorem lookup_append (u d : Handlers) (e : Exc) : lookup (u ++ d) e = (lookup u e).or (lookup d e) := by
  simp only [lookup, handlerFor_append]
  cases handlerFor u e <;> rfl

theorem handlerFor_mem (hs : Handlers) (e : Exc) (r : Reporter) (h : handlerFor hs e = some r) :
    ∃ c, (c, r) ∈ hs := by
  simp only [handlerFor, Option.map_eq_some_iff] at h
  obtain ⟨x, hx, rfl⟩ := h
  exact ⟨x.1, List.mem_of_find?_eq_some hx⟩

theorem reporter_cases (p : Program) (e : Exc) (r : Reporter) (h : handlerFor (handlers p) e = some r) :
    (∃ c, (c, r) ∈ p.userHandlers) ∨ ∃ o, r = .std o ∧ o ≠ .success := by
  obtain ⟨c, hm⟩ := handlerFor_mem _ _ _ h
  rcases List.mem_append.mp hm with hm | hm
  · exact Or.inl ⟨c, hm⟩
  · have := List.all_eq_true.mp default_reporters (c, r) hm
    cases r with
    | std o => exact Or.inr ⟨o, rfl, by simpa using this⟩
    | user i o => cases this

theorem select_none_iff (hs : Handlers) (es : List Exc) : select hs es = none ↔ es = [] := by
  unfold select
  constructor
  · intro h
    split at h
    · simp at h
    · split at h
      · simp at h
      · simpa using h
  · rintro rfl; simp

theorem select_mem (hs : Handlers) (es : List Exc) (e : Exc) (h : select hs es = some e) : e ∈ es := by
  unfold select at h
  split at h
  · rename_i e' he'
    cases h
    exact List.mem_of_find?_eq_some he'
  · split at h
    · rename_i e' he'
      cases h
      have := List.mem_of_find?_eq_some he'
      simpa using this
    · exact List.mem_of_getLast? h

theorem select_handled_all (hs : Handlers) (es : List Exc) (e : Exc) (r : Reporter)
    (hsel : select hs es = some e) (hh : handlerFor hs e = some r) : ∀ x ∈ es, claimed hs x = true := by
  unfold select at hsel
  split at hsel
  · rename_i x hx
    cases hsel
    have := List.find?_some hx
    simp [claimed, hh] at this
  · rename_i hnone
    intro x hx
    have := List.find?_eq_none.mp hnone x hx
    simpa using this

theorem select_unclaimed (hs : Handlers) (es : List Exc) (h : ∃ e ∈ es, claimed hs e = false) :
    ∃ e, select hs es = some e ∧ claimed hs e = false := by
  unfold select
  split
  · rename_i e he
    exact ⟨e, rfl, by simpa using List.find?_some he⟩
  · rename_i hnone
    obtain ⟨e, hmem, hc⟩ := h
    have := List.find?_eq_none.mp hnone e hmem
    simp [hc] at this

theorem select_single (hs : Handlers) (e : Exc) : select hs [e] = some e := by
  unfold select
  simp only [List.find?_cons, List.find?_nil, List.reverse_cons, List.reverse_nil, List.nil_append, List.getLast?_singleton]
  cases claimed hs e <;> cases benign hs e <;> rfl

theorem handlerFor_default_forced : handlerFor defaultHandlers forcedFailure = some (.std .failure) := by decide

/-- with every exception claimed the first rule of `_select_exception` finds nothing -/
theorem select_of_claimed (hs : Handlers) (es : List Exc) (hall : ∀ e ∈ es, claimed hs e = true) :
    select hs es = (es.reverse.find? fun e => !benign hs e).or es.getLast? := by
  have h1 : es.find? (fun e => !claimed hs e) = none := by
    rw [List.find?_eq_none]; intro e he; simp [hall e he]
  rw [select, h1]
  cases es.reverse.find? fun e => !benign hs e <;> rfl

theorem select_last_of_claimed (hs : Handlers) (L : List Exc) (x : Exc) (hall : ∀ e ∈ L ++ [x], claimed hs e = true)
    (hb : benign hs x = false) : select hs (L ++ [x]) = some x := by
  simp [select_of_claimed hs _ hall, List.reverse_append, hb]

end TTV.Run
