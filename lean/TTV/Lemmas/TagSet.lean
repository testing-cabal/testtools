import TTV.Model.Result
/-! `TagSet` bit by bit (membership = `Nat.testBit`): `TagSet.change`, and from it `_merge_tags` (`change_merge`,
`merge_disjoint`). -/
namespace TTV.Lemmas.TagSet
open TTV.Result

theorem testBit_union (a b : TagSet) (i : Nat) : (TagSet.union a b).testBit i = (a.testBit i || b.testBit i) := by
  simp [TagSet.union]

theorem testBit_diff (a b : TagSet) (i : Nat) : (TagSet.diff a b).testBit i = (a.testBit i && !b.testBit i) := by
  simp only [TagSet.diff, Nat.testBit_xor, Nat.testBit_and]
  cases a.testBit i <;> cases b.testBit i <;> rfl

theorem testBit_change (s n g : TagSet) (i : Nat) :
    (TagSet.change s n g).testBit i = ((s.testBit i || n.testBit i) && !g.testBit i) := by
  simp [TagSet.change, testBit_diff, testBit_union]

theorem disjoint_testBit {n g : TagSet} (h : n &&& g = 0) (i : Nat) : (n.testBit i && g.testBit i) = false := by
  simpa [Nat.testBit_and] using congrArg (·.testBit i) h

theorem change_zero (s : TagSet) : TagSet.change s 0 0 = s := by
  apply Nat.eq_of_testBit_eq; intro i; simp [testBit_change]

theorem change_from_zero (T : TagSet) : TagSet.change 0 T 0 = T := by
  apply Nat.eq_of_testBit_eq; intro i; simp [testBit_change]

theorem change_to_zero (T : TagSet) : TagSet.change T 0 T = 0 := by
  apply Nat.eq_of_testBit_eq; intro i; simp [testBit_change]

/-- `_merge_tags`: one change in place of two.  `h` is needed: a tag in both `n` and `g` drops out of both halves of the
merge and so is left as it is in `s`, where `change _ n g` removes it; `a` may overlap. -/
theorem change_merge (s : TagSet) (a : TagSet × TagSet) (n g : TagSet) (h : n &&& g = 0) :
    TagSet.change s (mergeTags a (n, g)).1 (mergeTags a (n, g)).2 = TagSet.change (TagSet.change s a.1 a.2) n g := by
  apply Nat.eq_of_testBit_eq; intro i
  have hd := disjoint_testBit h i
  simp only [mergeTags, testBit_change, testBit_diff, testBit_union]
  revert hd
  cases s.testBit i <;> cases a.1.testBit i <;> cases a.2.testBit i <;> cases n.testBit i <;>
    cases g.testBit i <;> decide

theorem merge_disjoint (a : TagSet × TagSet) (n g : TagSet) (ha : a.1 &&& a.2 = 0) :
    (mergeTags a (n, g)).1 &&& (mergeTags a (n, g)).2 = 0 := by
  apply Nat.eq_of_testBit_eq; intro i
  have hd := disjoint_testBit ha i
  simp only [mergeTags, Nat.testBit_and, testBit_diff, testBit_union, Nat.zero_testBit]
  revert hd
  cases a.1.testBit i <;> cases a.2.testBit i <;> cases n.testBit i <;> cases g.testBit i <;> decide

theorem anyTags_false {p : TagSet × TagSet} (h : anyTags p = false) : p = (0, 0) := by
  obtain ⟨a, b⟩ := p
  simp only [anyTags, Bool.or_eq_false_iff, bne_eq_false_iff_eq] at h
  simp [h.1, h.2]

end TTV.Lemmas.TagSet
