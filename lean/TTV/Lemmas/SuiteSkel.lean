import TTV.Model.SuiteSkel
/-! The reference skeletons of `_run_test` mean the hand-written worker programs `suiteProg` / `streamProg`. -/
namespace TTV.SuiteSkel
open TTV.Conc

theorem interp_refSuiteRunTest (wi tb : Nat) (w : Worker) :
    let s := interp .suite wi tb w refSuiteRunTest {}
    s.segs = (suiteProg wi w).segs ∧ s.raised = (suiteProg wi w).died ∧ s.bad = false := by
  cases h1 : (sectionsAbort w.faults {} (workerOps w)).2.2 <;> cases h2 : w.boom <;>
    simp [refSuiteRunTest, interp, doAct, suiteProg, h1, h2]

theorem interp_refStreamRunTest (wi tb : Nat) (w : Worker) :
    let s := interp .stream wi tb w refStreamRunTest {}
    (.put (.startRun wi) :: s.segs = (streamProg wi tb w).segs) ∧ s.raised = (streamProg wi tb w).died ∧ s.bad = false := by
  cases h2 : w.boom <;> simp [refStreamRunTest, interp, doAct, streamProg, streamEvents, h2]

end TTV.SuiteSkel
