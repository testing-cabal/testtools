import TTV.Model.Suite
/-! Induction over suite trees, and the child-list functions of M-Suite as `map` / `flatMap` of the tree functions: with these
the step of an induction from the children to their suite is a step of the list library.  In the other direction a statement about
a child list `ts` is, by unfolding alone, the statement about the tree `.suite .plain ts`. -/
namespace TTV.Suite

@[induction_eliminator]
theorem T.ind {P : T → Prop} (case : ∀ id, P (.case id))
    (suite : ∀ k cs, (∀ c ∈ cs, P c) → P (.suite k cs)) : ∀ t, P t :=
  T.rec (motive_1 := P) (motive_2 := fun cs => ∀ c ∈ cs, P c) case suite
    (fun _ h => nomatch h)
    (fun _ _ ht hts _ hc => by
      rcases List.mem_cons.mp hc with rfl | h
      · exact ht
      · exact hts _ h)

/-! Core lacks the first two (they are Mathlib's `List.flatMap_congr` and `List.Perm.flatMap_left`); `eq_flatMap`
recognises a function written with `[]` and `::`, like the child-list function of a mutual pair, as a `flatMap`. -/
theorem flatMap_congr {α β : Type} {l : List α} {f g : α → List β} (h : ∀ a ∈ l, f a = g a) :
    l.flatMap f = l.flatMap g := by
  rw [List.flatMap_def, List.flatMap_def, List.map_congr_left h]

theorem perm_flatMap {α β : Type} {l : List α} {f g : α → List β} (h : ∀ a ∈ l, (f a).Perm (g a)) :
    (l.flatMap f).Perm (l.flatMap g) := by
  induction l with
  | nil => exact .refl _
  | cons a l ih =>
    simp only [List.flatMap_cons]
    exact (h a List.mem_cons_self).append (ih fun b hb => h b (List.mem_cons_of_mem _ hb))

theorem eq_flatMap {α β : Type} {f : α → List β} {fL : List α → List β} (nil : fL [] = [])
    (cons : ∀ a l, fL (a :: l) = f a ++ fL l) (l : List α) : fL l = l.flatMap f := by
  induction l with
  | nil => exact nil
  | cons a l ih => rw [cons, ih, List.flatMap_cons]

theorem zipIdx_pairwise_lt {α : Type} (l : List α) (i : Nat) : (l.zipIdx i).Pairwise fun a b => a.2 < b.2 := by
  rw [← List.pairwise_map (f := Prod.snd) (R := (· < ·)), List.zipIdx_map_snd]
  exact List.pairwise_lt_range' ..

theorem iterateL_eq (ts : List T) : iterateL ts = ts.flatMap iterate := eq_flatMap rfl (fun _ _ => rfl) ts

theorem filterL_eq (S : Nat → Bool) (ts : List T) : filterL S ts = ts.map (filterIds S) := by
  induction ts with
  | nil => rfl
  | cons t ts ih => rw [filterL, ih, List.map_cons]

theorem flattenL_eq (ts : List T) : flattenL ts = ts.flatMap (flatten false) := eq_flatMap rfl (fun _ _ => rfl) ts

theorem get?_suite_cons (k : Kind) (cs : List T) (i : Nat) (p : List Nat) :
    get? (.suite k cs) (i :: p) = (cs[i]?).bind (fun c => get? c p) := by
  simp only [get?]; cases cs[i]? <;> rfl

theorem flatten_plain (o : Bool) (cs : List T) : flatten o (.suite .plain cs) = flattenL cs := rfl

theorem flatten_custom {k : Kind} (hk : k ≠ .plain) (cs : List T) :
    flatten false (.suite k cs) =
      [((iterateL cs).head?, .suite k (if k = .csort then (sortItems (flattenL cs)).map (·.2) else cs))] := by
  rw [flatten, if_neg (by simpa using hk)]
  split <;> rfl

theorem keyLe_trans (a b c : Option Nat) : keyLe a b = true → keyLe b c = true → keyLe a c = true := by
  cases a <;> cases b <;> cases c <;> simp [keyLe] <;> omega

theorem keyLe_total (a b : Option Nat) : (keyLe a b || keyLe b a) = true := by
  cases a <;> cases b <;> simp [keyLe] <;> omega

theorem sortItems_perm (xs : List Item) : (sortItems xs).Perm xs := List.mergeSort_perm _ _

theorem sortItems_ordered (xs : List Item) : ((sortItems xs).map (·.1)).Pairwise (fun a b => keyLe a b = true) := by
  rw [List.pairwise_map]
  exact List.pairwise_mergeSort (le := fun a b : Item => keyLe a.1 b.1)
    (fun a b c => keyLe_trans a.1 b.1 c.1) (fun a b => keyLe_total a.1 b.1) _

theorem sortItems_map_perm (xs : List Item) : ((sortItems xs).map (·.2)).Perm (xs.map (·.2)) := (sortItems_perm xs).map _

theorem iterateL_perm {xs ys : List T} (h : xs.Perm ys) : (iterateL xs).Perm (iterateL ys) := by
  simpa only [iterateL_eq] using h.flatMap_right iterate

theorem hasDup_iff (xs : List Nat) : hasDup xs = false ↔ xs.Nodup := by
  induction xs with
  | nil => simp [hasDup]
  | cons x xs ih => simp [hasDup, ih, List.nodup_cons]

theorem sortedTests_isNone (t : T) : (sortedTests t).isNone = hasDup (iterate t) := by
  unfold sortedTests; cases hasDup (iterate t) <;> rfl

theorem sortedTests_eq_some {t r : T} (h : sortedTests t = some r) :
    r = .suite .plain ((sortItems (flatten false t)).map (·.2)) := by
  unfold sortedTests at h
  split at h
  · cases h
  · exact (Option.some.inj h).symm

end TTV.Suite
