import TTV.Model.Spinner
import TTV.Spec.C15
import TTV.Lemmas.Reactor
/-! One call of `Spinner.run` by stages (`runStep_eq`), and what the loop of `reactor.run()` computes in it (C15): from a state in
which the spinner's callbacks are attached and nothing is decided, the result is read off the queue in one scan (`liveRes`,
`spin_live`); on the sorted queue a scenario builds the scan finds the first decisive call unless a stop request is due before it
(`liveRes_sorted`), which is what the declarative `Spec.C15.expected` computes from the scenario (`liveRes_scen`,
`spinPhase_result`); the `winner` it uses is the decisive call that comes first in the reactor's order (`winner_first`).  All of it
rests on one fact of the model: nothing `exec` runs inside the loop schedules a call (`Act.spawn` does nothing there), so the queue
only shrinks: a pop leaves exactly the rest (`live_step`), and the fuel `length + 1` of `spinPhase` suffices. -/
namespace TTV.Props.C15
open TTV.Reactor TTV.Spinner TTV.Spec.C15

/-- `w0` with what is recorded per call reset -/
def start (w0 : W) : W := { w0 with t0 := w0.now, events := [], u := {} }

/-- the state in which `spinner.run` is called (`SpinnerSkel.enter`, from which the source tie `C15_src_run` starts, unfolds to it) -/
def afterPre (sc : Scen) (w0 : W) : W := schedPre 0 sc.pre (start w0)

/-- the state in which `f` starts -/
def fStart (sc : Scen) (w : W) : W :=
  let w : W := saveSignals w
  let w := schedule (w.now + sc.timeout) .timeout w
  { w with stopPatched := true, running := true, crashed := false,
           sp := { w.sp with tcall := .pending, spinning := true } }

/-- the state in which the loop of `reactor.run()` starts -/
def loopStart (sc : Scen) (w : W) : W := finishF sc.term (runBody sc.pre.length sc.body (fStart sc w))

abbrev queueLen : W → Nat := fun w => w.calls.length

theorem spinPhase_eq (sc : Scen) (w : W) :
    spinPhase sc w = spin exec queueLen ((loopStart sc w).calls.length + 1) (loopStart sc w) := rfl

/-- the state after the `finally` ladder of `run`, before `_clean` -/
def restored (sc : Scen) (w0 : W) : W :=
  let w := spinPhase sc (afterPre sc w0)
  { w with running := false, stopPatched := false, sigs := restoreFrom 0 w.sp.saved w.sigs,
           sp := { w.sp with saved := [], spinning := false } }

/-- the state after the obligatory iterations of `_clean`, before what is left is cancelled -/
def cleaned (sc : Scen) (w0 : W) : W := iterations sc sc.oblig (restored sc w0)

/-- what the harness observes when `run` has returned or raised `r` in state `w` -/
def obsOf (w0 w : W) (r : Res) : RunObs :=
  { result := r, events := w.events, reentries := w.u.reentries, junk := w.sp.junk, pending := w.calls.length,
    sels := w.sels.length, running := w.running, stopRestored := !w.stopPatched, sigBefore := w0.sigs, sigAfter := w.sigs,
    elapsed := w.now - w0.now }

/-- the end of `_clean`: whatever is left is cancelled / removed and recorded as junk -/
def swept (w : W) : W := { w with calls := [], sels := [], sp := { w.sp with junk := w.sp.junk ++ leftovers w } }

theorem runStep_eq (sc : Scen) (w0 : W) : runStep sc w0 =
    if !(afterPre sc w0).sp.junk.isEmpty then
      ({ afterPre sc w0 with calls := [] }, obsOf w0 (afterPre sc w0) .stalejunk)
    else if sc.bad then
      ({ saveSignals (afterPre sc w0) with calls := [] }, obsOf w0 (afterPre sc w0) .rejected)
    else (swept (cleaned sc w0), obsOf w0 (swept (cleaned sc w0)) (getResult (restored sc w0).sp)) := rfl

theorem saveSignals_calls (w : W) : (saveSignals w).calls = w.calls := rfl
theorem saveSignals_now (w : W) : (saveSignals w).now = w.now := rfl
theorem saveSignals_events (w : W) : (saveSignals w).events = w.events := rfl
theorem saveSignals_u (w : W) : (saveSignals w).u = w.u := rfl
theorem saveSignals_sels (w : W) : (saveSignals w).sels = w.sels := rfl
theorem saveSignals_sigs (w : W) : (saveSignals w).sigs = w.sigs := rfl
theorem saveSignals_running (w : W) : (saveSignals w).running = w.running := rfl
theorem saveSignals_stopPatched (w : W) : (saveSignals w).stopPatched = w.stopPatched := rfl
theorem saveSignals_crashed (w : W) : (saveSignals w).crashed = w.crashed := rfl
theorem saveSignals_t0 (w : W) : (saveSignals w).t0 = w.t0 := rfl
theorem saveSignals_junk (w : W) : (saveSignals w).sp.junk = w.sp.junk := rfl
theorem saveSignals_tcall (w : W) : (saveSignals w).sp.tcall = w.sp.tcall := rfl
theorem saveSignals_spinning (w : W) : (saveSignals w).sp.spinning = w.sp.spinning := rfl
theorem saveSignals_success (w : W) : (saveSignals w).sp.success = none := rfl
theorem saveSignals_failure (w : W) : (saveSignals w).sp.failure = none := rfl
theorem saveSignals_saved (w : W) : (saveSignals w).sp.saved = w.sigs := rfl

theorem fireD_of_fired {w : W} {r : Res} (h : w.u.dres ≠ none) : fireD r w = w := by
  unfold fireD
  split
  · rfl
  · contradiction

theorem fireD_attached {w : W} (r : Res) (hd : w.u.dres = none) (ha : w.u.attached = true) :
    fireD r w = deliver r { w with u := { w.u with dres := some r } } := by
  unfold fireD; simp [hd, ha]

theorem fireD_unattached {w : W} (r : Res) (ha : w.u.attached = false) :
    fireD r w = { w with u := { w.u with dres := w.u.dres.or (some r) } } := by
  unfold fireD
  cases hd : w.u.dres with
  | some x => show w = { w with u := { w.u with dres := some x } }; rw [← hd]
  | none => simp [ha]

theorem fireD_inv (P : W → Prop) (r : Res) (hnote : ∀ w : W, P w → P { w with u := { w.u with dres := some r } })
    (hdel : ∀ w : W, P w → P (deliver r w)) (w : W) (h : P w) : P (fireD r w) := by
  unfold fireD
  split
  · exact h
  · simp only []
    split
    · exact hdel _ (hnote w h)
    · exact hnote w h

/-- the last arm is a frame statement: such an action moves `sels`, `sigs` and `reentries` only -/
theorem exec_eq (l : Nat) (a : Act) (w : W) : exec l a w =
    match kindOf a with
    | .decisive r => fireD r w
    | .stop => { w with crashed := true }
    | .other => { w with sels := (exec l a w).sels, sigs := (exec l a w).sigs,
                         u := { w.u with reentries := (exec l a w).u.reentries } } := by
  cases a <;> rfl

theorem kindOf_own {a : Act} {r : Res} (h : kindOf a = .decisive r) : isOwnResult r = true := by
  cases a <;> cases h <;> rfl

/-- (`isOwnResult r`: only results of `f` itself are delivered; of the invariants carried this way only `TJ` needs it, for its
cancelled case) -/
theorem exec_inv (P : W → Prop) (hnote : ∀ r (w : W), P w → P { w with u := { w.u with dres := some r } })
    (hdel : ∀ r (w : W), isOwnResult r = true → P w → P (deliver r w))
    (hstop : ∀ w : W, P w → P { w with crashed := true })
    (hother : ∀ (w : W) sels sigs re, P w → P { w with sels := sels, sigs := sigs, u := { w.u with reentries := re } })
    (l : Nat) (a : Act) (w : W) (h : P w) : P (exec l a w) := by
  rw [exec_eq]
  split
  · next r hk => exact fireD_inv P r (hnote r) (fun w => hdel r w (kindOf_own hk)) w h
  · exact hstop w h
  · exact hother w _ _ _ h

/-- `Spec.C15.kindOf` on queue entries: the timeout call decides, with `TimeoutError` -/
def kindQ : QAct Act → Kind
  | .timeout => .decisive .timeout
  | .user _ a => kindOf a

def resOf : Kind → Option Res
  | .decisive r => some r
  | _ => none

theorem resOf_eq_some {k : Kind} {r : Res} (h : resOf k = some r) : k = .decisive r := by
  cases k <;> cases h <;> rfl

structure Live (w : W) : Prop where
  att : w.u.attached = true
  dres : w.u.dres = none
  tc : w.sp.tcall = .pending
  succ : w.sp.success = none
  fail : w.sp.failure = none
  spinning : w.sp.spinning = true

/-- the result of the loop from a `Live` state, read off the queue in one scan.  `now` is the instant of the current iteration (the
clock moves to the head's time, never back: `max`); after a stop request only the calls due at that instant are still looked at
(`drain` finishes the iteration in which the reactor was crashed), a later head ends the scan -/
def liveRes (crashed : Bool) (now : Nat) : List (DCall (QAct Act)) → Res
  | [] => .noresult
  | c :: rest =>
    if crashed && now < c.time then .noresult else
    match resOf (kindQ c.act) with
    | some r => r
    | none => liveRes (crashed || kindQ c.act == .stop) (max now c.time) rest

/-- the result is decided and nothing that can still run will change it: a result was delivered, which cancelled the timeout
call, so none is queued; or the timeout call has run - then nothing is asked of the queue, a further one would record the
same failure -/
def Done (r : Res) (w : W) : Prop :=
  w.crashed = true ∧ getResult w.sp = r ∧
  ((w.u.dres ≠ none ∧ w.sp.tcall = .cancelled ∧ ∀ c ∈ w.calls, c.act.isTimeout = false)
   ∨ (w.sp.tcall = .called ∧ w.sp.failure = some .timeout))

theorem Done.crashed {r : Res} {w : W} (h : Done r w) : w.crashed = true := h.1
theorem Done.result {r : Res} {w : W} (h : Done r w) : getResult w.sp = r := h.2.1

theorem getResult_live {w : W} (h : Live w) : getResult w.sp = .noresult := by
  simp [getResult, h.succ, h.fail]

theorem Live.of_eq {w w' : W} (h : Live w) (ha : w'.u.attached = w.u.attached) (hd : w'.u.dres = w.u.dres)
    (hsp : w'.sp = w.sp) : Live w' :=
  ⟨ha ▸ h.att, hd ▸ h.dres, hsp ▸ h.tc, hsp ▸ h.succ, hsp ▸ h.fail, hsp ▸ h.spinning⟩

theorem Done.of_eq {r : Res} {w w1 : W} (h : Done r w) (hcr : w1.crashed = true) (ht : w1.sp.tcall = w.sp.tcall)
    (hs : w1.sp.success = w.sp.success) (hf : w1.sp.failure = w.sp.failure) (hd : w.u.dres ≠ none → w1.u.dres ≠ none)
    (hsub : ∀ x ∈ w1.calls, x ∈ w.calls) : Done r w1 := by
  obtain ⟨_, hr, h3⟩ := h
  refine ⟨hcr, by rw [← hr]; simp only [getResult, hs, hf], ?_⟩
  rw [ht, hf]
  exact h3.imp (fun ⟨a, b, c⟩ => ⟨hd a, b, fun x hx => c x (hsub x hx)⟩) id

theorem done_stopReactor {r : Res} {w : W} (h : Done r w) : Done r (stopReactor w) :=
  Done.of_eq h (by simp [stopReactor_crashed, h.crashed]) (by simp) (by simp) (by simp) (by simp) (by simp)

theorem done_deliver {r r' : Res} {w : W} (h : Done r w) : Done r (deliver r' w) := by
  rw [deliver_of_not_pending]
  · exact done_stopReactor h
  · rcases h.2.2 with ⟨_, ht, _⟩ | ⟨ht, _⟩ <;> simp [ht]

theorem deliver_decides {w : W} (r : Res) (htc : w.sp.tcall = .pending) (hf : w.sp.failure = none)
    (hsp : w.sp.spinning = true) (hd : w.u.dres ≠ none) : Done r (deliver r w) := by
  refine ⟨by rw [deliver_crashed, hsp, Bool.or_true], deliver_getResult w r htc hf,
    Or.inl ⟨by simpa using hd, by rw [deliver_tcall, if_pos htc], fun c hc => ?_⟩⟩
  rw [deliver_calls, if_pos htc] at hc
  simpa using (List.mem_filter.mp hc).2

theorem live_step {w : W} (h : Live w) (c : DCall (QAct Act)) (rest : List (DCall (QAct Act))) :
    let w' := execCall exec c { w with calls := rest }
    match resOf (kindQ c.act) with
    | some r => Done r w'
    | none => Live w' ∧ w'.crashed = (w.crashed || kindQ c.act == .stop) ∧ w'.calls = rest ∧ w'.now = w.now := by
  rcases c with ⟨t, q⟩
  cases q with
  | timeout =>
    exact ⟨by simp [execTimeout_crashed, h.spinning], by simp [getResult],
      Or.inr ⟨by simp, by simp⟩⟩
  | user l a =>
    have hl : Live (logEvent (.user l) { w with calls := rest }) := h.of_eq rfl rfl rfl
    simp only [kindQ, execCall]
    rw [exec_eq]
    cases hk : kindOf a with
    | decisive r =>
      dsimp only [resOf]
      rw [fireD_attached r hl.dres hl.att]
      exact deliver_decides r hl.tc hl.fail hl.spinning (by simp)
    | stop => exact ⟨h.of_eq rfl rfl rfl, (Bool.or_true _).symm, rfl, rfl⟩
    | other => exact ⟨h.of_eq rfl rfl rfl, (Bool.or_false _).symm, rfl, rfl⟩

theorem done_step {r : Res} {w : W} (h : Done r w) (c : DCall (QAct Act)) (rest : List (DCall (QAct Act)))
    (hc : w.calls = c :: rest) : Done r (execCall exec c { w with calls := rest }) := by
  have hrest : Done r { w with calls := rest } :=
    Done.of_eq h h.crashed rfl rfl rfl id (fun x hx => hc ▸ List.mem_cons_of_mem _ hx)
  rcases c with ⟨t, q⟩
  cases q with
  | timeout =>
    -- only possible when the timeout call had been called before (no timeout call is queued after a cancel)
    rcases h.2.2 with ⟨_, _, c'⟩ | ⟨a, b⟩
    · have := c' ⟨t, .timeout⟩ (by rw [hc]; exact List.mem_cons_self)
      simp [QAct.isTimeout] at this
    · refine ⟨by simp [execTimeout_crashed, h.crashed], ?_, Or.inr ⟨by simp, by simp⟩⟩
      rw [← h.result]
      simp [getResult, b]
  | user l a =>
    exact exec_inv (Done r) (fun _ _ h => Done.of_eq h h.crashed rfl rfl rfl (fun _ => by simp) (fun _ h => h))
      (fun _ _ _ h => done_deliver h) (fun _ h => Done.of_eq h rfl rfl rfl rfl id (fun _ h => h))
      (fun _ _ _ _ h => Done.of_eq h h.crashed rfl rfl rfl id (fun _ h => h)) l a _ hrest

theorem done_drain {r : Res} : ∀ (n : Nat) (w : W), Done r w → Done r (drain exec n w) :=
  drain_inv exec (Done r) (fun _ c rest h hc => done_step h c rest hc)

/-- (What is left is a suffix of the queue: so `spin_live` sees the queue get shorter.) -/
theorem drain_live : ∀ (n : Nat) (w : W), Live w → w.calls.length ≤ n →
    Done (liveRes w.crashed w.now w.calls) (drain exec n w) ∨
    (Live (drain exec n w) ∧ (drain exec n w).now = w.now
      ∧ (∀ c rest, (drain exec n w).calls = c :: rest → w.now < c.time)
      ∧ liveRes (drain exec n w).crashed w.now (drain exec n w).calls = liveRes w.crashed w.now w.calls
      ∧ ∃ k, (drain exec n w).calls = w.calls.drop k)
  | 0 => fun w h hn => by
      have : w.calls = [] := List.eq_nil_of_length_eq_zero (by omega)
      exact Or.inr ⟨h, rfl, by simp [drain, this], rfl, 0, rfl⟩
  | n + 1 => fun w h hn => by
      unfold drain
      split
      · next hc => exact Or.inr ⟨h, rfl, by simp [hc], rfl, 0, rfl⟩
      · next c rest hc =>
        split
        · next hle =>
          have hstep := live_step h c rest
          have hmax : max w.now c.time = w.now := by omega
          rw [hc, liveRes, if_neg (by simp; omega), hmax]
          cases hk : resOf (kindQ c.act) with
          | some r =>
            rw [hk] at hstep
            exact Or.inl (done_drain n _ hstep)
          | none =>
            rw [hk] at hstep
            obtain ⟨hl, hcr, hcalls, hnow⟩ := hstep
            have ih := drain_live n _ hl (by rw [hcalls]; simp [hc] at hn; omega)
            rw [hcr, hcalls, hnow] at ih
            exact ih.imp id fun ⟨hl, hnow, hdue, hres, k, hk⟩ => ⟨hl, hnow, hdue, hres, k + 1, hk⟩
        · next hnle =>
          refine Or.inr ⟨h, rfl, fun c' rest' hc' => ?_, rfl, 0, rfl⟩
          obtain ⟨rfl, _⟩ := List.cons.inj (hc ▸ hc')
          omega

theorem liveRes_advance (now : Nat) (c : DCall (QAct Act)) (rest : List (DCall (QAct Act))) :
    liveRes false (max now c.time) (c :: rest) = liveRes false now (c :: rest) := by
  simp only [liveRes, Bool.false_and, Bool.false_eq_true, if_false, Nat.max_assoc, Nat.max_self]

/-- (a `Live` state can be crashed - by a stop request; between two iterations the head is then not due: third hypothesis, which
`drain_live` re-establishes) -/
theorem spin_live : ∀ (n : Nat) (w : W), Live w → w.calls.length < n →
    (w.crashed = true → ∀ c rest, w.calls = c :: rest → w.now < c.time) →
    getResult (spin exec queueLen n w).sp = liveRes w.crashed w.now w.calls ∧
    ((spin exec queueLen n w).crashed = true ∨ (spin exec queueLen n w).calls = [])
  | 0 => fun _ _ hn _ => by omega
  | n + 1 => fun w h hn hdue => by
      unfold spin
      split
      · next hcr =>
        refine ⟨?_, Or.inl hcr⟩
        rw [getResult_live h, hcr]
        cases hc : w.calls with
        | nil => rfl
        | cons c rest => simp [liveRes, hdue hcr c rest hc]
      · next hcr =>
        have hcr' : w.crashed = false := by simpa using hcr
        split
        · next hc => exact ⟨by rw [getResult_live h, hc]; rfl, Or.inr hc⟩
        · next c rest hc =>
          generalize hw1 : ({ w with now := max w.now c.time } : W) = w1
          have hc1 : w1.calls = c :: rest := hw1 ▸ hc
          have hcr1 : w1.crashed = false := hw1 ▸ hcr'
          have hn1 : w1.now = max w.now c.time := hw1 ▸ rfl
          have hd := drain_live (queueLen w1) w1 (hw1 ▸ h.of_eq rfl rfl rfl) (Nat.le_refl _)
          rw [hcr1, hc1, hn1, liveRes_advance] at hd
          rw [hcr', hc]
          rcases hd with hd | ⟨hl, hnow, hdue, hres, k, hk⟩
          · -- decided: the loop stops at once
            rw [spin_crashed n _ hd.crashed]
            exact ⟨hd.result, Or.inl hd.crashed⟩
          · -- still live: the head was due, so it has been consumed, and the fuel `n` still exceeds the queue (`hlt`, for `omega`)
            have hlt : (drain exec (queueLen w1) w1).calls.length < (c :: rest).length := by
              cases k with
              | zero => have := hdue c rest hk; omega
              | succ k => rw [hk, List.drop_succ_cons, List.length_drop, List.length_cons]; omega
            have ih := spin_live n _ hl (by rw [hc] at hn; omega) (fun _ c2 rest2 hc2 => hnow ▸ hdue c2 rest2 hc2)
            rw [hnow] at ih
            rw [ih.1, hres]
            exact ⟨rfl, ih.2⟩

def decQ (c : DCall (QAct Act)) : Bool := (resOf (kindQ c.act)).isSome

def resQ (c : DCall (QAct Act)) : Res := (resOf (kindQ c.act)).getD .noresult

/-- `Spec.C15.noStopBefore t` on one queue entry -/
def stopOk (t : Nat) (c : DCall (QAct Act)) : Bool := kindQ c.act != Kind.stop || decide (t ≤ c.time)

/-- (`!cr || d.time ≤ now`: once crashed, the first decisive call still counts only if it is due at the instant of the crash) -/
theorem liveRes_sorted : ∀ (q : List (DCall (QAct Act))) (cr : Bool) (now : Nat), Sorted q → (∀ c ∈ q, now ≤ c.time) →
    liveRes cr now q = match q.find? decQ with
      | some d => if (!cr || decide (d.time ≤ now)) && q.all (stopOk d.time) then resQ d else .noresult
      | none => .noresult
  | [] => fun _ _ _ _ => rfl
  | c :: rest => fun cr now hs hge => by
      have hc := hge c List.mem_cons_self
      obtain ⟨hrest, hs'⟩ := List.pairwise_cons.mp hs
      have hmax : max now c.time = c.time := by omega
      rw [liveRes, hmax, liveRes_sorted rest _ c.time hs' hrest, List.find?_cons, decQ]
      cases hk : resOf (kindQ c.act) with
      | some r =>
        have hall : (c :: rest).all (stopOk c.time) = true := by
          simp only [List.all_eq_true, stopOk, Bool.or_eq_true, decide_eq_true_eq, List.mem_cons]
          rintro x (rfl | hx)
          · exact Or.inr (Nat.le_refl _)
          · exact Or.inr (hrest x hx)
        simp only [Option.isSome_some, hall, resQ, hk, Option.getD_some, Bool.and_true]
        cases cr <;> by_cases h1 : now < c.time <;> simp [h1] <;> omega
      | none =>
        simp only [Option.isSome_none]
        cases hf : rest.find? decQ with
        | none => simp
        | some d =>
          have hd := hrest d (List.mem_of_find?_eq_some hf)
          simp only [List.all_cons, stopOk]
          cases cr
          · simp
          · by_cases h1 : now < c.time
            · have : ¬ d.time ≤ now := by omega
              simp [h1, this]
            · have : now = c.time := by omega
              subst this
              by_cases h2 : d.time ≤ c.time <;> simp [h2]

def insAll (L q : List (DCall (QAct Act))) : List (DCall (QAct Act)) := L.foldl (fun q c => insert c q) q

theorem insAll_sorted : ∀ (L q : List (DCall (QAct Act))), Sorted q → Sorted (insAll L q)
  | [], _, h => h
  | c :: L, q, h => insAll_sorted L _ (insert_sorted c q h)

theorem insAll_perm (L q : List (DCall (QAct Act))) : (insAll L q).Perm (L ++ q) := foldl_insert_perm L q

theorem mem_insAll (c : DCall (QAct Act)) (L q : List (DCall (QAct Act))) : c ∈ insAll L q ↔ c ∈ L ∨ c ∈ q :=
  (insAll_perm L q).mem_iff.trans List.mem_append

theorem insAll_length (L q : List (DCall (QAct Act))) : (insAll L q).length = L.length + q.length :=
  (insAll_perm L q).length_eq.trans List.length_append

theorem insAll_all (p : DCall (QAct Act) → Bool) (L q : List (DCall (QAct Act))) :
    (insAll L q).all p = (L.all p && q.all p) :=
  (insAll_perm L q).all_eq.trans List.all_append

theorem insAll_append (L1 L2 q : List (DCall (QAct Act))) : insAll (L1 ++ L2) q = insAll L2 (insAll L1 q) :=
  List.foldl_append

/-- the step of `winner` (`winner_cons`) -/
def better (t : Nat) (o : Option Res) (best : Option (Nat × Res)) : Option (Nat × Res) :=
  match o, best with
  | none, best => best
  | some r, none => some (t, r)
  | some r, some (tb, rb) => if t < tb then some (t, r) else some (tb, rb)

theorem winner_cons (t : Nat) (k : Kind) (rest : List (Nat × Kind)) (best : Option (Nat × Res)) :
    winner ((t, k) :: rest) best = winner rest (better t (resOf k) best) := by
  cases k <;> cases best <;> rfl

theorem winner_shift (b : Nat) : ∀ (cs : List (Nat × Kind)) (best : Option (Nat × Res)),
    winner (cs.map fun c => (b + c.1, c.2)) (best.map fun x => (b + x.1, x.2)) =
      (winner cs best).map fun x => (b + x.1, x.2)
  | [], _ => rfl
  | (t, k) :: rest, best => by
      rw [List.map_cons, winner_cons, winner_cons, ← winner_shift b rest]
      congr 1
      rcases hk : resOf k with _ | r <;> rcases best with _ | ⟨tb, rb⟩ <;> simp only [better, Option.map]
      by_cases h : t < tb <;> simp [h]

/-- a queue entry as `Spec.C15.delayed` lists it -/
def timeKind (c : DCall (QAct Act)) : Nat × Kind := (c.time, kindQ c.act)
/-- a decisive queue entry as `winner` returns it -/
def timeRes (c : DCall (QAct Act)) : Nat × Res := (c.time, resQ c)

theorem insAll_find : ∀ (L q : List (DCall (QAct Act))), Sorted q →
    ((insAll L q).find? decQ).map timeRes = winner (L.map timeKind) ((q.find? decQ).map timeRes)
  | [], q, _ => rfl
  | c :: L, q, hs => by
      rw [insAll, List.foldl_cons, ← insAll, insAll_find L _ (insert_sorted c q hs), insert_find decQ c q hs, List.map_cons,
        timeKind, winner_cons]
      congr 1
      rw [show decQ c = (resOf (kindQ c.act)).isSome from rfl]
      cases hk : resOf (kindQ c.act) with
      | none => rfl
      | some r =>
        have hres : resQ c = r := by rw [resQ, hk]; rfl
        cases hf : q.find? decQ with
        | none => simp [better, timeRes, hres]
        | some d =>
          by_cases hle : d.time ≤ c.time
          · simp [better, timeRes, hle, Nat.not_lt.mpr hle]
          · simp [better, timeRes, hres, hle, Nat.lt_of_not_le hle]

/-- the delayed calls made by `f`, with their labels and absolute times -/
def laterCalls (b : Nat) : Nat → List Op → List (DCall (QAct Act))
  | _, [] => []
  | i, .later d a :: rest => ⟨b + d, .user i a⟩ :: laterCalls b (i + 1) rest
  | i, .now _ :: rest => laterCalls b (i + 1) rest

/-- the delayed calls made before `run`, as operations of `f` -/
def preOps (pre : List (Nat × Act)) : List Op := pre.map fun p => .later p.1 p.2

theorem schedPre_eq_runBody : ∀ (i : Nat) (pre : List (Nat × Act)) (w : W), schedPre i pre w = runBody i (preOps pre) w
  | _, [], _ => rfl
  | i, _ :: rest, _ => schedPre_eq_runBody (i + 1) rest _

theorem schedPre_eq : ∀ (i : Nat) (pre : List (Nat × Act)) (w : W),
    schedPre i pre w = { w with calls := insAll (laterCalls w.now i (preOps pre)) w.calls }
  | _, [], _ => rfl
  | i, (d, a) :: rest, w => by rw [schedPre, schedPre_eq (i + 1) rest]; rfl

theorem laterCalls_timeKind (b : Nat) : ∀ (i : Nat) (body : List Op),
    (laterCalls b i body).map timeKind = (body.filterMap laterKind).map fun c => (b + c.1, c.2)
  | _, [] => rfl
  | i, .later d a :: rest => by simp [laterCalls, timeKind, kindQ, laterKind, laterCalls_timeKind b (i + 1) rest]
  | i, .now a :: rest => laterCalls_timeKind b (i + 1) rest

theorem laterCalls_mem (b : Nat) : ∀ (i : Nat) (body : List Op), ∀ c ∈ laterCalls b i body, b ≤ c.time ∧ c.act.isTimeout = false
  | _, [], c, h => by cases h
  | i, .later d a :: rest, c, h => by
      rcases List.mem_cons.mp h with rfl | h
      · exact ⟨Nat.le_add_right _ _, rfl⟩
      · exact laterCalls_mem b (i + 1) rest c h
  | i, .now a :: rest, c, h => laterCalls_mem b (i + 1) rest c h

theorem laterCalls_preOps_length (b : Nat) : ∀ (i : Nat) (pre : List (Nat × Act)), (laterCalls b i (preOps pre)).length = pre.length
  | _, [] => rfl
  | i, _ :: rest => congrArg (· + 1) (laterCalls_preOps_length b (i + 1) rest)

theorem fireRes_eq (a : Act) : fireRes a = resOf (kindOf a) := by cases a <;> rfl

theorem exec_unattached (l : Nat) (a : Act) (w : W) (h : w.u.attached = false) :
    (exec l a w).calls = w.calls ∧ (exec l a w).now = w.now ∧ (exec l a w).t0 = w.t0 ∧ (exec l a w).sp = w.sp
    ∧ (exec l a w).u.attached = false ∧ (exec l a w).u.dres = w.u.dres.or (fireRes a)
    ∧ (exec l a w).crashed = (w.crashed || a == .stop)
    ∧ (exec l a w).running = w.running ∧ (exec l a w).stopPatched = w.stopPatched := by
  have he := exec_eq l a w
  rw [fireRes_eq, show (a == .stop) = (kindOf a == .stop) by cases a <;> rfl]
  cases hk : kindOf a <;> simp only [hk] at he <;> rw [he]
  · rw [fireD_unattached _ h]
    exact ⟨rfl, rfl, rfl, rfl, h, rfl, (Bool.or_false _).symm, rfl, rfl⟩
  · exact ⟨rfl, rfl, rfl, rfl, h, Option.or_none.symm, (Bool.or_true _).symm, rfl, rfl⟩
  · exact ⟨rfl, rfl, rfl, rfl, h, Option.or_none.symm, (Bool.or_false _).symm, rfl, rfl⟩

structure BodyFacts (i : Nat) (body : List Op) (w w' : W) : Prop where
  calls : w'.calls = insAll (laterCalls w.now i body) w.calls
  now : w'.now = w.now
  t0 : w'.t0 = w.t0
  sp : w'.sp = w.sp
  att : w'.u.attached = false
  dres : w'.u.dres = (match w.u.dres with | some r => some r | none => (body.filterMap nowAct).findSome? fireRes)
  crashed : w'.crashed = (w.crashed || (body.filterMap nowAct).any (· == .stop))
  running : w'.running = w.running
  stopPatched : w'.stopPatched = w.stopPatched

theorem runBody_facts : ∀ (i : Nat) (body : List Op) (w : W), w.u.attached = false →
    BodyFacts i body w (runBody i body w)
  | _, [], w, h => ⟨rfl, rfl, rfl, rfl, h, by show w.u.dres = _; cases w.u.dres <;> rfl, (Bool.or_false _).symm, rfl, rfl⟩
  | i, .later d a :: rest, w, h =>
      have ih := runBody_facts (i + 1) rest (schedule (w.now + d) (.user i a) w) h
      ⟨ih.calls, ih.now, ih.t0, ih.sp, ih.att, ih.dres, ih.crashed, ih.running, ih.stopPatched⟩
  | i, .now a :: rest, w, h => by
      obtain ⟨hcalls, hnow, ht0, hsp, hatt, hdres, hcr, hrun, hpatched⟩ := exec_unattached i a (logEvent (.user i) w) h
      have ih := runBody_facts (i + 1) rest (exec i a (logEvent (.user i) w)) hatt
      refine ⟨by rw [runBody, ih.calls, hcalls, hnow]; rfl, ih.now.trans hnow, ih.t0.trans ht0, ih.sp.trans hsp, ih.att, ?_, ?_,
        ih.running.trans hrun, ih.stopPatched.trans hpatched⟩
      · rw [runBody, ih.dres, hdres, logEvent_u]
        cases w.u.dres with
        | some r => rfl
        | none => simp only [List.filterMap_cons, nowAct, List.findSome?_cons]; cases fireRes a <;> rfl
      · rw [runBody, ih.crashed, hcr]
        simp [nowAct, Bool.or_assoc]

/-- the delayed calls of the scenario in scheduling order, labelled, with absolute times -/
def allCalls (sc : Scen) (b : Nat) : List (DCall (QAct Act)) :=
  laterCalls b 0 (preOps sc.pre) ++ ⟨b + sc.timeout, .timeout⟩ :: laterCalls b sc.pre.length sc.body

theorem allCalls_timeKind (sc : Scen) (b : Nat) :
    (allCalls sc b).map timeKind = (delayed sc).map fun c => (b + c.1, c.2) := by
  simp [allCalls, delayed, laterCalls_timeKind, preOps, List.filterMap_map, Function.comp_def, laterKind, timeKind, kindQ]

theorem allCalls_time (sc : Scen) (b : Nat) : ∀ c ∈ allCalls sc b, b ≤ c.time := by
  intro c hc
  rcases List.mem_append.mp hc with hc | hc
  · exact (laterCalls_mem b _ _ c hc).1
  · rcases List.mem_cons.mp hc with rfl | hc
    · exact Nat.le_add_right _ _
    · exact (laterCalls_mem b _ _ c hc).1

/-- the reactor between two calls of `run` -/
structure Idle (w : W) : Prop where
  calls : w.calls = []
  sels : w.sels = []
  running : w.running = false
  stopPatched : w.stopPatched = false

theorem afterPre_eq (sc : Scen) (w0 : W) (h : Idle w0) :
    afterPre sc w0 = { start w0 with calls := insAll (laterCalls w0.now 0 (preOps sc.pre)) [] } := by
  rw [afterPre, schedPre_eq, show (start w0).calls = [] from h.calls]
  rfl

theorem afterPre_junk (sc : Scen) (w0 : W) : (afterPre sc w0).sp.junk = w0.sp.junk := by
  rw [afterPre, schedPre_eq]; rfl

theorem fStart_body (sc : Scen) (w0 : W) (h : Idle w0) :
    let wD := runBody sc.pre.length sc.body (fStart sc (afterPre sc w0))
    wD.calls = insAll (allCalls sc w0.now) [] ∧ wD.now = w0.now ∧ wD.sp = (fStart sc (afterPre sc w0)).sp
    ∧ wD.u.dres = syncFire sc ∧ wD.crashed = syncStop sc := by
  have hb := runBody_facts sc.pre.length sc.body (fStart sc (afterPre sc w0)) (by rw [afterPre_eq sc w0 h]; rfl)
  rw [afterPre_eq sc w0 h] at hb ⊢
  exact ⟨by rw [hb.calls, allCalls, insAll_append]; rfl, hb.now, hb.sp, by rw [hb.dres]; rfl, by rw [hb.crashed]; rfl⟩

theorem liveRes_scen (sc : Scen) (b : Nat) :
    liveRes false b (insAll (allCalls sc b) []) =
    match winner (delayed sc) none with
      | none => .noresult
      | some (t, r) => if noStopBefore t (delayed sc) then r else .noresult := by
  have hge : ∀ c ∈ insAll (allCalls sc b) [], b ≤ c.time := fun c hc =>
    ((mem_insAll _ _ _).mp hc).elim (allCalls_time sc b c) (fun h => nomatch h)
  rw [liveRes_sorted _ _ _ (insAll_sorted _ _ .nil) hge]
  simp only [Bool.not_false, Bool.true_or, Bool.true_and]
  have hfind := insAll_find (allCalls sc b) [] .nil
  rw [allCalls_timeKind, List.find?_nil, Option.map_none, ← Option.map_none (fun x : Nat × Res => (b + x.1, x.2)), winner_shift] at hfind
  cases hw : winner (delayed sc) none with
  | none =>
    rw [hw] at hfind
    rw [Option.map_eq_none_iff.mp hfind]
  | some tr =>
    obtain ⟨t, r⟩ := tr
    rw [hw] at hfind
    obtain ⟨d, hd, hkey⟩ := Option.map_eq_some_iff.mp hfind
    obtain ⟨hdt, hdr⟩ := Prod.mk.inj hkey
    have hall : (insAll (allCalls sc b) []).all (stopOk d.time) = noStopBefore t (delayed sc) := by
      have : (allCalls sc b).all (stopOk d.time)
          = ((allCalls sc b).map timeKind).all (fun c => c.2 != Kind.stop || decide (d.time ≤ c.1)) := by
        rw [List.all_map]; rfl
      rw [insAll_all, List.all_nil, Bool.and_true, this, allCalls_timeKind, hdt, noStopBefore, List.all_map]
      exact List.all_congr rfl (by simp)
    simp only [hd, hall, hdr]

theorem spinPhase_result (sc : Scen) (w0 : W) (h : Idle w0) :
    getResult (spinPhase sc (afterPre sc w0)).sp = expected sc ∧
    ((spinPhase sc (afterPre sc w0)).crashed = true ∨ (spinPhase sc (afterPre sc w0)).calls = []) := by
  obtain ⟨hcalls, hnow, hsp, hdr, hcr⟩ := fStart_body sc w0 h
  -- nothing else is asked of the state in which `run` was called
  generalize afterPre sc w0 = w at *
  -- a synchronous result is recorded at once and the reactor is crashed before the loop starts
  have sync : ∀ r (w' : W), w'.sp = (fStart sc w).sp → syncRes sc = some r → loopStart sc w = deliver r w' →
      getResult (spinPhase sc w).sp = expected sc ∧ ((spinPhase sc w).crashed = true ∨ (spinPhase sc w).calls = []) := by
    intro r w' hsp' hsr hls
    have hcrash : (deliver r w').crashed = true := by rw [deliver_crashed, hsp']; exact Bool.or_true _
    rw [spinPhase_eq, hls, spin_crashed _ _ hcrash, show expected sc = r by simp [expected, hsr]]
    exact ⟨deliver_getResult w' r (by rw [hsp']; rfl) (by rw [hsp']; rfl), Or.inl hcrash⟩
  cases hterm : sc.term with
  | ret v => exact sync (.value v) _ hsp (by simp [syncRes, hterm]) (by simp [loopStart, finishF, hterm])
  | raise e => exact sync (.raised e) _ hsp (by simp [syncRes, hterm]) (by simp [loopStart, finishF, hterm])
  | deferred =>
    cases hsf : syncFire sc with
    | some r =>
      refine sync r { runBody sc.pre.length sc.body (fStart sc w) with
        u := { (runBody sc.pre.length sc.body (fStart sc w)).u with attached := true } } hsp (by simp [syncRes, hterm, hsf]) ?_
      simp only [loopStart, finishF, hterm]
      rw [hdr, hsf]
    | none =>
      have hsr : syncRes sc = none := by simp [syncRes, hterm, hsf]
      have hls : loopStart sc w = { runBody sc.pre.length sc.body (fStart sc w) with
          u := { (runBody sc.pre.length sc.body (fStart sc w)).u with attached := true } } := by
        simp only [loopStart, finishF, hterm]
        rw [hdr, hsf]
      have hlive : Live (loopStart sc w) := by
        rw [hls]
        exact ⟨rfl, hdr.trans hsf, congrArg (·.tcall) hsp, congrArg (·.success) hsp, congrArg (·.failure) hsp,
          congrArg (·.spinning) hsp⟩
      have hcr' : (loopStart sc w).crashed = syncStop sc := (congrArg (·.crashed) hls).trans hcr
      rw [spinPhase_eq]
      cases hss : syncStop sc with
      | true =>
        have hcrash : (loopStart sc w).crashed = true := hcr'.trans hss
        rw [spin_crashed _ _ hcrash]
        exact ⟨by rw [getResult_live hlive]; simp [expected, hsr, hss], Or.inl hcrash⟩
      | false =>
        have hsl := spin_live ((loopStart sc w).calls.length + 1) (loopStart sc w) hlive (Nat.lt_succ_self _)
          (by intro h; rw [hcr', hss] at h; cases h)
        refine ⟨?_, hsl.2⟩
        rw [hsl.1, hcr', hss, (congrArg (·.calls) hls).trans hcalls, (congrArg (·.now) hls).trans hnow, liveRes_scen]
        simp only [expected, hsr, hss, Bool.false_eq_true, if_false]
        rfl

/-- the reactor's call order on (time, scheduling index) -/
def Before (t i t' i' : Nat) : Prop := t < t' ∨ (t = t' ∧ i < i')

theorem winner_keep (t : Nat) (r : Res) : ∀ rest : List (Nat × Kind),
    (∀ t' r', (t', Kind.decisive r') ∈ rest → t ≤ t') → winner rest (some (t, r)) = some (t, r)
  | [], _ => rfl
  | (t', k) :: rest, h => by
      have hp : better t' (resOf k) (some (t, r)) = some (t, r) := by
        cases hk : resOf k with
        | none => rfl
        | some r' =>
          have := h t' r' (resOf_eq_some hk ▸ List.mem_cons_self)
          simp [better, Nat.not_lt.mpr this]
      rw [winner_cons, hp]
      exact winner_keep t r rest fun t' r' hm => h t' r' (List.mem_cons_of_mem _ hm)

theorem winner_first_aux : ∀ (cs : List (Nat × Kind)) (best : Option (Nat × Res)) (t : Nat) (r : Res) (i : Nat),
    cs[i]? = some (t, .decisive r) →
    (∀ j t' r', cs[j]? = some (t', .decisive r') → j ≠ i → Before t i t' j) →
    (∀ tb rb, best = some (tb, rb) → t < tb) →
    winner cs best = some (t, r)
  | [] => fun _ _ _ _ h => by simp at h
  | (t0, k) :: rest => fun best t r i h hothers hbest => by
    cases i with
    | zero =>
      -- the head is the winner: it beats the best so far, and everything later is not due strictly earlier
      obtain ⟨rfl, rfl⟩ := Prod.mk.inj (Option.some.inj h)
      have hp : better t0 (resOf (.decisive r)) best = some (t0, r) := by
        rcases best with _ | ⟨tb, rb⟩
        · rfl
        · simp [better, resOf, hbest tb rb rfl]
      rw [winner_cons, hp]
      refine winner_keep t0 r rest fun t' r' hm => ?_
      obtain ⟨j, hj⟩ := List.getElem?_of_mem hm
      rcases hothers (j + 1) t' r' (by simpa using hj) (Nat.succ_ne_zero j) with h | ⟨h, _⟩ <;> omega
    | succ i =>
      rw [winner_cons]
      refine winner_first_aux rest _ t r i (by simpa using h) (fun j t' r' hj hne => ?_) fun tb rb hb => ?_
      · have := hothers (j + 1) t' r' (by simpa using hj) (by omega)
        unfold Before at this ⊢
        omega
      · -- a decisive head comes later in call order than the winner, so it is due strictly later
        cases hk : resOf k with
        | none => exact hbest tb rb (by rw [← hb, hk]; rfl)
        | some r0 =>
          have ht : t < t0 := by
            rcases hothers 0 t0 r0 (by rw [resOf_eq_some hk]; rfl) (Nat.succ_ne_zero i).symm with h | ⟨_, h⟩ <;> omega
          rw [hk] at hb
          rcases best with _ | ⟨tb', rb'⟩
          · cases hb; exact ht
          · have := hbest tb' rb' rfl
            simp only [better] at hb
            split at hb <;> cases hb <;> assumption

theorem winner_first (cs : List (Nat × Kind)) (t : Nat) (r : Res) (i : Nat)
    (h : cs[i]? = some (t, .decisive r))
    (hothers : ∀ j t' r', cs[j]? = some (t', .decisive r') → j ≠ i → Before t i t' j) :
    winner cs none = some (t, r) :=
  winner_first_aux cs none t r i h hothers nofun

end TTV.Props.C15
