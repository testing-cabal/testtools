import TTV.Model.StreamDeco
/-! The tag sets of the decorator model of Model/StreamDeco (`insertU`, `norm`). -/
namespace TTV.Stream.Deco

theorem mem_insertU (x y : Nat) : ∀ l : List Nat, x ∈ insertU y l ↔ x = y ∨ x ∈ l
  | [] => by simp [insertU]
  | z :: l => by
      simp only [insertU]
      split
      · simp
      · split
        · next h => simp [h]
        · simp only [List.mem_cons, mem_insertU x y l]
          exact or_left_comm

theorem mem_norm (x : Nat) : ∀ l : List Nat, x ∈ norm l ↔ x ∈ l
  | [] => by simp [norm]
  | y :: l => by
      have ih := mem_norm x l
      simp only [norm, List.foldr_cons] at ih ⊢
      rw [mem_insertU, ih]
      simp

theorem insertU_ne_nil (y : Nat) (ys : List Nat) : insertU y ys ≠ [] :=
  List.ne_nil_of_mem ((mem_insertU y y ys).mpr (.inl rfl))

theorem norm_isEmpty (xs : List Nat) : (norm xs).isEmpty = xs.isEmpty := by
  cases xs with
  | nil => rfl
  | cons x xs => exact List.isEmpty_eq_false_iff.mpr (insertU_ne_nil x (norm xs))

end TTV.Stream.Deco
