import TTV.Model.RunSkel
/-! The reference skeletons mean the hand-written model functions. -/
namespace TTV.RunSkel
open TTV.Run
/-- `if self.exception_caught == self._run_user(c): failed = True` -/
theorem interp_caught (p : Program) (c : Callee) (s : St) :
    interp p (.ifCaught c (.setFailed true .done) .done .done) s =
      { s with rs := (runCallee p c s.rs).1, failed := s.failed || !(runCallee p c s.rs).2 } := by
  cases h : (runCallee p c s.rs).2 <;> simp [interp, h]

/-- `if not failed: self.result.addSuccess(…)` -/
theorem interp_addSuccess (p : Program) (s : St) :
    interp p (.ifFailed true (.addSuccess .done) .done) s = { s with succ := s.succ || !s.failed } := by
  obtain ⟨rs, failed, returned, succ, skipped, bad⟩ := s
  cases failed <;> simp [interp]

/-- Only setUp giving up and the forced failure change the path taken through the skeleton; what the test method, tearDown
and the cleanups do goes into the flag `failed` (the two idioms above, tried before `interp` is unfolded). -/
theorem interp_refRunCore (p : Program) (ff0 : Bool) (h : p.skipDeco = none) :
    let s := interp p refRunCore { rs := initRS p ff0 }
    (s.rs, s.succ) = runCore p ff0 ∧ s.skipped = false ∧ s.bad = false := by
  show ((interp p refRunCore { rs := initRS p ff0 }).rs, (interp p refRunCore { rs := initRS p ff0 }).succ) = runCore p ff0 ∧ _
  rcases h1 : runStage p.setUp false (initRS p ff0) with ⟨s1, ok1⟩
  cases ok1
  · cases hf : (runCleanups s1).ff <;> simp [refRunCore, interp, runCallee, h, h1, hf, runCore]
  · rcases h2 : runStage p.body p.xfailDeco s1 with ⟨s2, ok2⟩
    rcases h3 : runStage p.tearDown false s2 with ⟨s3, ok3⟩
    cases hf : (runCleanups s3).ff <;>
      simp [refRunCore, ↓interp_caught, ↓interp_addSuccess, interp, runCallee, h, h1, h2, h3, hf, runCore]

theorem interp_refRunCore_skip (p : Program) (ff0 : Bool) (h : p.skipDeco.isSome) :
    let s := interp p refRunCore { rs := initRS p ff0 }
    s.skipped = true ∧ s.succ = false ∧ s.rs = initRS p ff0 ∧ s.bad = false := by
  simp [refRunCore, interp, h]

theorem selInterp_refSelect (hs : Handlers) (es : List Exc) : selInterp hs es refSelect = select hs es := by
  have e1 : (Cond.eval hs .unclaimed) = (fun e => !claimed hs e) := by funext e; rfl
  have e2 : (Cond.eval hs .notBenign) = (fun e => !benign hs e) := by funext e; rfl
  simp only [refSelect, selInterp, select, e1, e2, Bool.false_eq_true, if_false, if_true]
  rcases h1 : es.find? (fun e => !claimed hs e) with _ | a
  · rcases h2 : es.reverse.find? (fun e => !benign hs e) with _ | b <;> simp
  · simp
end TTV.RunSkel
