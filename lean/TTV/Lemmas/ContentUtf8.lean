import TTV.Spec.C16
import TTV.Lemmas.ContentDecode
/-! Lemmas for C16: the three modelled decoders against their whole-string references.  Latin-1 and ASCII go byte by byte
(`run_bytewise`).  For UTF-8 the machine decodes what the encoder writes (`runU_encodeCp_append`), and the RFC 3629 reference
`utf8Ref` is taken apart once, in the terms of the encoder (`utf8Ref_runU_ind`): the machine is the reference (`runU_start_eq_ref`),
which accepts exactly the encodings of texts over scalar values (`utf8Ref_utf8Encode`, `utf8Ref_some`); the model's encoder is
the one of core Lean (`encodeCp_eq_core`). -/
namespace TTV.Lemmas.ContentUtf8
open TTV.Content TTV.Spec.C16 TTV.Lemmas.ContentDecode

theorem run_bytewise (lim : Nat) (b : Bytes) :
    run ⟨(), feedBytes (fun _ x => if x < lim then some ((), [x]) else none), fun _ => some []⟩ () b
      = if b.all (· < lim) then some b else none := by
  induction b with
  | nil => rfl
  | cons x xs ih =>
    rw [run_feedBytes_cons, List.all_cons]
    by_cases hx : x < lim
    · rw [if_pos hx, decide_eq_true hx, Bool.true_and]; dsimp only; rw [ih]; split <;> rfl
    · rw [if_neg hx, decide_eq_false hx, Bool.false_and]; rfl

theorem decodeAll_latin1 (b : Bytes) : decodeAll latin1 b = latin1Ref b :=
  (decodeAll_eq_run latin1_lawful b).trans (run_bytewise 256 b)

theorem decodeAll_ascii (b : Bytes) : decodeAll ascii b = asciiRef b :=
  (decodeAll_eq_run ascii_lawful b).trans (run_bytewise 128 b)

/-- a `def` so that it stays folded in the statements below -/
def runU (s : U8) (b : Bytes) : Option Text := run utf8 s b

theorem runU_emit {s s' : U8} {x c : Nat} (h : u8step s x = some (s', [c])) (xs : Bytes) :
    runU s (x :: xs) = (runU s' xs).map (c :: ·) := by
  rw [runU, utf8, run_feedBytes_cons, h]; rfl

theorem runU_skip {s s' : U8} {x : Nat} (h : u8step s x = some (s', [])) (xs : Bytes) :
    runU s (x :: xs) = runU s' xs := by
  rw [runU, utf8, run_feedBytes_cons, h]; exact Option.map_id'

theorem runU_fail {s : U8} {x : Nat} (h : u8step s x = none) (xs : Bytes) : runU s (x :: xs) = none := by
  rw [runU, utf8, run_feedBytes_cons, h]

theorem between_iff {a b c : Nat} : (decide (a ≤ b) && decide (b ≤ c)) = true ↔ a ≤ b ∧ b ≤ c := by
  rw [Bool.and_eq_true, decide_eq_true_eq, decide_eq_true_eq]

theorem isCont_iff {b : Nat} : isCont b = true ↔ 128 ≤ b ∧ b ≤ 191 := between_iff

theorem step_ascii {b : Nat} (h : b < 0x80) : u8step U8.start b = some (U8.start, [b]) := by
  simp [u8step, U8.start, h]

theorem step_lead2 {b : Nat} (h : 0xC2 ≤ b ∧ b ≤ 0xDF) : u8step U8.start b = some (⟨1, b - 0xC0, 0x80, 0xBF⟩, []) := by
  have : ¬ b < 128 := by omega
  simp [u8step, U8.start, this, h]

theorem step_lead3 {b : Nat} (h : 0xE0 ≤ b ∧ b ≤ 0xEF) :
    u8step U8.start b = some (⟨2, b - 0xE0, if b = 0xE0 then 0xA0 else 0x80, if b = 0xED then 0x9F else 0xBF⟩, []) := by
  have h3 : ¬ b < 128 := by omega
  have h4 : ¬ b ≤ 223 := by omega
  simp [u8step, U8.start, h, h3, h4]

theorem step_lead4 {b : Nat} (h : 0xF0 ≤ b ∧ b ≤ 0xF4) :
    u8step U8.start b = some (⟨3, b - 0xF0, if b = 0xF0 then 0x90 else 0x80, if b = 0xF4 then 0x8F else 0xBF⟩, []) := by
  have h3 : ¬ b < 128 := by omega
  have h4 : ¬ b ≤ 223 := by omega
  have h5 : ¬ b ≤ 239 := by omega
  simp [u8step, U8.start, h, h3, h4, h5]

theorem step_lead_bad {b : Nat} (h : 0x80 ≤ b ∧ b < 0xC2 ∨ 0xF4 < b) : u8step U8.start b = none := by
  simp only [u8step, U8.start, if_true, between_iff]
  rw [if_neg (by omega), if_neg (by omega), if_neg (by omega), if_neg (by omega)]

theorem step_last {a lo hi b : Nat} (h : lo ≤ b ∧ b ≤ hi) :
    u8step ⟨1, a, lo, hi⟩ b = some (U8.start, [a * 64 + (b - 0x80)]) := by
  simp [u8step, h]

theorem step_more {n a lo hi b : Nat} (h : lo ≤ b ∧ b ≤ hi) :
    u8step ⟨n + 2, a, lo, hi⟩ b = some (⟨n + 1, a * 64 + (b - 0x80), 0x80, 0xBF⟩, []) := by
  simp [u8step, h]

theorem step_cont_bad {n a lo hi b : Nat} (h : ¬ (lo ≤ b ∧ b ≤ hi)) : u8step ⟨n + 1, a, lo, hi⟩ b = none := by
  simp only [u8step, Nat.add_one_ne_zero, if_false, between_iff, h]

theorem runU_short : ∀ (bs : Bytes) (n a lo hi : Nat), bs.length ≤ n → runU ⟨n + 1, a, lo, hi⟩ bs = none
  | [], _, _, _, _, _ => rfl
  -- `x :: xs` with `n = 0` needs no case: `h` is absurd there
  | x :: xs, n + 1, a, lo, hi, h => by
    by_cases hx : lo ≤ x ∧ x ≤ hi
    · rw [runU_skip (step_more hx), runU_short xs n _ _ _ (Nat.le_of_succ_le_succ h)]
    · exact runU_fail (step_cont_bad hx) xs

theorem validCp_iff {c : Nat} : validCp c = true ↔ c < 0xD800 ∨ (0xE000 ≤ c ∧ c < 0x110000) := by
  simp [validCp]

/-! The continuation bytes of a character carry its base-64 digits: with the code point written `((a * 64 + x) * 64 + y) * 64 + z`
the encoder's divisions disappear and what is left is linear arithmetic. -/

theorem digits64 (c : Nat) : ∃ a x, x < 64 ∧ c = a * 64 + x :=
  ⟨c / 64, c % 64, Nat.mod_lt _ (by decide), (Nat.div_add_mod' c 64).symm⟩

theorem div64 {a x : Nat} (hx : x < 64) : (a * 64 + x) / 64 = a := by omega

theorem cont_digit {b : Nat} (h : isCont b = true) : ∃ x, x < 64 ∧ b = 128 + x :=
  have h := isCont_iff.1 h
  ⟨b - 128, Nat.sub_lt_left_of_lt_add h.1 (Nat.lt_succ_of_le h.2), (Nat.add_sub_cancel' h.1).symm⟩

theorem cont_range {x : Nat} (hx : x < 64) : 128 ≤ 128 + x ∧ 128 + x ≤ 191 := by omega

theorem encodeCp_div64 (c : Nat) : encodeCp c =
    if c < 0x80 then [c]
    else if c < 0x800 then [0xC0 + c / 64, 0x80 + c % 64]
    else if c < 0x10000 then [0xE0 + c / 64 / 64, 0x80 + c / 64 % 64, 0x80 + c % 64]
    else [0xF0 + c / 64 / 64 / 64, 0x80 + c / 64 / 64 % 64, 0x80 + c / 64 % 64, 0x80 + c % 64] := by
  simp only [encodeCp, Nat.div_div_eq_div_mul]

theorem encodeCp_two {a x : Nat} (hx : x < 64) (h1 : ¬ a * 64 + x < 128) (h2 : a * 64 + x < 2048) (rest : Bytes) :
    encodeCp (a * 64 + x) ++ rest = (192 + a) :: (128 + x) :: rest := by
  rw [encodeCp_div64, if_neg h1, if_pos h2, div64 hx, Nat.mul_add_mod_of_lt hx]; rfl

theorem encodeCp_three {a x y : Nat} (hx : x < 64) (hy : y < 64) (h1 : ¬ (a * 64 + x) * 64 + y < 2048)
    (h2 : (a * 64 + x) * 64 + y < 65536) (rest : Bytes) :
    encodeCp ((a * 64 + x) * 64 + y) ++ rest = (224 + a) :: (128 + x) :: (128 + y) :: rest := by
  rw [encodeCp_div64, if_neg (by omega), if_neg h1, if_pos h2, div64 hy, div64 hx, Nat.mul_add_mod_of_lt hx, Nat.mul_add_mod_of_lt hy]; rfl

theorem encodeCp_four {a x y z : Nat} (hx : x < 64) (hy : y < 64) (hz : z < 64)
    (h : ¬ ((a * 64 + x) * 64 + y) * 64 + z < 65536) (rest : Bytes) :
    encodeCp (((a * 64 + x) * 64 + y) * 64 + z) ++ rest = (240 + a) :: (128 + x) :: (128 + y) :: (128 + z) :: rest := by
  rw [encodeCp_div64, if_neg (by omega), if_neg (by omega), if_neg h, div64 hz, div64 hy, div64 hx, Nat.mul_add_mod_of_lt hx,
    Nat.mul_add_mod_of_lt hy, Nat.mul_add_mod_of_lt hz]; rfl

theorem runU_encodeCp_append {c : Nat} (hc : validCp c = true) (rest : Bytes) :
    runU U8.start (encodeCp c ++ rest) = (runU U8.start rest).map (c :: ·) := by
  rw [validCp_iff] at hc
  by_cases h1 : c < 128
  · rw [encodeCp, if_pos h1]; exact runU_emit (step_ascii h1) rest
  obtain ⟨c₁, z, hz, rfl⟩ := digits64 c
  by_cases h2 : c₁ * 64 + z < 2048
  · rw [encodeCp_two hz h1 h2, runU_skip (step_lead2 (by omega)), runU_emit (step_last (cont_range hz))]
    simp only [Nat.add_sub_cancel_left]
  obtain ⟨c₂, y, hy, rfl⟩ := digits64 c₁
  by_cases h3 : (c₂ * 64 + y) * 64 + z < 65536
  · rw [encodeCp_three hy hz h2 h3, runU_skip (step_lead3 (by omega)),
      runU_skip (step_more ⟨by split <;> omega, by split <;> omega⟩),
      runU_emit (step_last (cont_range hz))]
    simp only [Nat.add_sub_cancel_left]
  obtain ⟨a, x, hx, rfl⟩ := digits64 c₂
  rw [encodeCp_four hx hy hz h3, runU_skip (step_lead4 (by omega)),
    runU_skip (step_more ⟨by split <;> omega, by split <;> omega⟩),
    runU_skip (step_more (cont_range hy)), runU_emit (step_last (cont_range hz))]
  simp only [Nat.add_sub_cancel_left]

/-- The second byte after a lead byte that restricts it (`E0`, `F0`: no overlong form; `ED`: no surrogate; `F4`: nothing
above U+10FFFF): a byte in the interval the machine keeps in its state passes the two exclusions of the reference.
`l₁` is the lead byte that raises the lower end, `l₂` the one that lowers the upper end; `m` is the last second byte allowed
after `l₂`, so `m + 1` is the first allowed after `l₁` (`9F` after `E0` / `ED`, `8F` after `F0` / `F4`: the reference writes
`b1 < m + 1` and `m + 1 ≤ b1`).  `q` stands for the continuation tests of the bytes after the second. -/
theorem refTests_of_range {b0 b1 l₁ l₂ m : Nat} {q : Bool} (hm : 128 ≤ m ∧ m ≤ 191)
    (h : ((if b0 = l₁ then m + 1 else 128) ≤ b1 ∧ b1 ≤ (if b0 = l₂ then m else 191)) ∧ q = true) :
    (isCont b1 && q && !(decide (b0 = l₁) && decide (b1 < m + 1)) && !(decide (b0 = l₂) && decide (m + 1 ≤ b1))) = true := by
  simp only [isCont, Bool.and_eq_true, Bool.not_eq_true', Bool.and_eq_false_iff, decide_eq_true_eq, decide_eq_false_iff_not]
  obtain ⟨⟨h1, h2⟩, hq⟩ := h
  split at h1 <;> split at h2 <;> exact ⟨⟨⟨by omega, hq⟩, by omega⟩, by omega⟩

theorem utf8Ref_runU_ind {P : Bytes → Option Text → Prop} (nil : P [] (some []))
    (char : ∀ (c : Nat) (r : Bytes), validCp c = true → P r (utf8Ref r) → P (encodeCp c ++ r) ((utf8Ref r).map (c :: ·)))
    (bad : ∀ b, runU U8.start b = none → P b none) : ∀ b, P b (utf8Ref b) := by
  intro b
  fun_induction utf8Ref b with
  | case1 => exact nil                                             -- end of input
  | case2 b0 rest h ih =>                                          -- ASCII
    have := char b0 rest (validCp_iff.2 (by omega)) ih
    rwa [encodeCp, if_pos h] at this
  | case3 b0 _ h1 b1 r hc ih =>                                    -- `C2`..`DF`, then a continuation byte
    have h1 := between_iff.1 h1
    obtain ⟨a, rfl⟩ := Nat.exists_eq_add_of_le (Nat.le_trans (by decide : 192 ≤ 194) h1.1)
    obtain ⟨x, hx, rfl⟩ := cont_digit hc
    simp only [Nat.add_sub_cancel_left]
    rw [← encodeCp_two hx (by omega) (by omega) r]
    exact char _ r (validCp_iff.2 (by omega)) ih
  | case6 b0 _ _ h2 b1 b2 r hc ih =>                               -- `E0`..`EF`, then two bytes that pass the tests
    simp only [Bool.and_eq_true, Bool.not_eq_true', Bool.and_eq_false_iff, decide_eq_false_iff_not] at hc
    obtain ⟨⟨⟨hb1, hb2⟩, hlo⟩, hhi⟩ := hc
    have h2 := between_iff.1 h2
    obtain ⟨a, rfl⟩ := Nat.exists_eq_add_of_le h2.1
    obtain ⟨x, hx, rfl⟩ := cont_digit hb1
    obtain ⟨y, hy, rfl⟩ := cont_digit hb2
    simp only [Nat.add_sub_cancel_left]
    rw [← encodeCp_three hx hy (by omega) (by omega) r]
    exact char _ r (validCp_iff.2 (by omega)) ih
  | case9 b0 _ _ _ h3 b1 b2 b3 r hc ih =>                          -- `F0`..`F4`, then three bytes that pass the tests
    simp only [Bool.and_eq_true, Bool.not_eq_true', Bool.and_eq_false_iff, decide_eq_false_iff_not] at hc
    obtain ⟨⟨⟨⟨hb1, hb2⟩, hb3⟩, hlo⟩, hhi⟩ := hc
    have h3 := between_iff.1 h3
    obtain ⟨a, rfl⟩ := Nat.exists_eq_add_of_le h3.1
    obtain ⟨x, hx, rfl⟩ := cont_digit hb1
    obtain ⟨y, hy, rfl⟩ := cont_digit hb2
    obtain ⟨z, hz, rfl⟩ := cont_digit hb3
    simp only [Nat.add_sub_cancel_left]
    rw [← encodeCp_four hx hy hz (by omega) r]
    exact char _ r (validCp_iff.2 (by omega)) ih
  | case4 b0 _ h1 b1 r hc =>                                       -- `C2`..`DF`, then no continuation byte
    apply bad
    rw [runU_skip (step_lead2 (between_iff.1 h1)), runU_fail (step_cont_bad (mt isCont_iff.2 hc))]
  | case5 b0 rest _ h1 hr =>                                       -- `C2`..`DF` at the end of the input
    apply bad
    rw [runU_skip (step_lead2 (between_iff.1 h1))]
    match rest, hr with
    | [], _ => rfl
    | x :: xs, hr => exact absurd rfl (hr x xs)
  | case7 b0 _ _ h2 b1 b2 r hc =>                                  -- `E0`..`EF`, then two bytes of which one fails
    apply bad
    rw [runU_skip (step_lead3 (between_iff.1 h2))]
    by_cases hb1 : (if b0 = 0xE0 then 0xA0 else 0x80) ≤ b1 ∧ b1 ≤ (if b0 = 0xED then 0x9F else 0xBF)
    · rw [runU_skip (step_more hb1), runU_fail (step_cont_bad fun hb2 =>
        hc (refTests_of_range (m := 159) (by decide) ⟨hb1, isCont_iff.2 hb2⟩))]
    · rw [runU_fail (step_cont_bad hb1)]
  | case8 b0 rest _ _ h2 hr =>                                     -- `E0`..`EF`, fewer than two bytes left
    apply bad
    rw [runU_skip (step_lead3 (between_iff.1 h2))]
    apply runU_short
    match rest, hr with
    | [], _ | [_], _ => simp
    | x :: y :: zs, hr => exact absurd rfl (hr x y zs)
  | case10 b0 _ _ _ h3 b1 b2 b3 r hc =>                            -- `F0`..`F4`, then three bytes of which one fails
    apply bad
    rw [Bool.and_assoc (isCont b1)] at hc
    rw [runU_skip (step_lead4 (between_iff.1 h3))]
    by_cases hb1 : (if b0 = 0xF0 then 0x90 else 0x80) ≤ b1 ∧ b1 ≤ (if b0 = 0xF4 then 0x8F else 0xBF)
    · rw [runU_skip (step_more hb1)]
      by_cases hb2 : 0x80 ≤ b2 ∧ b2 ≤ 0xBF
      · rw [runU_skip (step_more hb2), runU_fail (step_cont_bad fun hb3 => hc (refTests_of_range (m := 143) (by decide)
          ⟨hb1, Bool.and_eq_true _ _ ▸ ⟨isCont_iff.2 hb2, isCont_iff.2 hb3⟩⟩))]
      · rw [runU_fail (step_cont_bad hb2)]
    · rw [runU_fail (step_cont_bad hb1)]
  | case11 b0 rest _ _ _ h3 hr =>                                  -- `F0`..`F4`, fewer than three bytes left
    apply bad
    rw [runU_skip (step_lead4 (between_iff.1 h3))]
    apply runU_short
    match rest, hr with
    | [], _ | [_], _ | [_, _], _ => simp
    | x :: y :: z :: zs, hr => exact absurd rfl (hr x y z zs)
  | case12 b0 rest h0 h1 h2 h3 =>                                  -- `80`..`C1` or `F5`..`FF`: no lead byte
    rw [between_iff] at h1 h2 h3
    exact bad _ (runU_fail (step_lead_bad (by omega)) rest)

theorem runU_start_eq_ref (b : Bytes) : runU U8.start b = utf8Ref b :=
  utf8Ref_runU_ind (P := fun b v => runU U8.start b = v) rfl
    (fun c r hv ih => by rw [runU_encodeCp_append hv, ih]) (fun _ h => h) b

theorem decodeAll_utf8 (b : Bytes) : decodeAll utf8 b = utf8Ref b :=
  (decodeAll_eq_run utf8_lawful b).trans (runU_start_eq_ref b)

theorem asText_latin1 (chunks : List Bytes) : asText latin1 chunks = latin1Ref chunks.flatten :=
  (asText_eq_decodeAll latin1_lawful chunks).trans (decodeAll_latin1 _)

theorem asText_ascii (chunks : List Bytes) : asText ascii chunks = asciiRef chunks.flatten :=
  (asText_eq_decodeAll ascii_lawful chunks).trans (decodeAll_ascii _)

theorem asText_utf8 (chunks : List Bytes) : asText utf8 chunks = utf8Ref chunks.flatten :=
  (asText_eq_decodeAll utf8_lawful chunks).trans (decodeAll_utf8 _)

theorem utf8Ref_encodeCp_append {c : Nat} (hc : validCp c = true) (rest : Bytes) :
    utf8Ref (encodeCp c ++ rest) = (utf8Ref rest).map (c :: ·) := by
  rw [← runU_start_eq_ref, ← runU_start_eq_ref, runU_encodeCp_append hc]

theorem utf8Ref_utf8Encode (s : Text) (hs : s.all validCp = true) : utf8Ref (utf8Encode s) = some s := by
  induction s with
  | nil => rfl
  | cons c cs ih =>
    rw [List.all_cons, Bool.and_eq_true] at hs
    rw [utf8Encode, List.flatMap_cons, utf8Ref_encodeCp_append hs.1, ← utf8Encode, ih hs.2]; rfl

theorem utf8Ref_some (b : Bytes) : ∀ s, utf8Ref b = some s → utf8Encode s = b ∧ s.all validCp = true :=
  utf8Ref_runU_ind (P := fun b v => ∀ s, v = some s → utf8Encode s = b ∧ s.all validCp = true)
    (fun s h => by cases h; exact ⟨rfl, rfl⟩)
    (fun c r hv ih s hs => by
      obtain ⟨s', hs', rfl⟩ := Option.map_eq_some_iff.1 hs
      obtain ⟨e, v⟩ := ih s' hs'
      exact ⟨by rw [utf8Encode, List.flatMap_cons, ← utf8Encode, e], by rw [List.all_cons, hv, v]; rfl⟩)
    (fun _ _ s h => nomatch h) b

/-- core's `String.utf8EncodeChar` writes every byte as `UInt8.ofNat (q % m + k)`: a mask `% m`, then the marker bits `k` -/
theorem coreByte_toNat {q m k : Nat} (h : m + k ≤ 256) (hm : 0 < m) : (UInt8.ofNat (q % m + k)).toNat = k + q % m := by
  have := Nat.mod_lt q hm
  rw [UInt8.toNat_ofNat', Nat.mod_eq_of_lt (by omega), Nat.add_comm]

theorem coreLead_toNat {q m k : Nat} (hq : q < m) (h : m + k ≤ 256) : (UInt8.ofNat (q % m + k)).toNat = k + q := by
  rw [coreByte_toNat h (Nat.zero_lt_of_lt hq), Nat.mod_eq_of_lt hq]

theorem validCp_toNat (c : Char) : validCp c.toNat = true :=
  validCp_iff.2 (c.valid.imp_right fun h => ⟨Nat.succ_le_of_lt h.1, h.2⟩)

theorem encodeCp_eq_core (c : Char) : encodeCp c.toNat = (String.utf8EncodeChar c).map UInt8.toNat := by
  have hlt : c.val.toNat < 0x110000 := (validCp_iff.1 (validCp_toNat c)).elim (fun h => Nat.lt_trans h (by decide)) (·.2)
  show encodeCp c.val.toNat = _
  simp only [String.utf8EncodeChar]
  generalize c.val.toNat = n at *
  rw [encodeCp]
  -- core masks the lead byte (`% 32`, `% 16`, `% 8`); within each size class the mask does nothing
  by_cases h1 : n < 128
  · rw [if_pos h1, if_pos (Nat.le_of_lt_succ h1), List.map, List.map, UInt8.toNat_ofNat', Nat.mod_eq_of_lt (by omega)]
  rw [if_neg h1, if_neg (mt Nat.lt_succ_of_le h1)]
  by_cases h2 : n < 2048
  · rw [if_pos h2, if_pos (Nat.le_of_lt_succ h2)]
    simp only [List.map, coreLead_toNat (Nat.div_lt_of_lt_mul h2 : n / 64 < 32) (by decide : 32 + 192 ≤ 256),
      coreByte_toNat (by decide : 64 + 128 ≤ 256), Nat.zero_lt_succ]
  rw [if_neg h2, if_neg (mt Nat.lt_succ_of_le h2)]
  by_cases h3 : n < 65536
  · rw [if_pos h3, if_pos (Nat.le_of_lt_succ h3)]
    simp only [List.map, coreLead_toNat (Nat.div_lt_of_lt_mul h3 : n / 4096 < 16) (by decide : 16 + 224 ≤ 256),
      coreByte_toNat (by decide : 64 + 128 ≤ 256), Nat.zero_lt_succ]
  · rw [if_neg h3, if_neg (mt Nat.lt_succ_of_le h3)]
    simp only [List.map, coreLead_toNat (Nat.div_lt_of_lt_mul (Nat.lt_trans hlt (by decide)) : n / 262144 < 8) (by decide : 8 + 240 ≤ 256),
      coreByte_toNat (by decide : 64 + 128 ≤ 256), Nat.zero_lt_succ]

end TTV.Lemmas.ContentUtf8
