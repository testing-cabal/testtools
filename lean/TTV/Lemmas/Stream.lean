import TTV.Model.Stream
import TTV.Spec.C10
/-! Equations for the consumer model `TTV.Stream`: the in-progress table as a finite map, `_update_case` field by
field, `got_file` on a dict that has or has not the name.  After them, in `TTV.Props.C10`, the facts about `Spec.C10` that
`Props/C09` reads without importing `Props/C10` (`interp_brackets`: the calls made for a list of reports read back as one
bracket per report; `all2_map_self`). -/
namespace TTV.Stream

def Tbl.keys (t : Tbl) : List Key := t.map (·.1)

theorem Tbl.get_eq_none_iff (t : Tbl) (k : Key) : t.get k = none ↔ k ∉ t.keys := by
  induction t with
  | nil => simp [Tbl.get, Tbl.keys]
  | cons p t ih =>
    simp only [Tbl.get, Tbl.keys, List.map_cons, List.mem_cons, not_or]
    split
    · next h => simp [h]
    · next h => rw [ih]; exact ⟨fun hh => ⟨fun e => h e.symm, hh⟩, fun hh => hh.2⟩

theorem Tbl.get_of_mem (t : Tbl) (h : t.keys.Nodup) (k : Key) (a : Report) (hp : (k, a) ∈ t) : t.get k = some a := by
  induction t with
  | nil => cases hp
  | cons q t ih =>
    obtain ⟨k', a'⟩ := q
    simp only [Tbl.keys, List.map_cons, List.nodup_cons] at h
    rcases List.mem_cons.mp hp with hq | hp
    · cases hq; exact if_pos rfl
    · have hk : k' ≠ k := fun hk => h.1 (hk ▸ List.mem_map_of_mem (f := (·.1)) hp)
      rw [Tbl.get, if_neg hk, ih h.2 hp]

theorem Tbl.filter_key (t : Tbl) (k : Key) (h : t.keys.Nodup) :
    t.filter (·.1 == k) = match t.get k with | some a => [(k, a)] | none => [] := by
  induction t with
  | nil => rfl
  | cons p t ih =>
    obtain ⟨k', a⟩ := p
    simp only [Tbl.keys, List.map_cons, List.nodup_cons] at h
    by_cases hk : k' = k
    · subst hk
      have : t.filter (·.1 == k') = [] :=
        List.filter_eq_nil_iff.mpr fun q hq hh => h.1 (List.mem_map.mpr ⟨q, hq, beq_iff_eq.mp hh⟩)
      simp [Tbl.get, this]
    · have hne : (k' == k) = false := by simpa using hk
      simp only [List.filter_cons, hne, Tbl.get, hk, if_false]
      exact ih h.2

theorem Tbl.get_set_self (t : Tbl) (k : Key) (a : Report) : (t.set k a).get k = some a := by
  induction t with
  | nil => simp only [Tbl.set, Tbl.get, if_true]
  | cons p t ih => simp only [Tbl.set]; split <;> simp only [Tbl.get, if_true, if_false, *]

theorem Tbl.get_set_of_ne (t : Tbl) {k k' : Key} (a : Report) (h : k' ≠ k) : (t.set k' a).get k = t.get k := by
  induction t with
  | nil => simp only [Tbl.set, Tbl.get, if_neg h]
  | cons p t ih =>
    simp only [Tbl.set]
    split
    · next h2 => simp only [Tbl.get, if_neg h, h2]
    · simp only [Tbl.get, ih]

theorem Tbl.get_del_self (t : Tbl) (k : Key) : (t.del k).get k = none := by
  induction t with
  | nil => rfl
  | cons p t ih => simp only [Tbl.del]; split <;> simp only [Tbl.get, if_false, *]

theorem Tbl.get_del_of_ne (t : Tbl) {k k' : Key} (h : k' ≠ k) : (t.del k').get k = t.get k := by
  induction t with
  | nil => rfl
  | cons p t ih =>
    simp only [Tbl.del]
    split
    · next h2 => simp only [Tbl.get, ih, if_neg h, h2]
    · simp only [Tbl.get, ih]

theorem Tbl.set_of_not_mem (t : Tbl) (k : Key) (a : Report) (h : k ∉ t.keys) : t.set k a = t ++ [(k, a)] := by
  induction t with
  | nil => rfl
  | cons p t ih =>
    simp only [Tbl.keys, List.map_cons, List.mem_cons, not_or] at h
    simp only [Tbl.set, if_neg (Ne.symm h.1), ih h.2, List.cons_append]

theorem Tbl.keys_set_of_mem (t : Tbl) (k : Key) (a : Report) (h : k ∈ t.keys) : (t.set k a).keys = t.keys := by
  induction t with
  | nil => simp [Tbl.keys] at h
  | cons p t ih =>
    simp only [Tbl.set]
    split
    · next hk => simp only [Tbl.keys, List.map_cons, hk]
    · next hk =>
      simp only [Tbl.keys, List.map_cons, List.mem_cons] at h ih ⊢
      rw [ih (h.resolve_left (Ne.symm hk))]

theorem Tbl.nodup_keys_set (t : Tbl) (k : Key) (a : Report) (h : t.keys.Nodup) : (t.set k a).keys.Nodup := by
  by_cases hm : k ∈ t.keys
  · rwa [Tbl.keys_set_of_mem _ _ _ hm]
  · rw [Tbl.set_of_not_mem _ _ _ hm, Tbl.keys, List.map_append]
    exact List.nodup_append.mpr ⟨h, by simp, fun x hx y hy hxy => hm ((hxy.trans (List.mem_singleton.mp hy) : x = k) ▸ hx)⟩

theorem Tbl.keys_del (t : Tbl) (k : Key) : (t.del k).keys = t.keys.filter (· != k) := by
  induction t with
  | nil => rfl
  | cons p t ih =>
    simp only [Tbl.del, Tbl.keys, List.map_cons, List.filter_cons, bne_iff_ne, ne_eq, ite_not] at ih ⊢
    split <;> simp only [ih, List.map_cons]

theorem Tbl.del_of_not_mem (t : Tbl) (k : Key) (h : k ∉ t.keys) : t.del k = t := by
  induction t with
  | nil => rfl
  | cons p t ih =>
    simp only [Tbl.keys, List.map_cons, List.mem_cons, not_or] at h
    simp only [Tbl.del, if_neg (Ne.symm h.1), ih h.2]

theorem Tbl.set_set (t : Tbl) (k : Key) (a b : Report) : (t.set k a).set k b = t.set k b := by
  induction t with
  | nil => simp only [Tbl.set, if_true]
  | cons p t ih => simp only [Tbl.set]; split <;> simp only [Tbl.set, if_true, if_false, *]

theorem Tbl.del_set (t : Tbl) (k : Key) (a : Report) : (t.set k a).del k = t.del k := by
  induction t with
  | nil => simp only [Tbl.set, Tbl.del, if_true]
  | cons p t ih =>
    simp only [Tbl.set]
    split
    · next h => subst h; simp only [Tbl.del, if_true]
    · simp only [Tbl.del, if_false, *]

/-- `got_file` is called iff the event carries a name and a non-empty chunk -/
def addChunk (ds : List Detail) (e : Event) : List Detail :=
  match e.fileName, e.fileBytes with
  | some n, some (b :: bs) => addFile ds n e.mime (b :: bs)
  | _, _ => ds

theorem upd_eq (r : Report) (e : Event) :
    upd r e = { id := r.id, tags := e.tags.getD r.tags, details := addChunk r.details e,
                status := e.status.getD r.status, ts0 := r.ts0, ts1 := e.timestamp } := by
  obtain ⟨_, st, tg, _, fn, fb, _, _, _, _⟩ := e
  cases st <;> cases tg <;> cases fn <;> rcases fb with _ | _ | _ <;> rfl

theorem foldl_upd (es : List Event) (r : Report) :
    (es.foldl upd r).id = r.id ∧ (es.foldl upd r).ts0 = r.ts0 ∧ (es.foldl upd r).details = es.foldl addChunk r.details := by
  induction es generalizing r with
  | nil => exact ⟨rfl, rfl, rfl⟩
  | cons e es ih => rw [List.foldl_cons, List.foldl_cons, upd_eq]; exact ih _

def detailNames (ds : List Detail) : List Nat := ds.map (·.name)

theorem addFile_of_not_mem (ds : List Detail) (n : Nat) (m : Option Nat) (bs : Bytes) (h : n ∉ detailNames ds) :
    addFile ds n m bs = ds ++ [{ name := n, mime := m.getD 0, bytes := bs }] := by
  induction ds with
  | nil => rfl
  | cons d ds ih =>
    simp only [detailNames, List.map_cons, List.mem_cons, not_or] at h
    simp only [addFile, if_neg (Ne.symm h.1), ih h.2, List.cons_append]

theorem addFile_addFile (ds : List Detail) (n : Nat) (m : Option Nat) (a b : Bytes) :
    addFile (addFile ds n m a) n m b = addFile ds n m (a ++ b) := by
  induction ds with
  | nil => simp [addFile]
  | cons d ds ih => simp only [addFile]; split <;> simp [addFile, *]

theorem addFile_eq_map (ds : List Detail) (n : Nat) (m : Option Nat) (bs : Bytes) (h : n ∈ detailNames ds)
    (hnd : (detailNames ds).Nodup) :
    addFile ds n m bs = ds.map fun d => if d.name = n then { d with bytes := d.bytes ++ bs } else d := by
  induction ds with
  | nil => simp [detailNames] at h
  | cons d ds ih =>
    simp only [detailNames, List.map_cons, List.nodup_cons, List.mem_cons] at h hnd
    by_cases hd : d.name = n
    · have hrest : ∀ x ∈ ds, (if x.name = n then { x with bytes := x.bytes ++ bs } else x) = x :=
        fun x hx => if_neg fun hx' => hnd.1 (by rw [hd, ← hx']; exact List.mem_map_of_mem hx)
      rw [addFile, if_pos hd, List.map_cons, if_pos hd, (List.map_congr_left hrest).trans (List.map_id' ds)]
    · rw [addFile, if_neg hd, List.map_cons, if_neg hd, ih (h.resolve_left (Ne.symm hd)) hnd.2]

theorem run_append (t : Tbl) (a b : List Event) :
    run t (a ++ b) = ((run (run t a).1 b).1, (run t a).2 ++ (run (run t a).1 b).2) := by
  induction a generalizing t with
  | nil => rfl
  | cons e a ih => simp only [List.cons_append, run, ih, List.append_assoc]

/-- where the callback raises has no say in the table or in what is handed over: the record is popped before the callback runs -/
theorem statusF_step (faults : List Nat) (s : FSt) (e : Event) :
    (statusF faults s e).1.tbl = (step s.tbl e).1 ∧ (statusF faults s e).2.1 = (step s.tbl e).2.map (·.2) := by
  unfold statusF step
  cases key e with
  | none => exact ⟨rfl, rfl⟩
  | some k => cases isFinal e <;> exact ⟨rfl, rfl⟩

theorem bracketsF_append (faults : List Nat) : ∀ (a b : List Report) (n : Nat),
    bracketsF faults n (a ++ b) = bracketsF faults n a ++ bracketsF faults (n + a.length) b
  | [], b, n => by simp [bracketsF]
  | r :: a, b, n => by
      simp only [List.cons_append, bracketsF, bracketsF_append faults a b (n + 1), List.append_assoc, List.length_cons]
      congr 3; omega

end TTV.Stream

namespace TTV.Props.C10
open TTV.Stream TTV.Spec.C10

theorem statusMap_eq (s : Status) : Generated.Stream.statusMap s = specOutcome s := by cases s <;> rfl

theorem exists_specOutcome {s : Status} (h : s ≠ .exist) : ∃ o, specOutcome s = some o := by
  cases s <;> first | exact ⟨_, rfl⟩ | exact absurd rfl h

theorem applyTags_nil (c n : List Nat) : applyTags c n [] = c ++ n :=
  List.filter_eq_self.mpr fun _ _ => rfl
theorem applyTags_leave (T : List Nat) : applyTags T [] T = [] := by
  simp [applyTags]

theorem sameSet_refl (T : List Nat) : sameSet T T = true := by
  simp [sameSet]

theorem all2_map_self {α β : Type} (p : α → β → Bool) (f : α → β) (h : ∀ a, p a (f a) = true) :
    ∀ l : List α, all2 p l (l.map f) = true
  | [] => rfl
  | a :: l => by simp [all2, h a, all2_map_self p f h l]

theorem interp_optTime (s : ISt) (t : Option Ts) (rest : List ExtEv) :
    interp s (optTime t ++ rest) = interp { s with time := t.or s.time } rest := by
  cases t <;> rfl

theorem timeOk_or (t s : Option Ts) : timeOk t (t.or s) = true := by
  cases t <;> simp [timeOk]

/-- The state is written out, not `{}`: the induction in `interp_brackets` meets every time `τ`
an earlier bracket may have left, and needs the run-level tags empty again after each. -/
theorem interp_bracket (r : Report) (h : r.status ≠ .exist) (τ : Option Ts) (rest : List ExtEv) :
    ∃ s, replays r s = true ∧
      interp { gtags := [], time := τ, test := none, got := none } (bracket r ++ rest)
        = (interp { gtags := [], time := r.ts1.or (r.ts0.or τ), test := none, got := none } rest).map (s :: ·) := by
  obtain ⟨o, ho⟩ := exists_specOutcome h
  simp only [bracket, statusMap_eq, ho, List.append_assoc, interp_optTime, List.cons_append, List.nil_append, interp,
    applyTags_nil, applyTags_leave, if_true]
  exact ⟨_, by simp [replays, ho, sameSet_refl, timeOk_or], rfl⟩

theorem interp_brackets (rs : List Report) (h : ∀ r ∈ rs, r.status ≠ .exist) (τ : Option Ts) :
    ∃ seen, interp { gtags := [], time := τ, test := none, got := none } (rs.map bracket).flatten = some seen
      ∧ all2 replays rs seen = true := by
  induction rs generalizing τ with
  | nil => exact ⟨[], by simp [interp], rfl⟩
  | cons r rs ih =>
    obtain ⟨s, hs, hi⟩ := interp_bracket r (h r (by simp)) τ (rs.map bracket).flatten
    obtain ⟨seen, h1, h2⟩ := ih (fun r' hr' => h r' (by simp [hr'])) (r.ts1.or (r.ts0.or τ))
    refine ⟨s :: seen, ?_, by simp [all2, hs, h2]⟩
    simp only [List.map_cons, List.flatten_cons, hi, h1, Option.map_some]

end TTV.Props.C10
