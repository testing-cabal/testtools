import TTV.Lemmas.RunDetails
import TTV.Lemmas.RunFrame
/-! `J` of a run state (`JS`) through the primitives that write details, a whole stage (`JS.onStage`) and the gathering of a
fixture's details (`JS.onGather`).  What a popped cleanup entry of any kind appends to the ghosts is `clTbs`, `clPlain`,
`clUq`; the steps over it are `InvD.stepCl`, `KeyPerm.stepCl`, `Cov.stepCl` (in `RunDetailsCore`, `RunKeys`, `RunCover`). -/
namespace TTV.Run
open TTV.Spec.Run TTV.Spec.C05

def JS (s : RS) (T : List Exc) (A : List (DName × UC)) (U : List (DName × Content)) : Prop :=
  J s.details s.plain s.clobbered T A U

theorem JS.frame {s s' : RS} {T : List Exc} {A : List (DName × UC)} {U : List (DName × Content)} (h : JS s T A U)
    (h1 : s'.details = s.details) (h2 : s'.plain = s.plain) (h3 : s'.clobbered = s.clobbered) : JS s' T A U := by
  unfold JS; rw [h1, h2, h3]; exact h

/-- what `addUniqueAll` stores for the content `c`: as it is, or (gathered details) as read at time `t` -/
def storedAs (t : Nat) (frozen : Bool) (c : UC) : Content := if frozen then freeze t (.user c) else .user c

theorem isUq_storedAs (t : Nat) (frozen : Bool) (c : UC) : isUq (storedAs t frozen c) = true := by
  obtain ⟨i, l⟩ := c
  cases frozen <;> cases l <;> simp [storedAs, freeze, isUq]

theorem J.uniqueAll {pl : List DName} {cl : Bool} {T : List Exc} {A : List (DName × UC)} (t : Nat) (frozen : Bool) :
    ∀ (ds : List (DName × UC)) {d : Details} {U : List (DName × Content)}, J d pl cl T A U →
      (∀ x ∈ ds, x.1 ≠ nmReason) →
      J (addUniqueAll d t frozen ds) pl cl T A (U ++ ds.map fun x => (x.1, storedAs t frozen x.2))
  | [], d, U, h, _ => by simpa [addUniqueAll] using h
  | (n, c) :: rest, d, U, h, hn => by
    have h1 := h.unique n (storedAs t frozen c) (hn (n, c) List.mem_cons_self) (isUq_storedAs t frozen c)
    have h2 := J.uniqueAll t frozen rest h1 (fun x hx => hn x (List.mem_cons_of_mem _ hx))
    simpa [addUniqueAll, storedAs] using h2

/-- what a list of actions appends to `A` -/
def plainOf : List Act → List (DName × UC)
  | [] => []
  | .addDetail n c :: as => (n, c) :: plainOf as
  | .cleanup _ :: as => plainOf as
  | .expect _ _ :: as => plainOf as
  | .patch _ _ :: as => plainOf as
  | .useFixture _ _ _ :: as => plainOf as

/-- what a list of actions appends to `U`: for each mismatching `expectThat` its details, then its marker -/
def uqActs : List Act → List (DName × Content)
  | [] => []
  | .expect mid ds :: as => ds.map (fun x => (x.1, Content.user x.2)) ++ [(nmExpectation, .expectation mid)] ++ uqActs as
  | .addDetail _ _ :: as => uqActs as
  | .cleanup _ :: as => uqActs as
  | .patch _ _ :: as => uqActs as
  | .useFixture _ _ _ :: as => uqActs as

/-- what a terminal appends to `T` by itself: the assertion behind `expectFailure` -/
def tbTerm : Term → List Exc
  | .expectFailure _ (some e) _ => [e]
  | .expectFailure _ none _ => []
  | .ret => []
  | .raise1 _ => []
  | .raiseMulti _ _ => []
  | .assertFail _ _ => []
  | .fixtureFail _ _ _ _ => []

def gatherU (t : Nat) (ds : List (DName × UC)) : List (DName × Content) := ds.map fun x => (x.1, freeze t (.user x.2))

/-- the details dict a terminal hands over -/
def termDict : Term → List (DName × UC)
  | .assertFail _ ds => ds
  | .fixtureFail ds _ _ _ => ds
  | .ret => []
  | .raise1 _ => []
  | .raiseMulti _ _ => []
  | .expectFailure _ _ _ => []

/-- what a terminal reached at logical time `k` appends to `U`: the mismatch details of a failing `assertThat`; the details of
a fixture whose setUp failed, gathered on the spot (the branch is `gatherU k ds`, which `keys_term` uses) -/
def uqTerm (k : Nat) : Term → List (DName × Content)
  | .assertFail _ ds => ds.map fun x => (x.1, Content.user x.2)
  | .fixtureFail ds _ _ _ => ds.map fun x => (x.1, freeze k (.user x.2))
  | .ret => []
  | .raise1 _ => []
  | .raiseMulti _ _ => []
  | .expectFailure _ _ _ => []

/-- the exceptions for which `_got_user_exception` reports a traceback -/
def tbFilter (es : List Exc) : List Exc := es.filter fun e => !noTraceback e.cls

theorem tbFilter_append (a b : List Exc) : tbFilter (a ++ b) = tbFilter a ++ tbFilter b := by
  simp [tbFilter]

theorem plainNames_eq (as : List Act) : plainNames as = (plainOf as).map (·.1) := by
  induction as with
  | nil => rfl
  | cons a as ih => cases a <;> simp [plainNames, plainOf, ih]

theorem plainOf_eq (as : List Act) :
    (as.filterMap fun | .addDetail n c => some (n, c) | _ => none) = plainOf as := by
  induction as with
  | nil => rfl
  | cons a as ih => cases a <;> simp only [List.filterMap_cons, plainOf, ih]

theorem mem_uqActs_expect (as : List Act) (mid : Nat) (ds : List (DName × UC)) (h : Act.expect mid ds ∈ as) :
    (nmExpectation, Content.expectation mid) ∈ uqActs as ∧ ∀ x ∈ ds, (x.1, Content.user x.2) ∈ uqActs as := by
  induction as with
  | nil => cases h
  | cons a as ih =>
    rcases List.mem_cons.mp h with rfl | h
    · refine ⟨by simp [uqActs], fun x hx => ?_⟩
      simp only [uqActs, List.mem_append, List.mem_map]
      exact Or.inl (Or.inl ⟨x, hx, rfl⟩)
    · obtain ⟨h1, h2⟩ := ih h
      cases a with
      | expect m' ds' => exact ⟨List.mem_append_right _ h1, fun x hx => List.mem_append_right _ (h2 x hx)⟩
      | _ => exact ⟨h1, h2⟩

theorem nmExpectation_ne_reason : nmExpectation ≠ nmReason := by decide

section walk
variable {T : List Exc} {A : List (DName × UC)} {U : List (DName × Content)}

theorem JS.onReportTb {s : RS} (h : JS s T A U) (e : Exc) : JS (reportTb s e) (T ++ [e]) A U := by
  have := J.tbAdd h (tbName s) e (tbName_fresh s) (tbName_ne_reason s)
  unfold JS
  rw [reportTb_details]
  exact this

theorem JS.onReportAll : ∀ (es : List Exc) {s : RS} {T : List Exc}, JS s T A U → JS (es.foldl reportTb s) (T ++ es) A U
  | [], s, T, h => by simpa using h
  | e :: es, s, T, h => by simpa using JS.onReportAll es (h.onReportTb e)

theorem JS.onGot {s : RS} (h : JS s T A U) (e : Exc) : JS (got s e) (T ++ tbFilter [e]) A U := by
  unfold got tbFilter
  split
  · rename_i hn
    simp only [List.filter_cons, hn, Bool.not_true, Bool.false_eq_true, if_false, List.filter_nil, List.append_nil]
    exact h.frame rfl rfl rfl
  · rename_i hn
    simp only [List.filter_cons, hn, Bool.not_false, if_true, List.filter_nil]
    exact (h.onReportTb e).frame rfl rfl rfl

theorem JS.onGotAll : ∀ (es : List Exc) {s : RS} {T : List Exc}, JS s T A U → JS (gotAll s es) (T ++ tbFilter es) A U
  | [], s, T, h => by simpa [gotAll, tbFilter] using h
  | e :: es, s, T, h => by
    have := JS.onGotAll es (h.onGot e)
    simp only [gotAll]
    rw [show tbFilter (e :: es) = _ from tbFilter_append [e] es, ← List.append_assoc]; exact this

theorem JS.onActs (as : List Act) {s : RS} {A : List (DName × UC)} {U : List (DName × Content)} (h : JS s T A U)
    (hp : ∀ n ∈ plainNames as, n ≠ nmReason) (he : ∀ mid ds, Act.expect mid ds ∈ as → ∀ x ∈ ds, x.1 ≠ nmReason) :
    JS (runActs as s) T (A ++ plainOf as) (U ++ uqActs as) := by
  induction as generalizing s A U with
  | nil => simpa [runActs, plainOf, uqActs] using h
  | cons a as ih =>
    have he' := fun mid ds hm => he mid ds (List.mem_cons_of_mem _ hm)
    cases a with
    | addDetail n c =>
      have h1 := J.plain h n c (hp n List.mem_cons_self)
      simpa [runActs, plainOf, uqActs] using ih (s := runActs [.addDetail n c] s) h1 (fun m hm => hp m (List.mem_cons_of_mem _ hm)) he'
    | expect mid ds =>
      have h1 := J.uniqueAll s.clock false ds h (he mid ds List.mem_cons_self)
      have h2 := h1.unique nmExpectation (.expectation mid) nmExpectation_ne_reason rfl
      simpa [runActs, plainOf, uqActs, storedAs] using ih (s := runActs [.expect mid ds] s) h2 hp he'
    | _ =>
      simp only [runActs, plainOf, uqActs]
      exact ih (h.frame rfl rfl rfl) hp he'

theorem JS.onTerm (t : Term) {s : RS} (h : JS s T A U) (hn : ∀ x ∈ termDict t, x.1 ≠ nmReason) :
    JS (runTerm t s).1 (T ++ tbTerm t) A (U ++ uqTerm s.clock t) := by
  cases t with
  | ret | raise1 e | raiseMulti es me => simpa [runTerm, tbTerm, uqTerm] using h
  | assertFail e ds =>
    have := J.uniqueAll s.clock false ds h hn
    simpa [runTerm, tbTerm, uqTerm, storedAs, JS] using this
  | fixtureFail ds e ces se =>
    have := J.uniqueAll s.clock true ds h hn
    simpa [runTerm, tbTerm, uqTerm, storedAs, JS] using this
  | expectFailure r eo x =>
    have h1 : JS { s with details := dset s.details nmReason (.reason r) } T A U := J.reasonSet h r
    cases eo with
    | none => simpa [runTerm, tbTerm, uqTerm] using h1
    | some e => simpa [runTerm, tbTerm, uqTerm] using h1.onReportTb e

/-- tracebacks a stage execution reports, in order -/
def stageTbs (d : Bool) (st : Stage) : List Exc := tbTerm st.term ++ decoTb d st.term ++ tbFilter (excsD d st.term)

/-- what a stage started at logical time `k` appends to `U`; `stage0` ticks the clock, so its terminal is reached at `k + 1` -/
def stageUq (k : Nat) (st : Stage) : List (DName × Content) := uqActs st.acts ++ uqTerm (k + 1) st.term

structure NamesOk (st : Stage) : Prop where
  plain  : ∀ n ∈ plainNames st.acts, n ≠ nmReason
  expect : ∀ mid ds, Act.expect mid ds ∈ st.acts → ∀ x ∈ ds, x.1 ≠ nmReason
  term   : ∀ x ∈ termDict st.term, x.1 ≠ nmReason

theorem JS.onStage (st : Stage) (d : Bool) {s : RS} (h : JS s T A U) (hn : NamesOk st) :
    JS (runStage st d s).1 (T ++ stageTbs d st) (A ++ plainOf st.acts) (U ++ stageUq s.clock st) := by
  rw [runStage_eq]
  have h0 : JS (stage0 st s) T A U := h.frame rfl rfl rfl
  have h1 := JS.onActs st.acts h0 hn.plain hn.expect
  have h2 := JS.onTerm st.term h1 hn.term
  have h3 := (h2.onReportAll (decoTb d st.term)).onGotAll (excsD d st.term)
  have hc : (runActs st.acts (stage0 st s)).clock = s.clock + 1 := by simp [stage0]
  rw [hc] at h3
  simpa [stageTbs, stageUq, List.append_assoc] using h3

def clTbs : Cl → List Exc
  | .stage st => stageTbs false st
  | .gather _ _ => []
  | .unpatch _ _ => []

def clPlain : Cl → List (DName × UC)
  | .stage st => plainOf st.acts
  | .gather _ _ => []
  | .unpatch _ _ => []

/-- what a cleanup entry popped at logical time `k` appends to `U` -/
def clUq (k : Nat) : Cl → List (DName × Content)
  | .stage st => stageUq k st
  | .gather _ ds => gatherU k ds
  | .unpatch _ _ => []

/-- `gather_details` of a fixture, at cleanup time -/
theorem JS.onGather {s : RS} (h : JS s T A U) (f : Nat) (ds : List (DName × UC)) (hg : ∀ x ∈ ds, x.1 ≠ nmReason) :
    JS (runCl (.gather f ds) s) T A (U ++ gatherU s.clock ds) := by
  have := J.uniqueAll s.clock true ds h hg
  simpa [runCl, JS, gatherU, storedAs] using this

end walk
end TTV.Run
