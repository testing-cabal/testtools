import TTV.Model.Reactor
/-! The shared reactor model (C14, C15): `insert` permutes the queue, keeps every order that refines the order of due times
(`insert_pairwise`: `Sorted` here, `SortedQ` in `AsyncLoop`) and puts a call behind those due no later (`insert_find`); what each
operation of the reactor and of the spinner's callbacks leaves alone; for the generic loop (`drain`, `spin`: C15 runs it, C14 has
loops of its own) what "pop the head and run it" keeps, `drain` keeps, and so does `spin` if moving the clock to the head's time
keeps it too. -/
namespace TTV.Reactor
variable {A U : Type}

theorem insert_perm (c : DCall A) : ∀ q : List (DCall A), (insert c q).Perm (c :: q)
  | [] => by simp [insert]
  | d :: ds => by
      simp only [insert]
      split
      · exact ((insert_perm c ds).cons d).trans (List.Perm.swap c d ds)
      · exact List.Perm.refl _

theorem mem_insert {c x : DCall A} {q : List (DCall A)} : x ∈ insert c q ↔ x = c ∨ x ∈ q := by
  rw [(insert_perm c q).mem_iff]; simp

theorem insert_length (c : DCall A) (q : List (DCall A)) : (insert c q).length = q.length + 1 := by
  rw [(insert_perm c q).length_eq]; simp

theorem foldl_insert_perm : ∀ (L q : List (DCall A)), (L.foldl (fun q c => insert c q) q).Perm (L ++ q)
  | [], _ => .refl _
  | c :: L, q => (foldl_insert_perm L (insert c q)).trans (((insert_perm c q).append_left L).trans List.perm_middle)

theorem filter_insert_length (f : DCall A → Bool) (c : DCall A) (q : List (DCall A)) :
    ((insert c q).filter f).length = ((c :: q).filter f).length :=
  ((insert_perm c q).filter f).length_eq

theorem forall_mem_insert {c : DCall A} {q : List (DCall A)} {P : DCall A → Prop} (hc : P c)
    (hq : ∀ x ∈ q, P x) : ∀ x ∈ insert c q, P x :=
  fun x hx => (mem_insert.mp hx).elim (fun e => e ▸ hc) (hq x)

theorem insert_pairwise {R : DCall A → DCall A → Prop} (hR : ∀ a b, R a b → a.time ≤ b.time) (c : DCall A) :
    ∀ q : List (DCall A), q.Pairwise R → (∀ x ∈ q, x.time ≤ c.time → R x c) → (∀ x ∈ q, c.time < x.time → R c x) →
      (insert c q).Pairwise R
  | [], _, _, _ => List.pairwise_singleton _ _
  | d :: ds, h, before, after => by
      have h' := List.pairwise_cons.mp h
      simp only [insert]
      split
      · next hle =>
        refine List.pairwise_cons.mpr ⟨fun x hx => ?_, insert_pairwise hR c ds h'.2
          (fun x hx => before x (List.mem_cons_of_mem _ hx)) (fun x hx => after x (List.mem_cons_of_mem _ hx))⟩
        rcases mem_insert.mp hx with rfl | hx
        · exact before d List.mem_cons_self hle
        · exact h'.1 x hx
      · next hgt =>
        refine List.pairwise_cons.mpr ⟨fun x hx => after x hx ?_, h⟩
        rcases List.mem_cons.mp hx with rfl | hx
        · omega
        · have := hR d x (h'.1 x hx); omega

/-- the order in which the reactor runs the calls -/
def Sorted (q : List (DCall A)) : Prop := q.Pairwise (fun a b => a.time ≤ b.time)

theorem insert_sorted (c : DCall A) (q : List (DCall A)) (h : Sorted q) : Sorted (insert c q) :=
  insert_pairwise (fun _ _ h => h) c q h (fun _ _ h => h) (fun _ _ h => Nat.le_of_lt h)

theorem Sorted.filter {q : List (DCall A)} (p : DCall A → Bool) (h : Sorted q) : Sorted (q.filter p) :=
  List.Pairwise.filter p h

theorem insert_find (p : DCall A → Bool) (c : DCall A) : ∀ q : List (DCall A), Sorted q →
    (insert c q).find? p =
      if p c then (match q.find? p with
        | some w => if w.time ≤ c.time then some w else some c
        | none => some c)
      else q.find? p
  | [], _ => by simp [insert]
  | d :: ds, h => by
      rw [insert]
      split
      · next hle =>
        rw [List.find?_cons, List.find?_cons, insert_find p c ds (List.Pairwise.of_cons h)]
        cases p d
        · rfl
        · simp only [if_pos hle, ite_self]
      · next hle =>
        -- whatever `p` finds in the queue is due no earlier than its head, so strictly later than `c`
        have hlt : ∀ w, (d :: ds).find? p = some w → ¬ w.time ≤ c.time := fun w hw => by
          rcases List.mem_cons.mp (List.mem_of_find?_eq_some hw) with rfl | hw
          · exact hle
          · have := List.rel_of_pairwise_cons h hw; omega
        rw [List.find?_cons]
        cases p c
        · rfl
        · cases hf : (d :: ds).find? p with
          | none => rfl
          | some w => simp only [if_true, if_neg (hlt w hf)]

section frames
variable (w : World A U) (r : Res) (l : Lbl) (t : Nat) (q : QAct A)

theorem stopReactor_eq : stopReactor w =
    { w with crashed := w.crashed || w.sp.spinning, sp := { w.sp with spinning := false } } := by
  unfold stopReactor
  cases h : w.sp.spinning
  · rw [Bool.or_false, if_neg Bool.false_ne_true]
    -- `w` is its own η-expansion, with `spinning := w.sp.spinning`
    exact congrArg (fun b => ({ w with sp := { w.sp with spinning := b } } : World A U)) h
  · rw [Bool.or_true]; rfl

@[simp] theorem stopReactor_calls : (stopReactor w).calls = w.calls := by rw [stopReactor_eq]
@[simp] theorem stopReactor_events : (stopReactor w).events = w.events := by rw [stopReactor_eq]
@[simp] theorem stopReactor_sels : (stopReactor w).sels = w.sels := by rw [stopReactor_eq]
@[simp] theorem stopReactor_sigs : (stopReactor w).sigs = w.sigs := by rw [stopReactor_eq]
@[simp] theorem stopReactor_u : (stopReactor w).u = w.u := by rw [stopReactor_eq]
@[simp] theorem stopReactor_now : (stopReactor w).now = w.now := by rw [stopReactor_eq]
@[simp] theorem stopReactor_t0 : (stopReactor w).t0 = w.t0 := by rw [stopReactor_eq]
@[simp] theorem stopReactor_running : (stopReactor w).running = w.running := by rw [stopReactor_eq]
@[simp] theorem stopReactor_stopPatched : (stopReactor w).stopPatched = w.stopPatched := by rw [stopReactor_eq]
@[simp] theorem stopReactor_success : (stopReactor w).sp.success = w.sp.success := by rw [stopReactor_eq]
@[simp] theorem stopReactor_failure : (stopReactor w).sp.failure = w.sp.failure := by rw [stopReactor_eq]
@[simp] theorem stopReactor_tcall : (stopReactor w).sp.tcall = w.sp.tcall := by rw [stopReactor_eq]
@[simp] theorem stopReactor_junk : (stopReactor w).sp.junk = w.sp.junk := by rw [stopReactor_eq]
@[simp] theorem stopReactor_saved : (stopReactor w).sp.saved = w.sp.saved := by rw [stopReactor_eq]

theorem stopReactor_crashed : (stopReactor w).crashed = (w.crashed || w.sp.spinning) := by rw [stopReactor_eq]

theorem stopReactor_spinning : (stopReactor w).sp.spinning = false := by rw [stopReactor_eq]

@[simp] theorem logEvent_calls : (logEvent l w).calls = w.calls := rfl
@[simp] theorem logEvent_events : (logEvent l w).events = w.events ++ [(w.now - w.t0, l)] := rfl
@[simp] theorem logEvent_sels : (logEvent l w).sels = w.sels := rfl
@[simp] theorem logEvent_sigs : (logEvent l w).sigs = w.sigs := rfl
@[simp] theorem logEvent_u : (logEvent l w).u = w.u := rfl
@[simp] theorem logEvent_now : (logEvent l w).now = w.now := rfl
@[simp] theorem logEvent_t0 : (logEvent l w).t0 = w.t0 := rfl
@[simp] theorem logEvent_sp : (logEvent l w).sp = w.sp := rfl
@[simp] theorem logEvent_crashed : (logEvent l w).crashed = w.crashed := rfl
@[simp] theorem logEvent_running : (logEvent l w).running = w.running := rfl
@[simp] theorem logEvent_stopPatched : (logEvent l w).stopPatched = w.stopPatched := rfl

@[simp] theorem schedule_calls : (schedule t q w).calls = insert ⟨t, q⟩ w.calls := rfl
@[simp] theorem schedule_events : (schedule t q w).events = w.events := rfl
@[simp] theorem schedule_sels : (schedule t q w).sels = w.sels := rfl
@[simp] theorem schedule_sigs : (schedule t q w).sigs = w.sigs := rfl
@[simp] theorem schedule_u : (schedule t q w).u = w.u := rfl
@[simp] theorem schedule_now : (schedule t q w).now = w.now := rfl
@[simp] theorem schedule_t0 : (schedule t q w).t0 = w.t0 := rfl
@[simp] theorem schedule_sp : (schedule t q w).sp = w.sp := rfl
@[simp] theorem schedule_crashed : (schedule t q w).crashed = w.crashed := rfl
@[simp] theorem schedule_running : (schedule t q w).running = w.running := rfl
@[simp] theorem schedule_stopPatched : (schedule t q w).stopPatched = w.stopPatched := rfl

@[simp] theorem deliver_events : (deliver r w).events = w.events := by
  unfold deliver; simp only [stopReactor_events]; split <;> rfl
@[simp] theorem deliver_sels : (deliver r w).sels = w.sels := by
  unfold deliver; simp only [stopReactor_sels]; split <;> rfl
@[simp] theorem deliver_sigs : (deliver r w).sigs = w.sigs := by
  unfold deliver; simp only [stopReactor_sigs]; split <;> rfl
@[simp] theorem deliver_u : (deliver r w).u = w.u := by
  unfold deliver; simp only [stopReactor_u]; split <;> rfl
@[simp] theorem deliver_now : (deliver r w).now = w.now := by
  unfold deliver; simp only [stopReactor_now]; split <;> rfl
@[simp] theorem deliver_t0 : (deliver r w).t0 = w.t0 := by
  unfold deliver; simp only [stopReactor_t0]; split <;> rfl
@[simp] theorem deliver_running : (deliver r w).running = w.running := by
  unfold deliver; simp only [stopReactor_running]; split <;> rfl
@[simp] theorem deliver_stopPatched : (deliver r w).stopPatched = w.stopPatched := by
  unfold deliver; simp only [stopReactor_stopPatched]; split <;> rfl
@[simp] theorem deliver_junk : (deliver r w).sp.junk = w.sp.junk := by
  unfold deliver; simp only [stopReactor_junk]; split
  · cases r <;> rfl
  · rfl

@[simp] theorem deliver_saved : (deliver r w).sp.saved = w.sp.saved := by
  unfold deliver; simp only [stopReactor_saved]; split
  · cases r <;> rfl
  · rfl

theorem deliver_calls : (deliver r w).calls =
    if w.sp.tcall = .pending then w.calls.filter (fun c => !c.act.isTimeout) else w.calls := by
  unfold deliver; simp only [stopReactor_calls]
  split <;> simp_all

theorem deliver_of_not_pending (h : w.sp.tcall ≠ .pending) : deliver r w = stopReactor w := by
  unfold deliver
  split
  · contradiction
  · rfl

theorem deliver_crashed : (deliver r w).crashed = (w.crashed || w.sp.spinning) := by
  unfold deliver; rw [stopReactor_crashed]
  split
  · cases r <;> rfl
  · rfl

theorem execTimeout_crashed : (execTimeout w).crashed = (w.crashed || w.sp.spinning) := stopReactor_crashed _

theorem deliver_tcall : (deliver r w).sp.tcall = if w.sp.tcall = .pending then .cancelled else w.sp.tcall := by
  unfold deliver; rw [stopReactor_tcall]
  split
  · next h => rw [if_pos h]; cases r <;> rfl
  · next h => rw [if_neg h]

theorem deliver_success (h : w.sp.tcall = .pending) :
    (deliver r w).sp.success = (match r with | .value v => some v | _ => w.sp.success) := by
  unfold deliver; simp only [h, stopReactor_success]; cases r <;> rfl

theorem deliver_failure (h : w.sp.tcall = .pending) :
    (deliver r w).sp.failure = (match r with | .value _ => w.sp.failure | f => some f) := by
  unfold deliver; simp only [h, stopReactor_failure]; cases r <;> rfl

theorem deliver_getResult (h : w.sp.tcall = .pending) (hf : w.sp.failure = none) : getResult (deliver r w).sp = r := by
  unfold getResult
  rw [deliver_success w r h, deliver_failure w r h, hf]
  cases r <;> rfl

@[simp] theorem execTimeout_calls : (execTimeout w).calls = w.calls := stopReactor_calls _
@[simp] theorem execTimeout_events : (execTimeout w).events = w.events ++ [(w.now - w.t0, .timeout)] := stopReactor_events _
@[simp] theorem execTimeout_sels : (execTimeout w).sels = w.sels := stopReactor_sels _
@[simp] theorem execTimeout_sigs : (execTimeout w).sigs = w.sigs := stopReactor_sigs _
@[simp] theorem execTimeout_u : (execTimeout w).u = w.u := stopReactor_u _
@[simp] theorem execTimeout_now : (execTimeout w).now = w.now := stopReactor_now _
@[simp] theorem execTimeout_t0 : (execTimeout w).t0 = w.t0 := stopReactor_t0 _
@[simp] theorem execTimeout_running : (execTimeout w).running = w.running := stopReactor_running _
@[simp] theorem execTimeout_stopPatched : (execTimeout w).stopPatched = w.stopPatched := stopReactor_stopPatched _
@[simp] theorem execTimeout_junk : (execTimeout w).sp.junk = w.sp.junk := stopReactor_junk _
@[simp] theorem execTimeout_saved : (execTimeout w).sp.saved = w.sp.saved := stopReactor_saved _
@[simp] theorem execTimeout_failure : (execTimeout w).sp.failure = some .timeout := stopReactor_failure _
@[simp] theorem execTimeout_success : (execTimeout w).sp.success = w.sp.success := stopReactor_success _
@[simp] theorem execTimeout_tcall : (execTimeout w).sp.tcall = .called := stopReactor_tcall _

variable (exec : Nat → A → World A U → World A U)
@[simp] theorem execCall_timeout : execCall exec ⟨t, .timeout⟩ w = execTimeout w := rfl
@[simp] theorem execCall_user (a : A) (n : Nat) : execCall exec ⟨t, .user n a⟩ w = exec n a (logEvent (.user n) w) := rfl
end frames

/-- so what stops a reactor that is spinning while not crashed (`stopReactor_crashed`, `deliver_crashed`, `execTimeout_crashed`)
leaves it crashed -/
theorem crashed_or_spinning {w : World A U} (h : w.crashed = false → w.sp.tcall = .pending ∧ w.sp.spinning = true) :
    (w.crashed || w.sp.spinning) = true := by
  cases hw : w.crashed with
  | true => rfl
  | false => exact (h hw).2

theorem deliver_mem (r : Res) (w : World A U) : ∀ c ∈ (deliver r w).calls, c ∈ w.calls := by
  intro c hc
  rw [deliver_calls] at hc
  split at hc
  · exact (List.mem_filter.mp hc).1
  · exact hc

theorem deliver_calls_le (r : Res) (w : World A U) : (deliver r w).calls.length ≤ w.calls.length := by
  rw [deliver_calls]; split
  · exact List.length_filter_le _ _
  · exact Nat.le_refl _

theorem lbls_filter (q : List (DCall (QAct A))) :
    (q.filter fun c => !c.act.isTimeout).map (·.act.lbl) = (q.map (·.act.lbl)).filter (· != .timeout) := by
  rw [List.filter_map]
  congr 1
  exact List.filter_congr fun ⟨_, q⟩ _ => by cases q <;> rfl

theorem drain_inv (exec : Nat → A → World A U → World A U) (P : World A U → Prop)
    (hpop : ∀ w c rest, P w → w.calls = c :: rest → P (execCall exec c { w with calls := rest })) :
    ∀ n w, P w → P (drain exec n w)
  | 0, _, h => h
  | n + 1, w, h => by
      unfold drain
      split
      · exact h
      · rename_i c rest hc
        split
        · exact drain_inv exec P hpop n _ (hpop w c rest h hc)
        · exact h

theorem spin_crashed {exec : Nat → A → World A U → World A U} {fuelD : World A U → Nat} (n : Nat) (w : World A U)
    (h : w.crashed = true) : spin exec fuelD n w = w := by
  cases n with
  | zero => rfl
  | succ n => unfold spin; simp [h]

theorem spin_inv (exec : Nat → A → World A U → World A U) (fuelD : World A U → Nat) (P : World A U → Prop)
    (hpop : ∀ w c rest, P w → w.calls = c :: rest → P (execCall exec c { w with calls := rest }))
    (hadv : ∀ w c rest, P w → w.calls = c :: rest → w.crashed = false → P { w with now := max w.now c.time }) :
    ∀ n w, P w → P (spin exec fuelD n w)
  | 0, _, h => h
  | n + 1, w, h => by
      unfold spin
      split
      · exact h
      · rename_i hcr
        split
        · exact h
        · rename_i c rest hc
          have hcr' : w.crashed = false := by simpa using hcr
          exact spin_inv exec fuelD P hpop hadv n _ (drain_inv exec P hpop _ _ (hadv w c rest h hc hcr'))

end TTV.Reactor
