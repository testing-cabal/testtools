import TTV.Lemmas.LeafAct
import TTV.Lemmas.ResStep
/-! The verdict `wasSuccessful()` and `stop()` on graphs without a stream pipeline: both are read off the leaves
(`Model/ResC04.lean`: `LeafSt.shouldStop`, `states`), and each leaf's "something bad since the last
`startTestRun`" flag moves with the calls on the root (`LeafAct`) as `upd` says.  Then `stop()`: it reaches every leaf
(`Stopped`, `stop_leaves`) and shows at the root (`ss_leaves`).  `ResLeafwise` reads `upd`, `Stopped` and `stop_leaves`. -/
namespace TTV.Props.C04
open TTV.Result TTV.ResC04 TTV.Spec.C04 TTV.Lemmas.LeafAct TTV.Lemmas.ResEmit TTV.Lemmas.ResStep

def leafWs : LeafSt → Bool
  | .sink _ s => s.ok
  | .tt s => s.wasSuccessful
  | .text s => s.tt.wasSuccessful
  | .tbt s => s.tt.wasSuccessful

mutual
theorem ws_leaves : ∀ (s : Shape), s.noStream = true → ∀ (st : St s),
    wasSuccessfulOf s st = (leaves s st).all leafWs
  | .sink _ | .fsink _ _ _ | .tt _ | .text _ | .tbt => fun _ _ => by
      simp [wasSuccessfulOf, leaves, leafWs]
  | .etod c | .tfr c => fun h (_, inner) => ws_leaves c h inner
  | .deco c | .tagger _ _ c => ws_leaves c
  | .multi cs => fun h (_, inner) => ws_leavesL cs h inner
  | .e2s _ | .sff => fun h => Bool.noConfusion h
theorem ws_leavesL : ∀ (ss : List Shape), Shape.noStreamL ss = true → ∀ (st : StL ss),
    (wasSuccessfulL ss st).all id = (leavesL ss st).all leafWs
  | [] => fun _ _ => rfl
  | s :: ss => fun h (x, xs) => by
      have h := Bool.and_eq_true_iff.mp h
      simp only [wasSuccessfulL, leavesL, List.all_cons, List.all_append, id]
      rw [ws_leaves s h.1 x, ws_leavesL ss h.2 xs]
end

/-- "an error, failure or unexpected success since the last `startTestRun`", per leaf: `!leafWs l`, or `none` where `l` is
not a testtools result -/
def badAbs : LeafSt → Option Bool
  | .sink _ _ => none
  | .tt s => some (!s.wasSuccessful)
  | .text s => some (!s.tt.wasSuccessful)
  | .tbt s => some (!s.tt.wasSuccessful)

/-- the flag "a bad outcome since the last `startTestRun`" after a call (what `Spec.C04.verdicts` and `leafStops` carry along;
on a leaf's flag it is `badAct`: `badAct_some`) -/
def upd (b : Bool) : Call → Bool
  | .startTestRun => false
  | .add k _ _ => b || Kind.bad k
  | _ => b

theorem upd_eq (b : Bool) (c : Call) :
    (match c with | .startTestRun => false | .add k _ _ => b || Kind.bad k | _ => b) = upd b c := by
  cases c <;> rfl

def badAct (c : Call) (a : Option Bool) : Option Bool :=
  match c with
  | .startTestRun => a.map fun _ => false
  | .add k _ _ => a.map (· || Kind.bad k)
  | _ => a

theorem badAct_some (c : Call) (b : Bool) : badAct c (some b) = some (upd b c) := by cases c <;> rfl

theorem tt_bad (s : TT) (c : Call) : some (!(ttStep s c).wasSuccessful) = badAct c (some (!s.wasSuccessful)) := by
  cases c with
  | add k t a => cases k <;> simp [ttStep, badAct, TT.wasSuccessful, Kind.bad, Call.logged]
  | _ => simp [ttStep, badAct, TT.wasSuccessful, TT.reset, Call.logged]

def badAction : Action (Option Bool) where
  abs := badAbs
  act := badAct
  neutral := by intro c hc a; cases c <;> simp_all [Call.key, badAct]
  leaf_sink := by intro f st c; cases c <;> simp [badAbs, badAct]
  leaf_tt := by intro st c; exact tt_bad st c
  leaf_text := by intro st c; cases c <;> simp only [badAbs, textStep] <;> exact tt_bad _ _
  leaf_tbt := by intro st c; cases c <;> simp only [badAbs, tbtStep] <;> exact tt_bad _ _
  capsOk := fun caps => caps.startRun
  capsRun := fun _ h => h
  degrade := by
    intro caps _ k t x a
    simp [Spec.C08.degradeCall, badAct, bad_degrade]
  tfrFree := false
  startNeutral := by intro _ t a; rfl

mutual
theorem ok_of_own : ∀ (s : Shape), ownLeaves s = true → s.noStream = true → okShape badAction s = true
  | .sink _ | .fsink _ _ _ | .tbt => fun h => Bool.noConfusion h
  | .tt _ | .text _ => fun _ _ => rfl
  | .etod c => fun h hn => Bool.and_eq_true_iff.mpr ⟨(caps_own c h).startRun, ok_of_own c h hn⟩
  | .deco c | .tagger _ _ c | .tfr c => ok_of_own c
  | .multi cs => ok_of_ownL cs
  | .e2s _ | .sff => fun _ hn => Bool.noConfusion hn
theorem ok_of_ownL : ∀ (ss : List Shape), ownLeavesL ss = true → Shape.noStreamL ss = true → okShapeL badAction ss = true
  | [] => fun _ _ => rfl
  | s :: ss => fun h hn =>
      have h := Bool.and_eq_true_iff.mp h
      have hn := Bool.and_eq_true_iff.mp hn
      Bool.and_eq_true_iff.mpr ⟨ok_of_own s h.1 hn.1, ok_of_ownL ss h.2 hn.2⟩
end

def LeafBad (s : Shape) (st : St s) (b : Bool) : Prop := ∀ l ∈ leaves s st, badAbs l = some b

theorem leafBad_step (s : Shape) (hs : okShape badAction s = true) (st : St s) (b : Bool) (c : Call)
    (h : LeafBad s st b) :
    LeafBad s (step s st c) (upd b c) := by
  intro l hl
  obtain ⟨l0, hl0, e⟩ := act_mem badAction s hs [c] st hl
  rw [show badAbs l = _ from e, show badAction.abs l0 = some b from h l0 hl0]
  exact badAct_some c b

/-- a well-formed graph has a leaf: every `MultiTestResult` has a target.  (Stated for the target of an
`ExtendedToOriginalDecorator`, since `Shape.wf (.etod c)` reduces only once the constructor of `c` is known.) -/
theorem target_leaves_ne : ∀ (s : Shape), (Shape.etod s).wf = true → s.noStream = true → ∀ (st : St s), leaves s st ≠ []
  | .sink _, _, _, _ | .fsink _ _ _, _, _, _ | .tt _, _, _, _ | .text _, _, _, _ | .tbt, _, _, _ => by simp [leaves]
  | .etod c, h, hn, (_, st) => target_leaves_ne c h hn st
  | .deco c, h, hn, st | .tagger _ _ c, h, hn, st => target_leaves_ne c (wf_etod c h) hn st
  | .tfr c, h, hn, (_, st) => target_leaves_ne c (wf_etod c (wf_tfr h)) hn st
  | .multi (c :: cs), h, hn, (_, x, _) => by
      have := target_leaves_ne c (wf_etod c (wfL_head h)) (Bool.and_eq_true_iff.mp hn).1 x
      exact fun h0 => this (List.append_eq_nil_iff.mp h0).1
  | .e2s _, _, hn, _ | .sff, _, hn, _ => Bool.noConfusion hn

theorem leaves_ne (s : Shape) (h : s.wf = true) : s.noStream = true → ∀ (st : St s), leaves s st ≠ [] :=
  target_leaves_ne s (wf_etod s h)

/-- `all` over no leaves would be true whatever `b`, hence `hne` -/
theorem ws_of_leafBad (s : Shape) (hn : s.noStream = true) (st : St s) (b : Bool) (h : LeafBad s st b)
    (hne : leaves s st ≠ []) : wasSuccessfulOf s st = !b := by
  rw [ws_leaves s hn]
  have : ∀ l ∈ leaves s st, leafWs l = !b := by
    intro l hl
    have := h l hl
    cases l <;> simp_all [badAbs, leafWs]
  cases hl : leaves s st with
  | nil => exact absurd hl hne
  | cons x xs =>
    rw [hl] at this
    cases b <;> simp_all

theorem verdict_states (s : Shape) (hs : okShape badAction s = true) (hw : s.wf = true) (hn : s.noStream = true) :
    ∀ (h : List Call) (st : St s) (b : Bool), LeafBad s st b → (states s st h).map (wasSuccessfulOf s) = verdicts b h
  | [], _, _, _ => rfl
  | c :: h, st, b, hb => by
      have hb' := leafBad_step s hs st b c hb
      simp only [states, List.map_cons, verdicts]
      rw [ws_of_leafBad s hn _ _ hb' (leaves_ne s hw hn _), verdict_states s hs hw hn h _ _ hb']
      rfl

theorem states_forall {s : Shape} {P : Call → Prop} {X : St s → Prop} (ih : ∀ c, P c → ∀ st, X st → X (step s st c)) :
    ∀ (h : List Call), (∀ x ∈ h, P x) → ∀ (st : St s), X st → ∀ st' ∈ states s st h, X st'
  | [], _, _, _ => nofun
  | c :: h, hq, st, hx => by
      have hx' := ih c (hq c List.mem_cons_self) st hx
      intro st' hst'
      rcases List.mem_cons.mp hst' with rfl | hst'
      · exact hx'
      · exact states_forall ih h (fun x hx => hq x (List.mem_cons_of_mem _ hx)) _ hx' st' hst'

mutual
theorem leafBad_init : ∀ (s : Shape), ownLeaves s = true → LeafBad s (init s) false
  | .sink _, h | .fsink _ _ _, h | .tbt, h => Bool.noConfusion h
  | .tt _, _ | .text _, _ => by simp [LeafBad, leaves, init, badAbs, TT.wasSuccessful]
  | .etod c, h | .deco c, h | .tagger _ _ c, h | .tfr c, h | .e2s c, h => leafBad_init c h
  | .multi cs, h => leafBadL_init cs h
  | .sff, _ => fun _ hl => nomatch hl
theorem leafBadL_init : ∀ (ss : List Shape), ownLeavesL ss = true →
    ∀ l ∈ leavesL ss (initL ss), badAbs l = some false
  | [], _ => by simp [leavesL]
  | s :: ss, h => by
      have h := Bool.and_eq_true_iff.mp h
      simp only [leavesL, initL, List.mem_append]
      exact fun l hl => hl.elim (leafBad_init s h.1 l) (leafBadL_init ss h.2 l)
end

def Stopped (s : Shape) (st : St s) : Prop := ∀ l ∈ leaves s st, LeafSt.shouldStop l = true
def StoppedL (ss : List Shape) (st : StL ss) : Prop := ∀ l ∈ leavesL ss st, LeafSt.shouldStop l = true

theorem stopped_cons {s : Shape} {ss : List Shape} {x : St s} {xs : StL ss}
    (h : StoppedL (s :: ss) (x, xs)) : Stopped s x ∧ StoppedL ss xs :=
  ⟨fun l hl => h l (List.mem_append_left _ hl), fun l hl => h l (List.mem_append_right _ hl)⟩

mutual
theorem stop_leaves : ∀ (s : Shape), ownLeaves s = true → s.noStream = true → ∀ (st : St s),
    Stopped s (step s st .stop)
  | .sink _ | .fsink _ _ _ | .tbt => fun h => Bool.noConfusion h
  | .tt _ | .text _ => fun _ _ st => by simp [Stopped, leaves, step, textStep, ttStep, LeafSt.shouldStop, Call.logged]
  | .etod c => fun h hn (own, inner) => by
      simp only [step, etodStep, etodStop, (caps_own c h).stop, ite_true]
      exact stop_leaves c h hn inner
  | .deco c | .tagger _ _ c => stop_leaves c
  | .tfr c => fun h hn (_, inner) => stop_leaves c h hn inner
  | .multi cs => fun h hn (_, inner) => stop_leavesL cs h hn inner
  | .e2s _ | .sff => fun _ hn => Bool.noConfusion hn
theorem stop_leavesL : ∀ (ss : List Shape), ownLeavesL ss = true → Shape.noStreamL ss = true → ∀ (st : StL ss),
    ∀ l ∈ leavesL ss (stepL ss st .stop), LeafSt.shouldStop l = true
  | [] => fun _ _ _ => by simp [leavesL]
  | s :: ss => fun h hn (x, xs) => by
      have h := Bool.and_eq_true_iff.mp h
      have hn := Bool.and_eq_true_iff.mp hn
      simp only [leavesL, stepL, List.mem_append]
      exact fun l hl => hl.elim (stop_leaves s h.1 hn.1 x l) (stop_leavesL ss h.2 hn.2 xs l)
end

mutual
theorem ss_leaves : ∀ (s : Shape), ownLeaves s = true → s.noStream = true → ∀ (st : St s),
    shouldStopOf s st = (leaves s st).any LeafSt.shouldStop
  | .sink _ | .fsink _ _ _ | .tbt => fun h => Bool.noConfusion h
  | .tt _ | .text _ => fun _ _ _ => by simp [shouldStopOf, leaves, LeafSt.shouldStop]
  | .etod c => fun h hn (own, inner) => by
      simp only [shouldStopOf, leaves, (caps_own c h).shouldStop, ite_true]
      exact ss_leaves c h hn inner
  | .deco c | .tagger _ _ c => ss_leaves c
  | .tfr c => fun h hn (_, inner) => ss_leaves c h hn inner
  | .multi cs => fun h hn (_, inner) => ss_leavesL cs h hn inner
  | .e2s _ | .sff => fun _ hn => Bool.noConfusion hn
theorem ss_leavesL : ∀ (ss : List Shape), ownLeavesL ss = true → Shape.noStreamL ss = true → ∀ (st : StL ss),
    (shouldStopL ss st).any id = (leavesL ss st).any LeafSt.shouldStop
  | [] => fun _ _ _ => rfl
  | s :: ss => fun h hn (x, xs) => by
      have h := Bool.and_eq_true_iff.mp h
      have hn := Bool.and_eq_true_iff.mp hn
      simp only [shouldStopL, leavesL, List.any_cons, List.any_append, id]
      rw [ss_leaves s h.1 hn.1 x, ss_leavesL ss h.2 hn.2 xs]
end

end TTV.Props.C04
