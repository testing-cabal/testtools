import TTV.Lemmas.ResStep
/-! Fail-fast on every graph: what `failfast` and `shouldStop` of an object read while outcomes travel down.
The recursions stop at stream decorators: what lies below an `ExtendedToStreamDecorator` cannot be read from above,
its `failfast` / `shouldStop` are its own (`ResStep.e2s_own`). -/
namespace TTV.Props.C04
open TTV.Result TTV.ResC04 TTV.Spec.C04 TTV.Lemmas.ResEmit TTV.Lemmas.ResStep

mutual
theorem adapt_of_own : ∀ (s : Shape), ownLeaves s = true → adaptLeaves s = true
  | .sink _ | .tbt => fun h => Bool.noConfusion h
  | .fsink _ _ _ | .tt _ | .text _ | .sff => fun _ => rfl
  | .etod c | .deco c | .tagger _ _ c | .tfr c | .e2s c => adapt_of_own c
  | .multi cs => adapt_of_ownL cs
theorem adapt_of_ownL : ∀ (ss : List Shape), ownLeavesL ss = true → adaptLeavesL ss = true
  | [] => fun _ => rfl
  | s :: ss => fun h =>
      have h := Bool.and_eq_true_iff.mp h
      Bool.and_eq_true_iff.mpr ⟨adapt_of_own s h.1, adapt_of_ownL ss h.2⟩
end

/-- by the `Flavour.caps` table: 2.6 / 2.7 style results have `stop()` and `shouldStop`, a Twisted-style one neither -/
theorem caps_stop_shouldStop (c : Shape) : (caps c).stop = (caps c).shouldStop := by
  cases c <;> first | rfl | (rename_i f; cases f <;> rfl)

/-- the adapter's `stop()` shows in its `shouldStop` if the target's does: it lands where `shouldStop` is read from, the
target or the adapter's own flag (`caps_stop_shouldStop`) -/
theorem etodStop_ss (ch : Shape) (own : EtodOwn) (inner : St ch)
    (hch : shouldStopOf ch (step ch inner .stop) = true) :
    shouldStopOf (.etod ch) (etodStop ⟨caps ch, step ch, failfastOf ch⟩ own inner) = true := by
  have hco := caps_stop_shouldStop ch
  cases hs : (caps ch).stop
  · simp only [etodStop, hs, Bool.false_eq_true, ite_false, shouldStopOf, ← hco]
  · simp only [etodStop, hs, ite_true, shouldStopOf, ← hco]; exact hch

/-- `(Shape.etod s).wf`: `s` is any object that may be reported to, or a recording result of an old flavour.  The
shapes this excludes are not listed: the hypothesis refutes them. -/
theorem target_stop : ∀ (s : Shape), (Shape.etod s).wf = true → ∀ (st : St s),
    shouldStopOf s (step s st .stop) = true
  | .sink f, _, st | .fsink _ _ f, _, st => sinkStep_shouldStop f st .stop
  | .tt _, _, st => ttStep_shouldStop st .stop
  | .text _, _, st => textStep_shouldStop st .stop
  | .tbt, _, st => tbtStep_shouldStop st .stop
  | .etod ch, hw, (own, inner) => etodStop_ss ch own inner (target_stop ch hw inner)
  | .deco ch, hw, st | .tagger _ _ ch, hw, st => target_stop ch (wf_etod ch hw) st
  | .tfr ch, hw, (_, inner) => target_stop ch (wf_etod ch (wf_tfr hw)) inner
  | .e2s ch, _, (own, inner) => e2sStep_shouldStop ⟨caps ch, step ch, failfastOf ch⟩ own inner .stop
  | .sff, _, (own, _) => e2sStep_shouldStop nullTarget own () .stop
  | .multi (e :: _), hw, (_, x, _) =>
      List.any_cons.trans (Bool.or_eq_true_iff.mpr (.inl (target_stop e (wf_etod e (wfL_head hw)) x)))

theorem root_stop (s : Shape) (hw : s.wf = true) (st : St s) : shouldStopOf s (step s st .stop) = true :=
  target_stop s (wf_etod s hw) st

/-- On every object whose `failfast` reads true — a `TestResult` / `TextTestResult`, an
`ExtendedToOriginalDecorator` (over an own result, or over a result of an old flavour on which `failfast` was
assigned before or after wrapping, or through the adapter: then "`shouldStop` true" is the adapter's reading, see
`etodStop_ss`), a `TestResultDecorator` / `Tagger` (their `failfast` is the decorated result's), a
`MultiTestResult`, a `ThreadsafeForwardingResult` on which `failfast` was assigned and that is reported to directly
(DESIGN §0, D15), an `ExtendedToStreamDecorator` (a `StreamFailFast` whose `on_error` is the decorator's own `stop`, `e2s_own`) —
an error, a failure or an unexpected success makes `shouldStop` true.  (`adaptLeaves` refutes the bare recording results
listed first; the other shapes left out are not `wf`, as for `target_stop`.) -/
theorem failfast_stops : ∀ (s : Shape), s.wf = true → adaptLeaves s = true →
    ∀ (st : St s) (k : Kind) (t : Nat) (a : Arg), Kind.bad k = true → failfastOf s st = true →
    shouldStopOf s (step s st (.add k t a)) = true
  | .sink .ext, _, ho, _, _, _, _, _, _ | .tbt, _, ho, _, _, _, _, _, _ => Bool.noConfusion ho
  | .tt _, _, _, st, k, t, a, hk, hff => (ttStep_shouldStop st _).trans (ssAfter_bad hff hk)
  | .text _, _, _, st, k, t, a, hk, hff => (textStep_shouldStop st _).trans (ssAfter_bad hff hk)
  | .etod ch, hw, _, (own, inner), k, t, a, hk, hff =>
      etod_fires ch (X := fun p => shouldStopOf (.etod ch) p = true)
        (fun own inner => etodStop_ss ch own inner (target_stop ch hw inner)) own inner t a hk hff
  | .deco ch, hw, ho, st, k, t, a, hk, hff | .tagger _ _ ch, hw, ho, st, k, t, a, hk, hff =>
      failfast_stops ch hw ho st k t a hk hff
  | .tfr ch, hw, _, (own, inner), k, t, a, hk, hff => by
      show shouldStopOf ch ((tfrBlock own k t a ++ tfrStops own k).foldl (step ch) inner) = true
      rw [tfrStops_on own k hff (by simpa [bad_eq_not_passing] using hk), List.foldl_append]
      exact target_stop ch (wf_etod ch (wf_tfr hw)) _
  | .e2s ch, _, _, (own, inner), k, t, a, hk, hff => e2sStep_bad_stops ⟨caps ch, step ch, failfastOf ch⟩ own inner t a hff hk
  | .sff, _, _, (own, _), k, t, a, hk, hff => e2sStep_bad_stops nullTarget own () t a hff hk
  | .multi (e :: ds), hw, ho, (own, x, xs), k, t, a, hk, hff =>
      List.any_cons.trans (Bool.or_eq_true_iff.mpr
        (.inl (failfast_stops e (wfL_head hw) (Bool.and_eq_true_iff.mp ho).1 x k t a hk hff)))

/- every `ExtendedToStreamDecorator` that can be read from the object (i.e. not below another one) has been started.
(An unstarted one starts itself at its first `startTest` / outcome, and that `startTestRun` clears `shouldStop`: this is
why stickiness is stated for started objects.) -/
mutual
def Started : (s : Shape) → St s → Prop
  | .e2s _, (own, _) => own.started = true
  | .sff, (own, _) => own.started = true
  | .etod c, (_, inner) => Started c inner
  | .deco c, st => Started c st
  | .tagger _ _ c, st => Started c st
  | .tfr c, (_, inner) => Started c inner
  | .multi cs, (_, inner) => StartedL cs inner
  | .sink _, _ => True
  | .fsink _ _ _, _ => True
  | .tt _, _ => True
  | .text _, _ => True
  | .tbt, _ => True
def StartedL : (cs : List Shape) → StL cs → Prop
  | [], _ => True
  | c :: cs, (x, xs) => Started c x ∧ StartedL cs xs
end

theorem true_closed : Closed fun _ => True := fun _ _ _ _ => trivial

mutual
theorem started_step : ∀ (s : Shape) (c : Call) (st : St s), Started s st → Started s (step s st c)
  | .sink _ | .fsink _ _ _ | .tt _ | .text _ | .tbt => fun _ _ _ => trivial
  | .e2s ch => fun c (own, inner) h => by
      show (e2sStep ⟨caps ch, step ch, failfastOf ch⟩ own inner c).1.started = true
      rw [e2sStep_started _ own inner c]; cases c <;> first | rfl | exact h
  | .sff => fun c (own, _) h => by
      show (e2sStep nullTarget own () c).1.started = true
      rw [e2sStep_started _ own () c]; cases c <;> first | rfl | exact h
  | .etod ch => fun c (own, inner) h => true_closed.keeps (fun x _ => started_step ch x) trivial (etod_down ch own inner c) h
  | .tfr ch => fun c (own, inner) h => true_closed.keeps (fun x _ => started_step ch x) trivial (tfr_down ch own inner c) h
  | .deco ch => fun c st h => true_closed.keeps (fun x _ => started_step ch x) trivial (deco_down ch st c) h
  | .tagger n g ch => fun c st h => true_closed.keeps (fun x _ => started_step ch x) trivial (tagger_down ch n g st c) h
  | .multi ss => fun c (own, inner) h => multi_keeps (X := StartedL ss) own inner c (fun _ => h) (startedL_step ss c inner h)
theorem startedL_step : ∀ (ss : List Shape) (c : Call) (st : StL ss), StartedL ss st → StartedL ss (stepL ss st c)
  | [] => fun _ _ _ => trivial
  | s :: ss => fun c (x, xs) h => ⟨started_step s c x h.1, startedL_step ss c xs h.2⟩
end

mutual
theorem started_run : ∀ (s : Shape) (st : St s), Started s (step s st .startTestRun)
  | .sink _ | .fsink _ _ _ | .tt _ | .text _ | .tbt => fun _ => trivial
  | .e2s ch => fun (own, inner) => e2sStep_started ⟨caps ch, step ch, failfastOf ch⟩ own inner .startTestRun
  | .sff => fun (own, _) => e2sStep_started nullTarget own () .startTestRun
  | .etod ch => fun (own, inner) => by
      show Started ch (step (.etod ch) (own, inner) .startTestRun).2
      rw [etod_run]
      split
      · exact started_run ch inner
      · -- only the old flavours have no `startTestRun`
        rename_i hr
        cases ch <;> first | trivial | exact absurd rfl hr
  | .deco ch | .tagger _ _ ch => started_run ch
  | .tfr ch => fun (_, inner) => started_run ch inner
  | .multi ss => fun (_, inner) => startedL_run ss inner
theorem startedL_run : ∀ (ss : List Shape) (st : StL ss), StartedL ss (stepL ss st .startTestRun)
  | [] => fun _ => trivial
  | s :: ss => fun (x, xs) => ⟨started_run s x, startedL_run ss xs⟩
end

mutual
theorem started_of_noE2s : ∀ (s : Shape), Spec.C17.Shape.hasE2s s = false → ∀ (st : St s), Started s st
  | .sink _ | .fsink _ _ _ | .tt _ | .text _ | .tbt => fun _ _ => trivial
  | .e2s _ | .sff => fun h => Bool.noConfusion h
  | .etod c | .tfr c => fun h (_, inner) => started_of_noE2s c h inner
  | .deco c | .tagger _ _ c => started_of_noE2s c
  | .multi cs => fun h (_, inner) => startedL_of_noE2s cs h inner
theorem startedL_of_noE2s : ∀ (ss : List Shape), Spec.C17.Shape.hasE2sL ss = false → ∀ (st : StL ss), StartedL ss st
  | [] => fun _ _ => trivial
  | s :: ss => fun h (x, xs) =>
      have h := Bool.or_eq_false_iff.mp h
      ⟨started_of_noE2s s h.1 x, startedL_of_noE2s ss h.2 xs⟩
end

theorem ss_mono_down {ch : Shape}
    (ih : ∀ c, c ≠ Call.startTestRun → ∀ st, Started ch st → shouldStopOf ch st = true → shouldStopOf ch (step ch st c) = true)
    {c : Call} (hc : c ≠ .startTestRun) {q : Bool} {st st' : St ch}
    (hd : Passes q c (step ch) st st')
    (hst : Started ch st) (h : shouldStopOf ch st = true) : shouldStopOf ch st' = true :=
  (noRun_closed.keeps (X := fun st => Started ch st ∧ shouldStopOf ch st = true)
    (fun x hx st h => ⟨started_step ch x st h.1, ih x hx st h.1 h.2⟩) hc hd ⟨hst, h⟩).2

mutual
theorem ss_mono : ∀ (s : Shape) (c : Call), c ≠ Call.startTestRun → ∀ (st : St s), Started s st →
    shouldStopOf s st = true → shouldStopOf s (step s st c) = true
  | .sink f | .fsink _ _ f => fun c _ st _ h => by
      have h : st.shouldStop = true := h
      simp only [shouldStopOf, step, sinkStep_shouldStop]; cases c <;> simp [h]
  | .tt _ => fun c hc st _ h => (ttStep_shouldStop st c).trans (ssAfter_mono hc _ h)
  | .text _ => fun c hc st _ h => (textStep_shouldStop st c).trans (ssAfter_mono hc _ h)
  | .tbt => fun c hc st _ h => (tbtStep_shouldStop st c).trans (ssAfter_mono hc _ h)
  | .etod ch => fun c hc (own, inner) hst h => by
      cases hss : (caps ch).shouldStop
      · simp only [shouldStopOf, hss, Bool.false_eq_true, ite_false] at h ⊢
        exact etodStep_ss_mono ⟨caps ch, step ch, failfastOf ch⟩ own inner hc h
      · simp only [shouldStopOf, hss, ite_true] at h ⊢
        exact ss_mono_down (ss_mono ch) hc (etod_down ch own inner c) hst h
  | .deco ch => fun c hc st hst h => ss_mono_down (ss_mono ch) hc (deco_down ch st c) hst h
  | .tagger n g ch => fun c hc st hst h => ss_mono_down (ss_mono ch) hc (tagger_down ch n g st c) hst h
  | .tfr ch => fun c hc (own, inner) hst h => ss_mono_down (ss_mono ch) hc (tfr_down ch own inner c) hst h
  | .multi ss => fun c hc (own, inner) hst h =>
      multi_keeps (X := fun st => (shouldStopL ss st).any id = true) own inner c (fun _ => h) (ss_monoL ss c hc inner hst h)
  | .e2s ch => fun c hc (own, inner) hst h => e2sStep_ss_mono ⟨caps ch, step ch, failfastOf ch⟩ own inner hc hst h
  | .sff => fun c hc (own, _) hst h => e2sStep_ss_mono nullTarget own () hc hst h
theorem ss_monoL : ∀ (ss : List Shape) (c : Call), c ≠ Call.startTestRun → ∀ (st : StL ss), StartedL ss st →
    (shouldStopL ss st).any id = true → (shouldStopL ss (stepL ss st c)).any id = true
  | [] => fun _ _ _ _ h => Bool.noConfusion h
  | s :: ss => fun c hc (x, xs) hst h => by
      simp only [shouldStopL, stepL, List.any_cons, id, Bool.or_eq_true] at h ⊢
      exact h.imp (ss_mono s c hc x hst.1) (ss_monoL ss c hc xs hst.2)
end

theorem ssL_mono : ∀ (ss : List Shape), adaptLeavesL ss = true → Shape.cutSL ss = true → ∀ (c : Call),
    c ≠ Call.startTestRun → ∀ (st : StL ss), StartedL ss st → (shouldStopL ss st).any id = true →
    (shouldStopL ss (stepL ss st c)).any id = true :=
  fun ss _ _ => ss_monoL ss

end TTV.Props.C04
