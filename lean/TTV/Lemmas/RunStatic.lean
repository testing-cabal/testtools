import TTV.Spec.RunCommon
/-! Static facts about programs: what a stage's `Term` hands over, the stage tree (children, nesting closure), what
well-formedness gives (distinct ids: `findStage` inverts `Stage.id`, no nested stage has the id of a main stage).  They speak
of the notions of `Spec/RunCommon.lean` only, and live in its namespace. -/
namespace TTV.Spec.Run
open TTV.Run

theorem termObj_none_iff (t : Term) : termObj t = none ↔ t = .ret := by
  cases t <;> simp [termObj]

theorem termExcs_isEmpty (t : Term) : (termExcs t).isEmpty = (termObj t).isNone := by
  cases t <;> simp [termExcs, termObj]
  case raiseMulti es me => split <;> simp_all

def children : List Act → List Stage
  | [] => []
  | .cleanup s :: as => s :: children as
  | .useFixture _ _ s :: as => s :: children as
  | _ :: as => children as

def childOf (c : Stage) (acts : List Act) : Prop :=
  Act.cleanup c ∈ acts ∨ ∃ f ds, Act.useFixture f ds c ∈ acts

theorem childOf_iff (c : Stage) (acts : List Act) : childOf c acts ↔ c ∈ children acts := by
  induction acts with
  | nil => simp [childOf, children]
  | cons a as ih =>
    rw [childOf] at ih ⊢
    cases a <;> simp only [children, ← ih, List.mem_cons, Act.cleanup.injEq, Act.useFixture.injEq, reduceCtorEq, false_or]
    case cleanup s => simp only [or_assoc]
    case useFixture f ds s => simp only [exists_or, exists_and_left, exists_eq_left, or_left_comm]

theorem regsOf_eq (acts : List Act) : regsOf acts = (children acts).map Stage.id := by
  induction acts with
  | nil => rfl
  | cons a as ih => cases a <;> simp [regsOf, children, ih]

theorem stagesOfActs_eq (acts : List Act) : stagesOfActs acts = (children acts).flatMap stagesOf := by
  induction acts with
  | nil => rfl
  | cons a as ih => cases a <;> simp [stagesOfActs, children, ih]

theorem stagesOf_eq (st : Stage) : stagesOf st = st :: stagesOfActs st.acts := by
  cases st; simp [stagesOf, Stage.acts]

theorem stagesOf_self (st : Stage) : st ∈ stagesOf st := by
  rw [stagesOf_eq]; exact List.mem_cons_self

theorem child_mem_stagesOfActs {c : Stage} {acts : List Act} (h : childOf c acts) : c ∈ stagesOfActs acts := by
  rw [stagesOfActs_eq]
  exact List.mem_flatMap.mpr ⟨c, (childOf_iff c acts).mp h, stagesOf_self c⟩

theorem child_mem_regs (c : Stage) : ∀ (acts : List Act), childOf c acts → c.id ∈ regsOf acts := by
  intro acts h
  rw [regsOf_eq]
  exact List.mem_map_of_mem ((childOf_iff c acts).mp h)

mutual
theorem stagesOf_closed : ∀ (st x c : Stage), x ∈ stagesOf st → childOf c x.acts → c ∈ stagesOf st
  | .mk i acts t, x, c, hx, hc => by
    simp only [stagesOf, List.mem_cons] at hx ⊢
    rcases hx with hx | hx
    · subst hx
      exact Or.inr (child_mem_stagesOfActs hc)
    · exact Or.inr (stagesOfActs_closed acts x c hx hc)
theorem stagesOfActs_closed : ∀ (acts : List Act) (x c : Stage), x ∈ stagesOfActs acts → childOf c x.acts →
    c ∈ stagesOfActs acts
  | [], x, c, hx, _ => by simp [stagesOfActs] at hx
  | .cleanup s :: as, x, c, hx, hc => by
    simp only [stagesOfActs, List.mem_append] at hx ⊢
    exact hx.imp (stagesOf_closed s x c · hc) (stagesOfActs_closed as x c · hc)
  | .useFixture _ _ s :: as, x, c, hx, hc => by
    simp only [stagesOfActs, List.mem_append] at hx ⊢
    exact hx.imp (stagesOf_closed s x c · hc) (stagesOfActs_closed as x c · hc)
  | .addDetail _ _ :: as, x, c, hx, hc => stagesOfActs_closed as x c hx hc
  | .expect _ _ :: as, x, c, hx, hc => stagesOfActs_closed as x c hx hc
  | .patch _ _ :: as, x, c, hx, hc => stagesOfActs_closed as x c hx hc
end

/-- everything that can sit on the cleanup stack -/
def nested (p : Program) : List Stage :=
  stagesOfActs p.setUp.acts ++ stagesOfActs p.body.acts ++ stagesOfActs p.tearDown.acts

/-- the main stages, those `_run_core` calls itself: every other stage is `nested` -/
def isRoot (p : Program) (r : Stage) : Prop := r = p.setUp ∨ r = p.body ∨ r = p.tearDown

theorem isRoot.setUp {p : Program} : isRoot p p.setUp := Or.inl rfl
theorem isRoot.body {p : Program} : isRoot p p.body := Or.inr (Or.inl rfl)
theorem isRoot.tearDown {p : Program} : isRoot p p.tearDown := Or.inr (Or.inr rfl)

theorem allStages_eq (p : Program) :
    allStages p = p.setUp :: stagesOfActs p.setUp.acts ++ (p.body :: stagesOfActs p.body.acts) ++
      (p.tearDown :: stagesOfActs p.tearDown.acts) := by
  simp [allStages, stagesOf_eq]

theorem mem_allStages (p : Program) (x : Stage) :
    x ∈ allStages p ↔ isRoot p x ∨ x ∈ nested p := by
  simp only [allStages_eq, isRoot, nested, List.mem_append, List.mem_cons]
  constructor
  · rintro (((h | h) | (h | h)) | (h | h)) <;> simp only [h, true_or, or_true]
  · rintro ((h | (h | h)) | ((h | h) | h)) <;> simp only [h, true_or, or_true]

theorem nested_closed (p : Program) (x c : Stage) (hx : x ∈ nested p) (hc : childOf c x.acts) : c ∈ nested p := by
  simp only [nested, List.mem_append] at hx ⊢
  exact hx.imp (·.imp (stagesOfActs_closed _ x c · hc) (stagesOfActs_closed _ x c · hc)) (stagesOfActs_closed _ x c · hc)

theorem nested_sub_all (p : Program) (x : Stage) (hx : x ∈ nested p) : x ∈ allStages p :=
  (mem_allStages p x).mpr (Or.inr hx)

theorem root_children (p : Program) (r : Stage) (hr : isRoot p r) (c : Stage)
    (hc : childOf c r.acts) : c ∈ nested p := by
  have := child_mem_stagesOfActs hc
  simp only [nested, List.mem_append]
  rcases hr with rfl | rfl | rfl <;> simp [this]

/-- the specification spells "no element twice" as a recursive Bool function once per element type (`idsNodup`, `pairsNodup`,
`namesNodup`, C05's `idsNodupN`); each is `List.Nodup` by its two equations -/
theorem nodupB_iff {α : Type} [BEq α] [LawfulBEq α] (f : List α → Bool) (h0 : f [] = true)
    (hc : ∀ x xs, f (x :: xs) = (!xs.contains x && f xs)) (l : List α) : f l = true ↔ l.Nodup := by
  induction l with
  | nil => simp [h0]
  | cons x xs ih => simp [hc, ih, List.nodup_cons]

theorem idsNodup_iff (l : List Nat) : idsNodup l = true ↔ l.Nodup := nodupB_iff _ rfl (fun _ _ => rfl) l

theorem pairsNodup_iff (l : List (Nat × Nat)) : pairsNodup l = true ↔ l.Nodup := nodupB_iff _ rfl (fun _ _ => rfl) l

theorem wf_nodup (p : Program) (h : wf p = true) : ((allStages p).map Stage.id).Nodup := by
  simp only [wf, Bool.and_eq_true] at h
  exact (idsNodup_iff _).mp h.1.1.1.1.1.1

theorem wf_handlers (p : Program) (h : wf p = true) : p.userHandlers.all (fun h => isSub h.1 .exc) = true := by
  simp only [wf, Bool.and_eq_true] at h
  exact h.1.1.1.1.1.2

theorem wf_attrs (p : Program) (h : wf p = true) : (p.attrs0.map (·.1)).Nodup := by
  simp only [wf, Bool.and_eq_true] at h
  exact (idsNodup_iff _).mp h.1.1.2

theorem wf_dicts (p : Program) (h : wf p = true) (st : Stage) (hst : st ∈ allStages p) (ds : List (DName × UC))
    (hds : ds ∈ dictsOf st) : namesNodup (ds.map (·.1)) = true := by
  simp only [wf, Bool.and_eq_true] at h
  exact List.all_eq_true.mp (List.all_eq_true.mp h.1.1.1.2 st hst) ds hds

theorem wf_names (p : Program) (h : wf p = true) (st : Stage) (hst : st ∈ allStages p) (n : DName)
    (hn : n ∈ userNames st) : n ≠ nmReason := by
  simp only [wf, Bool.and_eq_true] at h
  have := List.all_eq_true.mp (List.all_eq_true.mp h.1.2 st hst) n hn
  simpa using this

theorem wf_keys (p : Program) (h : wf p = true) : ((allStages p).flatMap stageKeys).Nodup := by
  simp only [wf, Bool.and_eq_true] at h
  exact (pairsNodup_iff _).mp h.2

theorem stage_eq_of_id (p : Program) (hwf : wf p = true) (x y : Stage) (hx : x ∈ allStages p) (hy : y ∈ allStages p)
    (h : x.id = y.id) : x = y := by
  have h' : (allStages p).Pairwise fun a b => a.id = b.id → a = b :=
    (List.pairwise_map.mp (wf_nodup p hwf)).imp fun hne e => absurd e hne
  exact List.Pairwise.forall_of_forall_of_flip (fun _ _ _ => rfl) h' (h'.imp fun f e => (f e.symm).symm) hx hy h

theorem findStage_of_mem (p : Program) (h : wf p = true) (st : Stage) (hm : st ∈ allStages p) :
    findStage p st.id = some st := by
  unfold findStage
  cases hf : (allStages p).find? (fun s => s.id == st.id) with
  | none => simpa using List.find?_eq_none.mp hf st hm
  | some x =>
    have hx := List.find?_some hf
    rw [stage_eq_of_id p h x st (List.mem_of_find?_eq_some hf) hm (by simpa using hx)]

theorem filterMap_findStage (p : Program) (hwf : wf p = true) (l : List Stage) (hl : ∀ st ∈ l, st ∈ allStages p) :
    (l.map Stage.id).filterMap (findStage p) = l := by
  induction l with
  | nil => rfl
  | cons x xs ih =>
    simp only [List.map_cons, List.filterMap_cons, findStage_of_mem p hwf x (hl x List.mem_cons_self)]
    rw [ih (fun st hst => hl st (List.mem_cons_of_mem _ hst))]

def idsOf (l : List Stage) : List Nat := l.map Stage.id

def regCount (c : Nat) (l : List Stage) : Nat := (l.map fun x => (regsOf x.acts).count c).sum

theorem regCount_append (c : Nat) (a b : List Stage) : regCount c (a ++ b) = regCount c a + regCount c b := by
  simp [regCount]

theorem regCount_cons (c : Nat) (x : Stage) (l : List Stage) :
    regCount c (x :: l) = (regsOf x.acts).count c + regCount c l := by
  simp [regCount]

/- every registration of `c` below a stage shows up as an occurrence of `c` among the ids of the subtree -/
mutual
theorem count_stagesOf (c : Nat) : ∀ st : Stage,
    (if st.id = c then 1 else 0) + regCount c (stagesOf st) ≤ (idsOf (stagesOf st)).count c
  | .mk i acts t => by
    have := count_stagesOfActs c acts
    simp only [stagesOf, regCount_cons, idsOf, List.map_cons, List.count_cons, Stage.id, Stage.acts, beq_iff_eq] at this ⊢
    by_cases hic : i = c <;> simp only [hic, if_true, if_false] <;> omega
theorem count_stagesOfActs (c : Nat) : ∀ acts : List Act,
    (regsOf acts).count c + regCount c (stagesOfActs acts) ≤ (idsOf (stagesOfActs acts)).count c
  | [] => by simp [regsOf, stagesOfActs, regCount, idsOf]
  | .cleanup s :: as => by
    have h1 := count_stagesOf c s
    have h2 := count_stagesOfActs c as
    simp only [regsOf, stagesOfActs, regCount_append, idsOf, List.map_append, List.count_append, List.count_cons,
      beq_iff_eq] at h1 h2 ⊢
    omega
  | .useFixture _ _ s :: as => by
    have h1 := count_stagesOf c s
    have h2 := count_stagesOfActs c as
    simp only [regsOf, stagesOfActs, regCount_append, idsOf, List.map_append, List.count_append, List.count_cons,
      beq_iff_eq] at h1 h2 ⊢
    omega
  | .addDetail _ _ :: as => count_stagesOfActs c as
  | .expect _ _ :: as => count_stagesOfActs c as
  | .patch _ _ :: as => count_stagesOfActs c as
end

/- Ids are distinct, so each occurs at most once in `allStages p`; counted, a main stage's id is used up by the main stage and
cannot occur among the nested ones. -/
def rootCount (p : Program) (c : Nat) : Nat :=
  (if p.setUp.id = c then 1 else 0) + (if p.body.id = c then 1 else 0) + (if p.tearDown.id = c then 1 else 0)

theorem root_nested_le_one (p : Program) (hwf : wf p = true) (c : Nat) :
    rootCount p c + (idsOf (nested p)).count c ≤ 1 := by
  have := (List.nodup_iff_count.mp (wf_nodup p hwf)) c
  simp only [allStages_eq, nested, idsOf, List.map_append, List.map_cons, List.count_append, List.count_cons, rootCount,
    List.cons_append, beq_iff_eq] at this ⊢
  omega

theorem nested_id_ne_root (p : Program) (hwf : wf p = true) (x : Stage) (hx : x ∈ nested p) (r : Stage)
    (hr : isRoot p r) : x.id ≠ r.id := by
  intro he
  have h1 := root_nested_le_one p hwf r.id
  have h2 : 1 ≤ rootCount p r.id := by
    unfold rootCount
    rcases hr with rfl | rfl | rfl <;> simp <;> omega
  have h3 : 1 ≤ (idsOf (nested p)).count r.id := by
    rw [List.one_le_count_iff, ← he]; exact List.mem_map_of_mem hx
  omega

theorem root_ids (p : Program) (h : wf p = true) :
    p.setUp.id ≠ p.body.id ∧ p.setUp.id ≠ p.tearDown.id ∧ p.body.id ≠ p.tearDown.id := by
  have hb := root_nested_le_one p h p.body.id
  have ht := root_nested_le_one p h p.tearDown.id
  unfold rootCount at hb ht
  refine ⟨fun e => ?_, fun e => ?_, fun e => ?_⟩
  · simp only [e, if_true] at hb; omega
  · simp only [e, if_true] at ht; omega
  · simp only [e, if_true] at ht; omega

end TTV.Spec.Run
