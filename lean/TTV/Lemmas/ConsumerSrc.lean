import TTV.Model.ConsumerSrc
import TTV.Lemmas.Stream
/-! `updInterp`, `sInterp`, `dInterp`, `fStatus` and `extInterp` of Model/ConsumerSrc interpret what the harness reads out of
`_StreamToTestRecord._update_case` / `.status` / `.stopTestRun`, out of the `status` of `StreamToDict` and out of the `status` /
`startTestRun` / `stopTestRun` / `_handle_tests` of `StreamToExtendedDecorator`.  Here: on the reference terms `ref…` (defined next to the
interpreters, and what the generated terms are compared with in Props/C10) they compute the hand-written model of Model/Stream. -/
namespace TTV.ConsumerSrc
open TTV.Stream

theorem ueval_refUpdStatus (r : Report) (e : Event) : ueval r e refUpdStatus = .status (e.status.getD r.status) := by
  unfold refUpdStatus; cases h : e.status <;> simp [ueval, ofOpt, h]

theorem ueval_refUpdTags (r : Report) (e : Event) : ueval r e refUpdTags = .tags (e.tags.getD r.tags) := by
  unfold refUpdTags; cases h : e.tags <;> simp [ueval, ofOpt, h]

theorem ueval_refUpdDetails (r : Report) (e : Event) : ueval r e refUpdDetails = .details (addChunk r.details e) := by
  unfold refUpdDetails addChunk
  cases hn : e.fileName <;> rcases hb : e.fileBytes with _ | _ | ⟨b, bs⟩ <;> cases hm : e.mime <;>
    simp [ueval, ofOpt, hn, hb, hm]

theorem updInterp_ref (r : Report) (e : Event) :
    updInterp refUpdStatus refUpdTs1 refUpdDetails refUpdTags r e = some (upd r e) := by
  simp only [updInterp, ueval_refUpdStatus, ueval_refUpdDetails, ueval_refUpdTags, upd_eq, refUpdTs1, ueval]
  cases e.timestamp <;> rfl

theorem set_get_self (t : Tbl) (k : Key) (a : Report) (h : t.get k = some a) : t.set k a = t := by
  induction t with
  | nil => simp [Tbl.get] at h
  | cons p t ih =>
    obtain ⟨k2, a2⟩ := p
    simp only [Tbl.get] at h
    simp only [Tbl.set]
    split
    · rename_i hk; subst hk; simp at h; subst h; rfl
    · rename_i hk; simp only [hk, if_false] at h; rw [ih h]

/-- The source INSERTS the record it creates (`createIfAbsent`) and then overwrites it with the updated one; the model reads
`getD (create …)` and inserts nothing before the update.  `Tbl.get_set_self`, `Tbl.set_set`, `Tbl.del_set` bridge the two. -/
theorem sInterp_ref (faults : List Nat) (s : FSt) (e : Event) (u : Report → Event → Option Report)
    (hupd : ∀ r, u r e = some (upd r e)) :
    let r := sInterp faults u refEnsureKey e refRecordStatus { tbl := s.tbl, n := s.n }
    r.bad = false ∧ (({ tbl := r.tbl, n := r.n } : FSt), r.handed, r.raised) = statusF faults s e := by
  cases hid : e.testId with
  | none =>
    have hk : key e = none := by simp [key, hid]
    simp [refRecordStatus, refEnsureKey, sInterp, eInterp, hid, statusF, step, hk]
  | some id =>
    have hk : key e = some (id, e.route) := by simp [key, hid]
    cases hg : s.tbl.get (id, e.route) with
    | none =>
      by_cases hf : isFinal e = true
      · by_cases hm : s.n ∈ faults <;>
          simp [refRecordStatus, refEnsureKey, sInterp, eInterp, hid, statusF, step, hk, hg, Tbl.get_set_self, hupd, hf, hInterp,
            Tbl.set_set, Tbl.del_set, hm]
      · simp [refRecordStatus, refEnsureKey, sInterp, eInterp, hid, statusF, step, hk, hg, Tbl.get_set_self, hupd, hf, Tbl.set_set]
    | some rec =>
      by_cases hf : isFinal e = true
      · by_cases hm : s.n ∈ faults <;>
          simp [refRecordStatus, refEnsureKey, sInterp, eInterp, hid, statusF, step, hk, hg, Tbl.get_set_self, hupd, hf, hInterp,
            Tbl.del_set, hm]
      · simp [refRecordStatus, refEnsureKey, sInterp, eInterp, hid, statusF, step, hk, hg, hupd, hf]

theorem dInterp_ref (faults : List Nat) (l : List (Key × Report)) (n : Nat) :
    dInterp faults refRecordStop l n = stopLoop faults l n := by
  simp only [refRecordStop, dInterp]
  rcases h : stopLoop faults l n with ⟨a, b, c, d⟩
  cases d <;> simp

theorem fStatus_refExt (es : List Event) :
    es.filterMap (fStatus · refExtStatus) = es.filter fun e => e.status != some .exist := by
  induction es with
  | nil => rfl
  | cons e es ih =>
    rw [List.filterMap_cons, List.filter_cons, ih]
    cases h : e.status == some .exist <;> simp [fStatus, refExtStatus, bne, h]

theorem fStatus_refDict (es : List Event) : es.filterMap (fStatus · refDictStatus) = es := by
  simp only [fStatus, refDictStatus, List.filterMap_some]

theorem bracketsG_ref (faults : List Nat) : ∀ (rs : List Report) (n : Nat),
    bracketsG refExtHandle faults n rs = bracketsF faults n rs
  | [], _ => rfl
  | r :: rs, n => by
      rw [bracketsG, bracketsF, bracketsG_ref faults rs (n + 1)]
      simp [gExt, refExtHandle]

theorem extInterp_ref (faults : List Nat) (es : List Event) :
    extInterp refExtStatus refExtStart refExtStop refExtHandle faults es = toExtendedF faults es := by
  simp only [extInterp, toExtendedF, consumeF, fStatus_refExt, refExtStart, refExtStop, fCtl, bracketsG_ref,
    bracketsF_append, List.append_nil, Nat.zero_add]
  simp

end TTV.ConsumerSrc
