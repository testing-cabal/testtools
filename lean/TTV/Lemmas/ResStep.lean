import TTV.Spec.C04
import TTV.Lemmas.ResEmit
/-! One call on one object of a result graph: what it does to the fields that `failfast` / `shouldStop` read, and what
it passes on to the object(s) below.  The inductions over graphs (`ResVerdict`, `ResFailfast`, `ResCalm`, `ResLeafwise`)
go through these facts; with them what testtools' own results and well-formed graphs give those inductions (`OwnCaps`,
`wf_*`).  At the end the one induction `ResFailfast`, `ResCalm` and `ResLeafwise` share a need for: no call but `setFailfast` changes what `failfast` reads
(`ff_frame`), so what an `ExtendedToOriginalDecorator`'s `finally:` clause reads is known before the call (`etod_quiet`,
`etod_fires`). -/
namespace TTV.Lemmas.ResStep
open TTV.Result TTV.Spec.C04 TTV.Spec.C08 TTV.Lemmas.ResEmit

theorem bad_eq_not_passing (k : Kind) : Kind.bad k = !k.passing := by cases k <;> rfl

/-- `failfast` of an object that takes assignments to it, after `c`; `f` before -/
def ffAfter (c : Call) (f : Bool) : Bool :=
  match c with
  | .setFailfast b => b
  | _ => f

theorem ttStep_failfast (s : TT) (c : Call) : (ttStep s c).failfast = ffAfter c s.failfast := by
  cases c with
  | add k t a => cases k <;> rfl
  | _ => rfl

/-- `shouldStop` of a `TestResult` after `c`; `ff`, `ss`: its `failfast` and `shouldStop` before -/
def ssAfter (c : Call) (ff ss : Bool) : Bool :=
  match c with
  | .startTestRun => false
  | .stop => true
  | .add k _ _ => ss || (ff && Kind.bad k)
  | _ => ss

theorem ssAfter_mono {c : Call} (hc : c ≠ .startTestRun) (ff : Bool) {ss : Bool} (h : ss = true) :
    ssAfter c ff ss = true := by
  cases c <;> first | exact h | rfl | exact absurd rfl hc | simp [ssAfter, h]

theorem ssAfter_bad {ff ss : Bool} {k : Kind} {t : Nat} {a : Arg} (hff : ff = true) (hk : Kind.bad k = true) :
    ssAfter (.add k t a) ff ss = true := by
  simp [ssAfter, hff, hk]

theorem ssAfter_clear {c : Call} (hc : c ≠ .stop) {ff ss : Bool} (hs : ff = false ∨ isBadAdd c = false) (h : ss = false) :
    ssAfter c ff ss = false := by
  cases c <;> first | exact h | rfl | exact absurd rfl hc | (rcases hs with rfl | hs <;> simp_all [isBadAdd, ssAfter])

theorem ttStep_shouldStop (s : TT) (c : Call) : (ttStep s c).shouldStop = ssAfter c s.failfast s.shouldStop := by
  cases c with
  | add k t a => cases k <;> simp [ttStep, Call.logged, Kind.bad, ssAfter]
  | _ => rfl

theorem textStep_failfast (s : TextSt) (c : Call) : (textStep s c).tt.failfast = ffAfter c s.tt.failfast :=
  (congrArg TT.failfast (textStep_tt s c)).trans (ttStep_failfast s.tt c)

theorem tbtStep_failfast (s : TbtSt) (c : Call) : (tbtStep s c).tt.failfast = ffAfter c s.tt.failfast :=
  (congrArg TT.failfast (tbtStep_tt s c)).trans (ttStep_failfast s.tt c)

theorem textStep_shouldStop (s : TextSt) (c : Call) :
    (textStep s c).tt.shouldStop = ssAfter c s.tt.failfast s.tt.shouldStop :=
  (congrArg TT.shouldStop (textStep_tt s c)).trans (ttStep_shouldStop s.tt c)

theorem tbtStep_shouldStop (s : TbtSt) (c : Call) :
    (tbtStep s c).tt.shouldStop = ssAfter c s.tt.failfast s.tt.shouldStop :=
  (congrArg TT.shouldStop (tbtStep_tt s c)).trans (ttStep_shouldStop s.tt c)

theorem sinkStep_failfast (f : Flavour) (s : Sink) (c : Call) : (sinkStep f s c).failfast = ffAfter c s.failfast := by
  cases c <;> simp only [sinkStep, Call.logged, apply_ite Sink.failfast, ite_self, if_true, Bool.false_eq_true, if_false, ffAfter]

theorem sinkStep_shouldStop (f : Flavour) (s : Sink) (c : Call) :
    (sinkStep f s c).shouldStop = match c with
      | .stop => true
      | .add k _ _ => s.shouldStop || (f = .py27 && s.failfast && Kind.bad k)
      | _ => s.shouldStop := by
  cases c <;> simp only [sinkStep, Call.logged, apply_ite Sink.shouldStop, apply_ite Sink.failfast, ite_self, if_true,
    Bool.false_eq_true, if_false]
  case add k t a =>
    rw [show (decide (k = .error) || decide (k = .failure) || decide (k = .uxsuccess)) = Kind.bad k by cases k <;> rfl]
    generalize (decide (f = .py27) && s.failfast && Kind.bad k) = b
    cases b <;> simp

section etodOwn
variable {σ : Type} (I : Iface σ)

theorem ownAfter_failfast (caps : Caps) (own : EtodOwn) (c : Call) :
    (ownAfter caps own c).failfast = if caps.failfast then own.failfast else ffAfter c own.failfast := by
  cases c <;> simp only [ownAfter, ffAfter, ite_self] <;> split <;> rfl

theorem etodStep_failfast (own : EtodOwn) (inner : σ) (c : Call) :
    (etodStep I own inner c).1.failfast = if I.caps.failfast then own.failfast else ffAfter c own.failfast := by
  obtain ⟨b, hb⟩ := etodStep_own I own inner c
  rw [hb, stopMark_failfast, ownAfter_failfast]

theorem etodStep_ss_mono (own : EtodOwn) (inner : σ) {c : Call} (hc : c ≠ .startTestRun)
    (h : own.shouldStop = true) : (etodStep I own inner c).1.shouldStop = true := by
  obtain ⟨b, hb⟩ := etodStep_own I own inner c
  rw [hb, stopMark_shouldStop, ownAfter_shouldStop, h, bne_iff_ne.mpr hc]
  exact Bool.or_true b
end etodOwn

/-! ## the `ExtendedToStreamDecorator`'s own fields (`StreamFailFast(self.stop)` installed by `failfast = True`) -/
section e2sOwn
variable {σ : Type} (I : Iface σ)

/-- a stream decorator not yet started calls `startTestRun` on itself first, which clears the flag -/
def e2sAutoSS (own : E2S) : Bool := if own.started then own.shouldStop else false

theorem e2sAuto_fields (own : E2S) (inner : σ) :
    (e2sAuto I own inner).1.failfast = own.failfast ∧ (e2sAuto I own inner).1.started = true ∧
    (e2sAuto I own inner).1.shouldStop = e2sAutoSS own := by
  unfold e2sAuto e2sAutoSS
  split
  · rename_i h; simp [h]
  · simp [e2sStart]

theorem e2s_own (own : E2S) (inner : σ) (c : Call) :
    (e2sStep I own inner c).1.failfast = ffAfter c own.failfast ∧
    ((e2sStep I own inner c).1.started = match c with
      | .startTestRun | .startTest _ | .add .. => true | _ => own.started) ∧
    ((e2sStep I own inner c).1.shouldStop = match c with
      | .startTestRun => false
      | .startTest _ => e2sAutoSS own
      | .add k _ _ => (e2sAutoSS own || (own.failfast && Kind.bad k))
      | .stop => true
      | _ => own.shouldStop) := by
  cases c with
  | add k t a =>
    obtain ⟨h1, h2, h3⟩ := e2sAuto_fields I own inner
    obtain ⟨own', _, _, _, h0, h⟩ := e2sStep_add I own inner k t a
    rw [h0]
    exact ⟨h.failfast.trans h1, h.started.trans h2, h.shouldStop.trans (by rw [h3, h1]; exact congrArg _ (congrArg _ (bad_eq_not_passing k).symm))⟩
  | startTest t => exact e2sAuto_fields I own inner
  | startTestRun => simp [e2sStep, e2sStart, ffAfter]
  | stopTestRun => simp only [e2sStep]; split <;> simp [ffAfter]
  | tags n g => simp only [e2sStep]; split <;> simp [ffAfter]
  | _ => simp [e2sStep, ffAfter]
theorem e2sStep_failfast (own : E2S) (inner : σ) (c : Call) :
    (e2sStep I own inner c).1.failfast = ffAfter c own.failfast := (e2s_own I own inner c).1
theorem e2sStep_started (own : E2S) (inner : σ) (c : Call) :
    (e2sStep I own inner c).1.started = match c with
      | .startTestRun | .startTest _ | .add .. => true | _ => own.started := (e2s_own I own inner c).2.1
theorem e2sStep_shouldStop (own : E2S) (inner : σ) (c : Call) :
    (e2sStep I own inner c).1.shouldStop = match c with
      | .startTestRun => false
      | .startTest _ => e2sAutoSS own
      | .add k _ _ => (e2sAutoSS own || (own.failfast && Kind.bad k))
      | .stop => true
      | _ => own.shouldStop := (e2s_own I own inner c).2.2

theorem e2sStep_ss_mono (own : E2S) (inner : σ) {c : Call} (hc : c ≠ .startTestRun)
    (hs : own.started = true) (h : own.shouldStop = true) : (e2sStep I own inner c).1.shouldStop = true := by
  rw [e2sStep_shouldStop I own inner c]
  cases c <;> first | exact h | exact absurd rfl hc | simp [e2sAutoSS, hs, h]

theorem e2sStep_ss_clear (own : E2S) (inner : σ) {c : Call} (hc : c ≠ .stop)
    (hs : own.failfast = false ∨ isBadAdd c = false) (h : own.shouldStop = false) :
    (e2sStep I own inner c).1.shouldStop = false := by
  rw [e2sStep_shouldStop I own inner c]
  cases c <;> first | exact h | rfl | exact absurd rfl hc | (rcases hs with hf | hs <;> simp_all [isBadAdd, e2sAutoSS])

theorem e2sStep_bad_stops (own : E2S) (inner : σ) {k : Kind} (t : Nat) (a : Arg) (hff : own.failfast = true)
    (hk : Kind.bad k = true) : (e2sStep I own inner (.add k t a)).1.shouldStop = true := by
  rw [e2sStep_shouldStop I own inner (.add k t a)]; simp [hff, hk]

end e2sOwn

theorem tfrStep_failfast {σ : Type} (I : Iface σ) (own : TfrOwn) (inner : σ) (c : Call) :
    (tfrStep I own inner c).1.tt.failfast = ffAfter c own.tt.failfast := by
  rw [tfrStep_tt]
  split
  · exact ttStep_failfast own.tt c
  · cases c <;> first | rfl | contradiction

theorem etod_run (ch : Shape) (own : EtodOwn) (inner : St ch) :
    step (.etod ch) (own, inner) .startTestRun =
      ({ own with tags := {}, shouldStop := false }, if (caps ch).startRun then step ch inner .startTestRun else inner) :=
  rfl

/-- the methods on which an `ExtendedToOriginalDecorator` above decides whether `stop()`, a read of `shouldStop` and
`startTestRun` go to the target: testtools' own results have them all -/
structure OwnCaps (caps : Caps) : Prop where
  stop : caps.stop = true
  shouldStop : caps.shouldStop = true
  startRun : caps.startRun = true

theorem caps_own (c : Shape) (h : ownLeaves c = true) : OwnCaps (caps c) := by
  cases c <;> first | exact ⟨rfl, rfl, rfl⟩ | exact Bool.noConfusion h

theorem wf_etod (s : Shape) (h : s.wf = true) : (Shape.etod s).wf = true := by
  cases s <;> first | exact h | rfl | exact Bool.noConfusion h

theorem wf_tfr {c : Shape} (h : (Shape.tfr c).wf = true) : c.wf = true := by
  cases c <;> first | exact h | exact Bool.noConfusion h

theorem wfL_head {c : Shape} {cs : List Shape} (h : Shape.wfL (c :: cs) = true) : c.wf = true := by
  cases c <;> first | exact (Bool.and_eq_true_iff.mp h).1 | exact Bool.noConfusion h

section fires
variable {σ : Type} (I : Iface σ)
/-- `hff` reads `failfast` after the call went down, as the `finally:` clause does; on a graph that is what it read before
the call (`etod_quiet`, `etod_fires` at the end of the file) -/
theorem etodStep_quiet (own : EtodOwn) (inner : σ) (k : Kind) (t : Nat) (a : Arg)
    (hff : Kind.bad k = true → etodFailfast I own (I.step inner (degradeCall I.caps (.add k t a))) = false) :
    etodStep I own inner (.add k t a) = (own, I.step inner (degradeCall I.caps (.add k t a))) := by
  obtain ⟨n, hn, h⟩ := etodStep_add_eq I own inner k t a
  rw [h]
  cases hp : k.passing
  · have hoff : etodFinally I (own, _) = _ := if_neg ((hff ((bad_eq_not_passing k).trans (congrArg not hp))) ▸ Bool.false_ne_true)
    clear h hn
    induction n with
    | zero => rfl
    | succ n ih => exact (congrArg (etodFinally I) ih).trans hoff
  · rw [hn.mpr hp]
    rfl

theorem etodFinally_keeps {X : EtodOwn × σ → Prop} (hstop : ∀ own inner, X (etodStop I own inner))
    {p : EtodOwn × σ} (h : X p) : X (etodFinally I p) := by
  unfold etodFinally; split
  · exact hstop _ _
  · exact h

/-- the other case: fail-fast reads true once the bad outcome went down, so the call ends in a `stop()` of the adapter and
lands in every class of states that `etodStop` always reaches -/
theorem etodStep_fires {X : EtodOwn × σ → Prop} (hstop : ∀ own inner, X (etodStop I own inner))
    (own : EtodOwn) (inner : σ) {k : Kind} (t : Nat) (a : Arg) (hk : Kind.bad k = true)
    (hff : etodFailfast I own (I.step inner (degradeCall I.caps (.add k t a))) = true) :
    X (etodStep I own inner (.add k t a)) := by
  obtain ⟨n, hn, h⟩ := etodStep_add_eq I own inner k t a
  rw [h]
  cases n with
  | zero => rw [bad_eq_not_passing, hn.mp rfl] at hk; cases hk
  | succ n =>
    -- the first run of the `finally:` clause fires, a second one (unexpected success turned failure) keeps `X`
    clear hn h
    induction n with
    | zero => show X (etodFinally I (own, _)); unfold etodFinally; rw [if_pos hff]; exact hstop _ _
    | succ n ih => exact etodFinally_keeps I hstop ih

/-- with fail-fast not firing (`hff` as in `etodStep_quiet`) the step is the left side of `etodStep_eq` itself -/
theorem etodStep_quiet_eq (own : EtodOwn) (inner : σ) {c : Call} (hc : c ≠ .stop)
    (hff : isBadAdd c = true → etodFailfast I own ((etodMain I.caps c).foldl I.step inner) = false) :
    etodStep I own inner c = (ownAfter I.caps own c, (etodMain I.caps c).foldl I.step inner) := by
  cases c with
  | add k t a => exact etodStep_quiet I own inner k t a hff
  | stop => exact absurd rfl hc
  | startTest t | stopTest t => rfl
  | _ => simp only [etodStep, etodMain, ownAfter]; split <;> rfl
end fires

/-- `x` may reach the object below while its owner handles `c`: the call itself, its degraded form, the `tags` a `Tagger`
adds after `startTest`, one of the calls of a `ThreadsafeForwardingResult`'s block around an outcome — and, where
fail-fast may fire (`Down true`), a `stop()` -/
inductive Down : Bool → Call → Call → Prop
  | self {q} (c) : Down q c c
  | stop (c) : Down true c .stop
  | degrade {q} (caps k t a) : Down q (.add k t a) (degradeCall caps (.add k t a))
  | time {q} (k t a d) : Down q (.add k t a) (.time d)
  | startTest {q} (k t a) : Down q (.add k t a) (.startTest t)
  | stopTest {q} (k t a) : Down q (.add k t a) (.stopTest t)
  | tags {q} (k t a n g) : Down q (.add k t a) (.tags n g)
  | tagger {q} (t n g) : Down q (.startTest t) (.tags n g)

/-- `st'` comes of `st` by calls that are all `Down q c`: what handling `c` does to the object below -/
abbrev Passes (q : Bool) (c : Call) {σ : Type} (f : σ → Call → σ) (st st' : σ) : Prop :=
  ∃ em : List Call, st' = em.foldl f st ∧ ∀ x ∈ em, Down q c x

def Closed (P : Call → Prop) : Prop := ∀ {q : Bool} (c x : Call), P c → Down q c x → P x

theorem Closed.keeps {P : Call → Prop} (hP : Closed P) {σ : Type} {f : σ → Call → σ} {X : σ → Prop}
    (ih : ∀ x, P x → ∀ st, X st → X (f st x)) {q : Bool} {c : Call} (hc : P c) {st st' : σ}
    (h : Passes q c f st st') (hx : X st) : X st' := by
  obtain ⟨em, rfl, hem⟩ := h
  exact List.foldlRecOn em f hx fun st hst x hm => ih x (hP c x hc (hem x hm)) st hst

theorem Closed.fixes {P : Call → Prop} (hP : Closed P) {σ α : Type} {f : σ → Call → σ} {g : σ → α}
    (ih : ∀ x, P x → ∀ st, g (f st x) = g st) {q : Bool} {c : Call} (hc : P c) {st st' : σ}
    (h : Passes q c f st st') : g st' = g st :=
  hP.keeps (X := fun s => g s = g st) (fun x hx s e => (ih x hx s).trans e) hc h rfl

theorem Down.ne_stop {c x : Call} (h : Down false c x) (hc : c ≠ .stop) : x ≠ .stop := by
  cases h <;> first | exact hc | exact nofun

theorem bad_degrade (caps : Caps) (k : Kind) : Kind.bad (degradeKind caps k) = Kind.bad k := by
  rw [bad_eq_not_passing, bad_eq_not_passing, passing_degrade]

theorem notBad_closed : Closed (isBadAdd · = false) := by
  intro q c x hc hd
  cases hd <;> first | exact hc | rfl | exact (bad_degrade ..).trans hc

theorem noRun_closed : Closed (· ≠ Call.startTestRun) := by
  intro q c x hc hd
  cases hd <;> first | exact hc | exact nofun

theorem down_main {q : Bool} (caps : Caps) (c : Call) : ∀ x ∈ etodMain caps c, Down q c x := by
  cases c <;> simp only [etodMain] <;> (try split) <;> simp <;> first | exact .self _ | exact .degrade ..

theorem down_tfrBlock {q : Bool} (own : TfrOwn) (k : Kind) (t : Nat) (a : Arg) :
    ∀ x ∈ tfrBlock own k t a, Down q (.add k t a) x := by
  intro x hx
  simp only [tfrBlock, List.mem_append, List.mem_cons, List.not_mem_nil, or_false] at hx
  rcases hx with (((rfl | rfl | rfl) | hx) | hx) | rfl | rfl
  · exact .time ..
  · exact .startTest ..
  · exact .time ..
  · split at hx <;> simp at hx; subst hx; exact .tags ..
  · split at hx <;> simp at hx; subst hx; exact .tags ..
  · exact .self _
  · exact .stopTest ..


section
variable (ch : Shape)

theorem down_main_stops (caps : Caps) (c : Call) (k : Nat) :
    ∀ x ∈ etodMain caps c ++ List.replicate k Call.stop, Down true c x := fun x hx =>
  (List.mem_append.mp hx).elim (down_main _ c x) fun hx => List.eq_of_mem_replicate hx ▸ .stop _

theorem etod_down (own : EtodOwn) (inner : St ch) (c : Call) :
    Passes true c (step ch) inner (step (.etod ch) (own, inner) c).2 :=
  have ⟨k, hk⟩ := etodStep_emits ⟨caps ch, step ch, failfastOf ch⟩ own inner c
  ⟨_, hk, down_main_stops _ c k⟩

theorem down_tfrSent_of {q : Bool} (own : TfrOwn) (c : Call)
    (hs : ∀ k t a, c = .add k t a → ∀ x ∈ tfrStops own k, Down q c x) : ∀ x ∈ tfrSent own c, Down q c x := by
  intro x hx
  cases c with
  | add k t a => exact (List.mem_append.mp hx).elim (down_tfrBlock own k t a x) (hs k t a rfl x)
  | startTestRun | stopTestRun | stop | done => rw [List.mem_singleton.mp hx]; exact .self _
  | _ => cases hx

theorem down_tfrSent (own : TfrOwn) (c : Call) : ∀ x ∈ tfrSent own c, Down true c x :=
  down_tfrSent_of own c fun k _ _ _ x hx => mem_tfrStops own k x hx ▸ .stop _

theorem tfr_down (own : TfrOwn) (inner : St ch) (c : Call) :
    Passes true c (step ch) inner (step (.tfr ch) (own, inner) c).2 :=
  ⟨_, tfrStep_sent _ own inner c, down_tfrSent own c⟩

theorem tfr_down_quiet (own : TfrOwn) (inner : St ch) (c : Call) (h : own.tt.failfast = false ∨ isBadAdd c = false) :
    Passes false c (step ch) inner (step (.tfr ch) (own, inner) c).2 :=
  ⟨_, tfrStep_sent _ own inner c, down_tfrSent_of own c fun k t a e x hx => by
    rw [tfrStops_off own k (h.imp_right fun hb => by simpa [e, isBadAdd, bad_eq_not_passing] using hb)] at hx
    cases hx⟩

theorem down_decoPass (c : Call) : ∀ x ∈ decoPass [c], Down false c x := by
  intro x hx
  cases c <;> first | (rw [List.mem_singleton.mp hx]; exact .self _) | cases hx

theorem deco_down (st : St ch) (c : Call) :
    Passes false c (step ch) st (step (.deco ch) st c) :=
  ⟨_, step_deco ch st c, down_decoPass c⟩

theorem down_taggerPass (n g : TagSet) (c : Call) : ∀ x ∈ taggerPass n g [c], Down false c x := by
  intro x hx
  cases c with
  | done => cases hx
  | startTest t =>
    rcases List.mem_cons.mp hx with rfl | hx
    · exact .self _
    · rw [List.mem_singleton.mp hx]; exact .tagger ..
  | _ => rw [List.mem_singleton.mp hx]; exact .self _

theorem tagger_down (n g : TagSet) (st : St ch) (c : Call) :
    Passes false c (step ch) st (step (.tagger n g ch) st c) :=
  ⟨_, step_tagger n g ch st c, down_taggerPass n g c⟩

end

end TTV.Lemmas.ResStep

namespace TTV.Result
/- True of every graph (`cutS_all`), and no proof looks inside it: the list halves of the inductions of `ResCalm`, and
`inv0L_step` / `inv0L_init` in `ResLeafwise`, carry `cutSL ss = true` as a hypothesis, which their callers meet with
`cutSL_all ss`. -/
mutual
def Shape.cutS : Shape → Bool
  | .e2s _ => true
  | .etod c | .deco c | .tagger _ _ c | .tfr c => c.cutS
  | .multi cs => Shape.cutSL cs
  | _ => true
def Shape.cutSL : List Shape → Bool
  | [] => true
  | c :: cs => c.cutS && Shape.cutSL cs
end
end TTV.Result

namespace TTV.Props.C04
open TTV.Result

mutual
theorem cutS_all : ∀ (s : Shape), s.cutS = true
  | .sink _ | .fsink _ _ _ | .tt _ | .text _ | .tbt | .e2s _ | .sff => rfl
  | .etod c | .deco c | .tagger _ _ c | .tfr c => cutS_all c
  | .multi cs => cutSL_all cs
theorem cutSL_all : ∀ (ss : List Shape), Shape.cutSL ss = true
  | [] => rfl
  | s :: ss => Bool.and_eq_true_iff.mpr ⟨cutS_all s, cutSL_all ss⟩
end


section frame
open TTV.ResC04 TTV.Spec.C04 TTV.Lemmas.ResEmit TTV.Lemmas.ResStep
/-- the calls an outcome can turn into on its way down: none of them assigns `failfast` (`noSF`) -/
def frameCall : Call → Bool
  | .add .. | .stop | .time _ | .startTest _ | .stopTest _ | .tags _ _ => true
  | _ => false

/-- the calls of a history with `Spec.C04.noAssign` -/
def noSF : Call → Bool
  | .setFailfast _ => false
  | _ => true

theorem ffAfter_noSF {c : Call} (hc : noSF c = true) (f : Bool) : ffAfter c f = f := by
  cases c <;> first | rfl | cases hc

theorem etodStep_failfast_noSF {σ : Type} (I : Iface σ) (own : EtodOwn) (inner : σ) {c : Call} (hc : noSF c = true) :
    (etodStep I own inner c).1.failfast = own.failfast := by
  rw [etodStep_failfast, ffAfter_noSF hc, ite_self]

theorem noSF_closed : Closed (noSF · = true) := by
  intro q c x hc hd
  cases hd <;> first | exact hc | rfl

mutual
theorem ff_frame : ∀ (s : Shape) (c : Call), noSF c = true → ∀ (st : St s),
    failfastOf s (step s st c) = failfastOf s st
  | .sink f | .fsink _ _ f => fun c hc st => (sinkStep_failfast f st c).trans (ffAfter_noSF hc _)
  | .tt _ => fun c hc st => (ttStep_failfast st c).trans (ffAfter_noSF hc _)
  | .text _ => fun c hc st => (textStep_failfast st c).trans (ffAfter_noSF hc _)
  | .tbt => fun c hc st => (tbtStep_failfast st c).trans (ffAfter_noSF hc _)
  | .etod ch => fun c hc (own, inner) => by
      have h1 : (step (.etod ch) (own, inner) c).1.failfast = own.failfast :=
        etodStep_failfast_noSF ⟨caps ch, step ch, failfastOf ch⟩ own inner hc
      simp only [failfastOf, h1]
      rw [noSF_closed.fixes (ff_frame ch) hc (etod_down ch own inner c)]
  | .deco ch => fun c hc st => noSF_closed.fixes (ff_frame ch) hc (deco_down ch st c)
  | .tagger n g ch => fun c hc st => noSF_closed.fixes (ff_frame ch) hc (tagger_down ch n g st c)
  | .tfr ch => fun c hc (own, inner) => (tfrStep_failfast _ own inner c).trans (ffAfter_noSF hc _)
  | .multi ss => fun c hc (own, inner) =>
      congrArg (·.headD false) (multi_keeps (X := fun st => failfastL ss st = failfastL ss inner) own inner c
        (fun _ => rfl) (ff_frameL ss c hc inner))
  | .e2s ch => fun c hc (own, inner) =>
      (e2sStep_failfast ⟨caps ch, step ch, failfastOf ch⟩ own inner c).trans (ffAfter_noSF hc _)
  | .sff => fun c hc (own, _) => (e2sStep_failfast nullTarget own () c).trans (ffAfter_noSF hc _)
theorem ff_frameL : ∀ (ss : List Shape) (c : Call), noSF c = true →
    ∀ (st : StL ss), failfastL ss (stepL ss st c) = failfastL ss st
  | [] => fun _ _ _ => rfl
  | s :: ss => fun c hc (x, xs) => by
      simp only [failfastL, stepL, ff_frame s c hc x, ff_frameL ss c hc xs]
end

theorem ffL_frame : ∀ (ss : List Shape), Shape.cutSL ss = true → ∀ (c : Call), frameCall c = true →
    ∀ (st : StL ss), failfastL ss (stepL ss st c) = failfastL ss st :=
  fun ss _ c hc => ff_frameL ss c (by cases c <;> first | rfl | cases hc)

/-- the `finally:` clause of an `ExtendedToOriginalDecorator` reads the `failfast` it read before the outcome went down -/
theorem etodFailfast_add (ch : Shape) (own : EtodOwn) (inner : St ch) (k : Kind) (t : Nat) (a : Arg) :
    etodFailfast ⟨caps ch, step ch, failfastOf ch⟩ own (step ch inner (Spec.C08.degradeCall (caps ch) (.add k t a)))
      = failfastOf (.etod ch) (own, inner) := by
  simp only [etodFailfast, failfastOf]; rw [ff_frame ch _ rfl inner]

/-- so `etodStep_quiet_eq` holds with its hypothesis read before the call -/
theorem etod_quiet (ch : Shape) (own : EtodOwn) (inner : St ch) {c : Call} (hc : c ≠ .stop)
    (h : isBadAdd c = true → failfastOf (.etod ch) (own, inner) = false) :
    step (.etod ch) (own, inner) c = (ownAfter (caps ch) own c, (etodMain (caps ch) c).foldl (step ch) inner) :=
  etodStep_quiet_eq ⟨caps ch, step ch, failfastOf ch⟩ own inner hc fun hb => by
    cases c with
    | add k t a => exact (etodFailfast_add ch own inner k t a).trans (h hb)
    | _ => cases hb

theorem etod_down_quiet (ch : Shape) (own : EtodOwn) (inner : St ch) (c : Call) (hc : c ≠ .stop)
    (h : isBadAdd c = true → failfastOf (.etod ch) (own, inner) = false) :
    Passes false c (step ch) inner (step (.etod ch) (own, inner) c).2 :=
  ⟨_, congrArg Prod.snd (etod_quiet ch own inner hc h), down_main _ c⟩

/-- and so does `etodStep_fires` -/
theorem etod_fires (ch : Shape) {X : St (.etod ch) → Prop}
    (hstop : ∀ own inner, X (etodStop ⟨caps ch, step ch, failfastOf ch⟩ own inner)) (own : EtodOwn) (inner : St ch)
    {k : Kind} (t : Nat) (a : Arg) (hk : Kind.bad k = true) (hff : failfastOf (.etod ch) (own, inner) = true) :
    X (step (.etod ch) (own, inner) (.add k t a)) :=
  etodStep_fires ⟨caps ch, step ch, failfastOf ch⟩ hstop own inner t a hk ((etodFailfast_add ch own inner k t a).trans hff)
end frame

end TTV.Props.C04
