import TTV.Lemmas.RunInv
/-! The cleanup stack as an undo log: attribute patches are restored, every registered cleanup runs
exactly once (invariant `UndoInv`, used by C02). -/
namespace TTV.Run
open TTV.Spec.Run

theorem aget_cons (x : Nat × Nat) (a : List (Nat × Nat)) (k : Nat) :
    aget (x :: a) k = if x.1 = k then some x.2 else aget a k := by
  by_cases h : x.1 = k <;> simp [aget, h]

theorem aget_filter_ne (a : List (Nat × Nat)) (k k' : Nat) :
    aget (a.filter (·.1 != k)) k' = if k' = k then none else aget a k' := by
  simp only [aget, List.find?_filter]
  split
  · rename_i h; subst h; simp
  · rename_i h
    congr 2
    funext x
    by_cases hx : x.1 = k' <;> simp [hx, h]

theorem aget_aset (a : List (Nat × Nat)) (k v k' : Nat) :
    aget (aset a k v) k' = if k' = k then some v else aget a k' := by
  simp only [aset, aget_cons, aget_filter_ne]
  by_cases hk : k' = k
  · subst hk; simp
  · have : ¬ k = k' := fun h => hk h.symm
    simp [hk, this]

theorem aget_adel (a : List (Nat × Nat)) (k k' : Nat) :
    aget (adel a k) k' = if k' = k then none else aget a k' := by
  simp only [adel, aget_filter_ne]

/-- put back what `patch` saved: the old value, or absence -/
def restore (a : List (Nat × Nat)) (k : Nat) : Option Nat → List (Nat × Nat)
  | some v => aset a k v
  | none => adel a k

theorem aget_restore (a : List (Nat × Nat)) (k : Nat) (old : Option Nat) (k' : Nat) :
    aget (restore a k old) k' = if k' = k then old else aget a k' := by
  cases old <;> simp [restore, aget_aset, aget_adel]

theorem runCl_unpatch (a : Nat) (old : Option Nat) (s : RS) :
    runCl (.unpatch a old) s = { s with attrs := restore s.attrs a old, ran := s.ran ++ [.unpatch a] } := by
  cases old <;> rfl

def keysNodup (a : List (Nat × Nat)) : Prop := (a.map (·.1)).Nodup

theorem keysNodup_filter (a : List (Nat × Nat)) (q : Nat × Nat → Bool) (h : keysNodup a) : keysNodup (a.filter q) :=
  List.Nodup.sublist (List.Sublist.map _ List.filter_sublist) h

theorem keysNodup_aset (a : List (Nat × Nat)) (k v : Nat) (h : keysNodup a) : keysNodup (aset a k v) := by
  simp only [keysNodup, aset, List.map_cons, List.nodup_cons]
  refine ⟨?_, keysNodup_filter a _ h⟩
  simp

theorem keysNodup_restore (a : List (Nat × Nat)) (k : Nat) (old : Option Nat) (h : keysNodup a) :
    keysNodup (restore a k old) := by
  cases old
  · exact keysNodup_filter a _ h
  · exact keysNodup_aset a k _ h

theorem mem_iff_aget (a : List (Nat × Nat)) (h : keysNodup a) (k v : Nat) : (k, v) ∈ a ↔ aget a k = some v := by
  induction a with
  | nil => simp [aget]
  | cons x a ih =>
    simp only [keysNodup, List.map_cons, List.nodup_cons] at h
    rw [aget_cons, List.mem_cons]
    by_cases hx : x.1 = k
    · simp only [hx, if_true, Option.some.injEq]
      constructor
      · rintro (h1 | h1)
        · rw [← h1]
        · exfalso; apply h.1; rw [hx]; exact List.mem_map_of_mem (f := (·.1)) h1
      · intro h1; left; rw [← hx, ← h1]
    · simp only [hx, if_false]
      rw [← ih h.2]
      constructor
      · rintro (h1 | h1)
        · rw [← h1] at hx; exact absurd rfl hx
        · exact h1
      · exact Or.inr

theorem keysNodup_nodup (a : List (Nat × Nat)) (h : keysNodup a) : a.Nodup := by
  have := List.pairwise_map.mp h
  exact this.imp (fun hne heq => hne (by rw [heq]))

theorem perm_of_aget_eq (a b : List (Nat × Nat)) (ha : keysNodup a) (hb : keysNodup b)
    (h : ∀ k, aget a k = aget b k) : a.Perm b := by
  rw [List.perm_ext_iff_of_nodup (keysNodup_nodup a ha) (keysNodup_nodup b hb)]
  rintro ⟨k, v⟩
  rw [mem_iff_aget a ha, mem_iff_aget b hb, h]

theorem sortAttrs_eq_of_aget_eq (a b : List (Nat × Nat)) (ha : keysNodup a) (hb : keysNodup b)
    (h : ∀ k, aget a k = aget b k) : sortAttrs a = sortAttrs b := by
  have hp := perm_of_aget_eq a b ha hb h
  have hpa := List.mergeSort_perm a (fun x y => decide (x.1 ≤ y.1))
  have hpb := List.mergeSort_perm b (fun x y => decide (x.1 ≤ y.1))
  have tr : ∀ (x y z : Nat × Nat), decide (x.1 ≤ y.1) = true → decide (y.1 ≤ z.1) = true → decide (x.1 ≤ z.1) = true := by
    intro x y z h1 h2; simp only [decide_eq_true_eq] at *; omega
  have tot : ∀ (x y : Nat × Nat), (decide (x.1 ≤ y.1) || decide (y.1 ≤ x.1)) = true := by
    intro x y; simp only [Bool.or_eq_true, decide_eq_true_eq]; omega
  unfold sortAttrs
  apply List.Perm.eq_of_pairwise (le := fun x y => decide (x.1 ≤ y.1)) ?_
    (List.pairwise_mergeSort tr tot a) (List.pairwise_mergeSort tr tot b) (hpa.trans (hp.trans hpb.symm))
  intro x y hx hy h1 h2
  have hxa : x ∈ a := hpa.subset hx
  have hya : y ∈ a := hp.symm.subset (hpb.subset hy)
  have hk : x.1 = y.1 := by simp only [decide_eq_true_eq] at h1 h2; omega
  obtain ⟨k, v⟩ := x
  obtain ⟨k', v'⟩ := y
  simp only at hk; subst hk
  have e1 := (mem_iff_aget a ha k v).mp hxa
  have e2 := (mem_iff_aget a ha k v').mp hya
  rw [e1] at e2; cases e2; rfl

def undo : List Cl → List (Nat × Nat) → List (Nat × Nat)
  | [], a => a
  | .unpatch k old :: r, a => undo r (restore a k old)
  | .stage _ :: r, a => undo r a
  | .gather _ _ :: r, a => undo r a

theorem undo_congr (st : List Cl) (a b : List (Nat × Nat)) (h : ∀ k, aget a k = aget b k) :
    ∀ k, aget (undo st a) k = aget (undo st b) k := by
  induction st generalizing a b with
  | nil => exact h
  | cons c st ih =>
    cases c with
    | stage s => exact ih a b h
    | gather f ds => exact ih a b h
    | unpatch k old =>
      apply ih
      intro k'
      rw [aget_restore, aget_restore, h]

def Cl.tag : Cl → Ran
  | .stage s => .stage s.id
  | .gather f _ => .gather f
  | .unpatch a _ => .unpatch a

def pendingRan (st : List Cl) : List Ran := st.map Cl.tag

/-- what the actions of a stage do to the undo log: keys stay distinct, what undoing the whole stack gives does not change (a
patch is registered together with its own undoing), and what is registered is pushed, last on top.  `undo` compares the stores as
finite maps (`aget`), the new state on the left, because as lists they differ: `aset` moves the key to the front. -/
structure ActsEffect (s s' : RS) : Prop where
  keys : keysNodup s.attrs → keysNodup s'.attrs
  undo : ∀ k, aget (undo s'.stack s'.attrs) k = aget (undo s.stack s.attrs) k
  regd : ∃ l, s'.regd = s.regd ++ l ∧ pendingRan s'.stack = l.reverse ++ pendingRan s.stack

theorem runActs_actsEffect (as : List Act) (s : RS) : ActsEffect s (runActs as s) := by
  induction as generalizing s with
  | nil => exact ⟨id, fun _ => rfl, [], by simp [runActs]⟩
  | cons a as ih =>
    -- for each kind of `a`, `runActs (a :: as) s` is by definition `runActs as (runActs [a] s)`
    have e := ih (runActs [a] s)
    obtain ⟨l, h1, h2⟩ := e.regd
    cases a with
    | addDetail n c | expect mid ds => exact ⟨e.keys, e.undo, l, h1, h2⟩
    | cleanup c =>
      exact ⟨e.keys, e.undo, Ran.stage c.id :: l, h1.trans (by simp [runActs]),
        h2.trans (by simp [runActs, pendingRan, Cl.tag])⟩
    | useFixture fid ds cu =>
      exact ⟨e.keys, e.undo, Ran.stage cu.id :: Ran.gather fid :: l, h1.trans (by simp [runActs]),
        h2.trans (by simp [runActs, pendingRan, Cl.tag])⟩
    | patch a v =>
      refine ⟨fun h => e.keys (keysNodup_aset _ _ _ h), fun k => (e.undo k).trans ?_, Ran.unpatch a :: l,
        h1.trans (by simp [runActs]), h2.trans (by simp [runActs, pendingRan, Cl.tag])⟩
      -- undoing the patch right away puts back the value it saved
      refine undo_congr s.stack (restore (aset s.attrs a v) a (aget s.attrs a)) s.attrs (fun k' => ?_) k
      rw [aget_restore, aget_aset]
      split <;> simp [*]

theorem runStage_actsEffect (st : Stage) (d : Bool) (s : RS) : ActsEffect s (runStage st d s).1 := by
  have e := runActs_actsEffect st.acts (stage0 st s)
  have ha := runStage_frame reportTb_attrs got_attrs runTerm_attrs st d s
  exact ⟨by rw [ha]; exact e.keys, fun k => by rw [runStage_stack, ha]; exact e.undo k,
    by rw [runStage_frame reportTb_regd got_regd runTerm_regd, runStage_stack]; exact e.regd⟩

/-- `keys`: the store is a dict, so `aget` determines it up to order (`perm_of_aget_eq`); `undo`: restoring what the pending `unpatch` entries saved, top first, gives back the attributes from before the run;
`once`: the cleanups run so far and those pending are, as a multiset, the cleanups registered so far -/
structure UndoInv (p : Program) (s : RS) : Prop where
  keys : keysNodup s.attrs
  undo : ∀ k, aget (undo s.stack s.attrs) k = aget p.attrs0 k
  once : (s.ran ++ pendingRan s.stack).Perm s.regd

/-- `UndoInv.once` is kept, with any list `r` in the place of the cleanups that ran: the loop's step has the popped entry in it -/
theorem ActsEffect.once {s s' : RS} (e : ActsEffect s s') {r : List Ran} (h : (r ++ pendingRan s.stack).Perm s.regd) :
    (r ++ pendingRan s'.stack).Perm s'.regd := by
  obtain ⟨l, h1, h2⟩ := e.regd
  rw [h1, h2]
  -- r ++ (l.reverse ++ pending)  ~  (r ++ pending) ++ l
  refine List.Perm.trans ?_ (h.append_right l)
  rw [List.append_assoc]
  exact List.Perm.append_left r (((List.reverse_perm l).append_right _).trans List.perm_append_comm)

theorem UndoInv.step {p : Program} {s : RS} (h : UndoInv p s) (st : Stage) (d : Bool) : UndoInv p (runStage st d s).1 := by
  have e := runStage_actsEffect st d s
  refine ⟨e.keys h.keys, fun k => by rw [e.undo, h.undo], ?_⟩
  rw [(runStage_effect st d s).ran]
  exact e.once h.once

theorem UndoInv.stepCl {p : Program} {s : RS} (h : UndoInv p s) (c : Cl) (rest : List Cl) (hs : s.stack = c :: rest) :
    UndoInv p (runCl c { s with stack := rest }) := by
  have hperm : (s.ran ++ Cl.tag c :: pendingRan rest).Perm s.regd := by
    have := h.once; rw [hs] at this; simpa [pendingRan] using this
  have hu := h.undo
  rw [hs] at hu
  cases c with
  | stage st =>
    have e := runStage_actsEffect st false { s with stack := rest }
    have e1 := runStage_effect st false { s with stack := rest }
    simp only [runCl]
    refine ⟨e.keys h.keys, fun k => (e.undo k).trans (hu k), ?_⟩
    simp only [e1.ran]
    -- the popped entry has run: it goes from the pending side to the other before the stage registers anything
    exact e.once (r := s.ran ++ [Ran.stage st.id]) (by simpa [Cl.tag] using hperm)
  | gather fid ds =>
    simp only [runCl]
    exact ⟨h.keys, hu, by simpa [Cl.tag] using hperm⟩
  | unpatch a old =>
    rw [runCl_unpatch]
    exact ⟨keysNodup_restore s.attrs a old h.keys, hu, by simpa [Cl.tag] using hperm⟩

theorem runCore_undoInv (p : Program) (ff0 : Bool) (hwf : wf p = true) : UndoInv p (runCore p ff0).1 := by
  apply runCore_induct p ff0 hwf (UndoInv p)
  · refine ⟨?_, fun k => rfl, by simp [initRS, pendingRan]⟩
    exact wf_attrs p hwf
  · intro st s _ h _; exact h.step st _
  · intro s c rest _ h hs; exact h.stepCl c rest hs
  · intro s _ h _ _
    exact ⟨by rw [got_attrs]; exact h.keys, fun k => by rw [got_attrs, got_stack]; exact h.undo k,
      by rw [got_ran, got_regd, got_stack]; exact h.once⟩

end TTV.Run
