import TTV.Lemmas.RouterHist
/-! Per sink, starts and stops alternate: an argument about *any* trace that `finalHist` accepts (the reading of the
property), not about the model.  What one sink sees of a walk that ends without an exception (`walk_ctl`) and hence of an
operation in which no sink raises (`op_ctl`): at most its immediate start and the router's own call.  Between operations a
sink is running iff a run is in progress and it is registered (`RunningIffRegistered`); `clean_alternates` is what `cAlternate`
asks. -/
namespace TTV.Props.C18
open TTV.Stream TTV.Stream.Router TTV.Spec.C18

/-- the start/stop automaton of one sink: `some running` after a legal sequence, `none` after an illegal one -/
def automaton : Bool → List Bool → Option Bool
  | r, [] => some r
  | r, b :: l => if b != r then automaton b l else none

theorem automaton_nil (r : Bool) : automaton r [] = some r := rfl
theorem automaton_start (l : List Bool) : automaton false (true :: l) = automaton true l := rfl
theorem automaton_stop (l : List Bool) : automaton true (false :: l) = automaton false l := rfl

theorem alternates_eq (e : Bool) (l : List Bool) : alternates e l = (automaton (!e) l).isSome := by
  induction l generalizing e with
  | nil => rfl
  | cons b l ih => cases b <;> cases e <;> simp [alternates, automaton, ih]

theorem automaton_append (r : Bool) (l1 l2 : List Bool) :
    automaton r (l1 ++ l2) = (automaton r l1).bind fun r' => automaton r' l2 := by
  induction l1 generalizing r with
  | nil => rfl
  | cons b l1 ih =>
    simp only [List.cons_append, automaton]
    split
    · exact ih b
    · rfl

theorem ctlOf_append (x : Nat) (a b : List Item) : ctlOf x (a ++ b) = ctlOf x a ++ ctlOf x b := by
  induction a with
  | nil => rfl
  | cons it a ih =>
    cases it with
    | del y ev n => cases ev <;> simp only [List.cons_append, ctlOf, ih] <;> split <;> rfl
    | _ => exact ih

def sinkState (x : Nat) (L : List Item) : Option Bool := automaton false (ctlOf x L)

theorem sinkState_append (x : Nat) (L seg : List Item) :
    sinkState x (L ++ seg) = (sinkState x L).bind fun r => automaton r (ctlOf x seg) := by
  simp only [sinkState, ctlOf_append, automaton_append]

theorem pend_self (z : Nat) : ((some z : Option Nat) != some z) = false := by simp

/-- the entries `ctlOf` has for a call `ev`, at the sink that receives it (`true` = start) -/
def ctlBit : SinkEv → List Bool
  | .start => [true]
  | .stop => [false]
  | .status _ => []

theorem ctlOf_del (x y : Nat) (ev : SinkEv) (n : Bool) (r : List Item) :
    ctlOf x (.del y ev n :: r) = (if y = x then ctlBit ev else []) ++ ctlOf x r := by
  cases ev <;> simp only [ctlOf, ctlBit] <;> split <;> rfl

theorem not_mem_right_of_nodup_append {α : Type} {L l Z : List α} (hL : l ++ Z = L) (hn : L.Nodup) {x : α} (hl : x ∈ l) :
    x ∉ Z :=
  fun hz => (List.nodup_append.mp (hL ▸ hn)).2.2 x hl x hz rfl

/-- the walks `walk_ctl` speaks of: a dispatch; or a fixed list of calls that is used up, or has its last call still to come
with the walk at its beginning (`st = false`: no sink has been called, so none can have added a rule whose immediate start
would come before that call) -/
def AtMostOneLeft : Mode → Nat → Option Nat → Bool → Prop
  | .ctl _, _, _, _ => True
  | .fixed ds, i, p, st => ds.length ≤ i ∨ (ds.length = i + 1 ∧ p = none ∧ st = false)

/-- **what one sink sees of a walk** that ends without an exception.  `Z` = the sinks registered from here on.  Sink `x` gets at
most two calls that matter to it: its immediate start, if it is pending (`p`) or (a run in progress) registered from here on,
and the router's own call - in a dispatch after that start, if the dispatch has not passed it yet; in a fixed list before it.
`hn` is about the history `h'` the walk ends with, and the dispatch's call is read off `h'` too (`drop i` of those registered at
the end), which is how a sink registered while the dispatch is under way gets its call. -/
theorem walk_ctl {hb ff running : Bool} {m : Mode} (x : Nat) {h' : List Op} (hn : (registered hb ff h').Nodup)
    {seg : List Item} {i : Nat} {h : List Op} {p : Option Nat} {st : Bool}
    (hw : walk hb ff running m i h p st seg = some (none, h')) :
    AtMostOneLeft m i p st → (∀ y, p = some y → y ∈ registered hb ff h) →
    ∀ Z, registered hb ff h ++ Z = registered hb ff h' →
    ctlOf x seg = match (generalizing := false) m with
      | .ctl ev => (if p = some x ∨ (running = true ∧ x ∈ Z) then [true] else [])
          ++ if x ∈ (registered hb ff h').drop i then ctlBit ev else []
      | .fixed ds => ctlOf x ((ds.drop i).map fun d => .del d.1 d.2 false)
          ++ if p = some x ∨ (running = true ∧ x ∈ Z) then [true] else [] := by
  apply walk_cases (hw := hw)
  case done =>
    intro i _ hd _ _ _ Z hZ
    obtain rfl : Z = [] := List.append_right_eq_self.mp hZ
    cases m with
    | ctl ev => simp only [allDone, beq_iff_eq] at hd; simp [hd, ctlOf]
    | fixed ds => simp only [allDone, beq_iff_eq] at hd; simp [hd, ctlOf]
  case exc => exact fun _ _ he => nomatch he
  case pend =>
    intro i h y _ r ih hpos hp Z hZ
    have hyZ : y ∉ Z := not_mem_right_of_nodup_append hZ hn (hp y rfl)
    cases m with
    | ctl ev =>
      rw [ctlOf_del, ih trivial (fun _ h => nomatch h) Z hZ]
      by_cases hxy : y = x
      · subst hxy; simp [hyZ, ctlBit]
      · simp [hxy]
    | fixed ds =>
      have hle := hpos.resolve_right fun ⟨_, hp, _⟩ => nomatch hp
      rw [ctlOf_del, ih (.inl hle) (fun _ h => nomatch h) Z hZ]
      simp only [List.drop_eq_nil_of_le hle]
      by_cases hxy : y = x
      · subst hxy; simp [hyZ, ctlBit, ctlOf]
      · simp [hxy]
  case radd =>
    intro i h o r hw' ih hpos _ Z hZ
    have hF := registered_effAdd hb ff h (entered hb ff h o)
    obtain ⟨Z', hZ'⟩ := registered_mono hb ff (walk_out hw').ext
    generalize flaggedSink (entered hb ff h o) = q at *
    generalize h ++ effAdd (entered hb ff h o) = h₁ at *
    obtain rfl : Z = q.toList ++ Z' := List.append_cancel_left (by rw [hZ, ← hZ', hF, List.append_assoc])
    rw [show ctlOf x (.radd o :: r) = ctlOf x r from rfl, ih ?_ ?_ Z' hZ']
    · have : ((if running = true then q else none) = some x ∨ running = true ∧ x ∈ Z') ↔
          ((none : Option Nat) = some x ∨ running = true ∧ x ∈ q.toList ++ Z') := by cases running <;> cases q <;> simp [eq_comm]
      simp only [this]
    · cases m with
      | ctl ev => trivial
      | fixed ds => exact .inl (hpos.resolve_right fun ⟨_, _, hst⟩ => nomatch hst)
    · intro y hy
      cases running with
      | false => cases hy
      | true => obtain rfl : q = some y := hy; simp [hF]
  case top =>
    intro i h _ x' ev r hnt _ ih hpos _ Z hZ
    cases m with
    | fixed ds =>
      obtain ⟨hlt, hget⟩ := List.getElem?_eq_some_iff.mp hnt
      have hlen : ds.length = i + 1 := (hpos.resolve_left (Nat.not_le.mpr hlt)).1
      rw [ctlOf_del, ih (.inl (Nat.le_of_eq hlen)) (fun _ h => nomatch h) Z hZ]
      simp only [List.drop_eq_getElem_cons hlt, hget, List.drop_eq_nil_of_le (Nat.le_of_eq hlen)]
      simp [ctlOf_del, ctlOf]
    | ctl ev₀ =>
      obtain ⟨rfl, hmem, hd⟩ := nextTop_ctl hnt ⟨Z, hZ⟩
      rw [ctlOf_del, ih trivial (fun _ h => nomatch h) Z hZ, hd]
      by_cases hxx : x' = x
      · subst hxx
        have hnot : x' ∉ (registered hb ff h').drop (i + 1) := by
          have := hn.sublist (List.drop_sublist i _)
          rw [hd] at this
          exact (List.nodup_cons.mp this).1
        have : x' ∉ Z := not_mem_right_of_nodup_append hZ hn hmem
        simp [this, hnot]
      · simp [hxx, Ne.symm hxx]

def RunningIffRegistered (hb ff : Bool) (H : List Op) (L : List Item) : Prop :=
  ∀ x, sinkState x L = some (decide (inRun H = true ∧ x ∈ registered hb ff H))

/-- the entries `ctlOf` has, at a registered sink, for the router's own call during `o` -/
def ctlOp : Op → List Bool
  | .start => ctlBit .start
  | .stop => ctlBit .stop
  | _ => []

theorem ctlOp_of_not_ctl {o : Op} (h : isCtl o = false) : ctlOp o = [] := by
  cases o <;> first | rfl | cases h

/-- **what one sink sees of an operation** in which no sink raises.  `Z` = the sinks registered during it.  The sink is started
at once if it is one of them and a run is in progress; then, in a dispatch, comes the router's call if it is registered when the
dispatch returns. -/
theorem op_ctl {hb ff : Bool} {H : List Op} {o : Op} {seg : List Item} {res : Res} {H' : List Op}
    (hop : opOk hb ff H o seg res = some H') (hexc : hasExc seg = false) (hn : (registered hb ff H).Nodup) :
    ∃ Z, registered hb ff H ++ Z = registered hb ff H' ∧
      ∀ x, ctlOf x seg = (if inRun H = true ∧ x ∈ Z then [true] else [])
        ++ if x ∈ registered hb ff H' then ctlOp o else [] := by
  rcases opOk_cases hop with ⟨rfl, rfl, hctl⟩ | ⟨m, H₀, comp, e, h', hp, hw, hH'⟩
  · exact ⟨[], by simp, fun x => by simp [ctlOp_of_not_ctl hctl, ctlOf]⟩
  cases e with
  | some x => rw [(walk_out hw).exc x rfl] at hexc; cases hexc
  | none =>
    obtain rfl : H' = h' ++ comp := hH'
    rw [hp.registered_comp]
    obtain ⟨Z, hZ⟩ := registered_mono hb ff (walk_out hw).ext
    have hn' := (walk_out hw).nodup (hp.nodup hn)
    cases hp with
    | start | stop =>
      refine ⟨Z, hZ, fun x => ?_⟩
      rw [walk_ctl x hn' hw trivial (fun _ h => nomatch h) Z hZ]
      simp [ctlOp]
    | @status e k e' hd =>
      refine ⟨Z, hZ, fun x => ?_⟩
      rw [walk_ctl x hn' hw (.inr ⟨rfl, rfl, rfl⟩) (fun _ h => nomatch h) Z hZ]
      simp [ctlOp, ctlOf]
    | @add o r hr =>
      have hF : registered hb ff (H ++ [entered hb ff H o])
          = registered hb ff H ++ (flaggedSink (entered hb ff H o)).toList := registered_snoc ..
      refine ⟨(flaggedSink (entered hb ff H o)).toList ++ Z, by rw [← hZ, hF, List.append_assoc], fun x => ?_⟩
      rw [ctlOp_of_not_ctl (not_ctl_of_regOf hr), ite_self, List.append_nil]
      generalize flaggedSink (entered hb ff H o) = q at hw hF
      generalize H ++ [entered hb ff H o] = H₀ at *
      cases hrunning : inRun H <;> rcases q with _ | y <;> simp only [hrunning, if_true, Bool.false_eq_true, if_false] at hw
      case true.some =>
        rw [walk_ctl x hn' hw (.inr ⟨rfl, rfl, rfl⟩) (fun _ h => nomatch h) Z hZ]
        have hy : y ∉ Z := not_mem_right_of_nodup_append hZ hn' (by simp [hF])
        by_cases hxy : y = x
        · subst hxy; simp [hy, ctlOf]
        · simp [hxy, Ne.symm hxy, ctlOf]
      all_goals
        rw [walk_ctl x hn' hw (.inl (Nat.le_refl 0)) (fun _ h => nomatch h) Z hZ]
        simp [ctlOf]

/-- `hstart`, `hstop` (a run is started only when none is in progress, stopped only when one is): the one place where that is
needed -/
theorem RunningIffRegistered.op {hb ff : Bool} {H : List Op} {L : List Item} (hQ : RunningIffRegistered hb ff H L)
    {o : Op} {seg : List Item} {res : Res} {H' : List Op}
    (hop : opOk hb ff H o seg res = some H') (hexc : hasExc seg = false) (hn : (registered hb ff H).Nodup)
    (hstart : o = .start → inRun H = false) (hstop : o = .stop → inRun H = true) :
    RunningIffRegistered hb ff H' (L ++ seg) := by
  obtain ⟨Z, hZ, hc⟩ := op_ctl hop hexc hn
  have O := opOk_out hop
  intro x
  have hdis : x ∈ Z → x ∉ registered hb ff H := fun h2 h1 => not_mem_right_of_nodup_append hZ (O.nodup hn) h1 h2
  rw [sinkState_append, hQ x, hc x, O.inRun hexc, ← hZ]
  cases hctl : isCtl o with
  | true =>
    cases o with
    | start =>
      -- `startTestRun`, no run in progress: the registered sinks are started
      by_cases hx : x ∈ registered hb ff H ++ Z <;> simp [hstart rfl, hx, ctlOp, ctlBit, runAfter, automaton_nil, automaton_start]
    | stop =>
      -- `stopTestRun` in a run: a sink registered meanwhile is started and then stopped
      by_cases h2 : x ∈ Z
      · simp [hstop rfl, h2, hdis h2, ctlOp, ctlBit, runAfter, automaton_nil, automaton_start, automaton_stop]
      · by_cases h1 : x ∈ registered hb ff H <;> simp [hstop rfl, h1, h2, ctlOp, ctlBit, runAfter, automaton_nil, automaton_stop]
    | _ => cases hctl
  | false =>
    -- any other operation: the sinks it registers are started iff a run is in progress
    rw [ctlOp_of_not_ctl hctl, runAfter_of_not_ctl hctl]
    cases inRun H
    · simp [automaton_nil]
    · by_cases h2 : x ∈ Z
      · simp [h2, hdis h2, automaton_nil, automaton_start]
      · simp [h2, automaton_nil]

theorem runsWellFormed_cons {r : Bool} {o : Op} {os : List Op} (h : runsWellFormed r (o :: os) = true) :
    ((o = .start → r = false) ∧ (o = .stop → r = true)) ∧ runsWellFormed (runAfter o r) os = true := by
  cases o <;> simp_all [runsWellFormed, runAfter]

theorem RunningIffRegistered.hist {hb ff : Bool} {H : List Op} {L : List Item} (hQ : RunningIffRegistered hb ff H L)
    {os : List Op} {segs : List (List Item)} {rs : List Res} {Hf : List Op}
    (h : finalHist hb ff H os segs rs = some Hf) (hexc : segs.any hasExc = false)
    (hwf : runsWellFormed (inRun H) os = true) (hn : (registered hb ff H).Nodup) :
    RunningIffRegistered hb ff Hf (L ++ segs.flatten) := by
  -- `finalHist`: 1 no operation left, 2 the first operation passes, 3 it does not, 4 the lists differ in length
  fun_induction finalHist hb ff H os segs rs generalizing L with
  | case1 H => cases h; simpa using hQ
  | case2 H o os seg segs r rs H' hop ih =>
    simp only [List.any_cons, Bool.or_eq_false_iff] at hexc
    obtain ⟨⟨hstart, hstop⟩, hwf'⟩ := runsWellFormed_cons hwf
    have O := opOk_out hop
    simpa [List.append_assoc] using
      ih (hQ.op hop hexc.1 hn hstart hstop) h hexc.2 (O.inRun hexc.1 ▸ hwf') (O.nodup hn)
  | case3 => cases h
  | case4 => cases h

theorem clean_alternates {hb ff : Bool} {os : List Op} {segs : List (List Item)} {rs : List Res} {Hf : List Op}
    (h : finalHist hb ff [] os segs rs = some Hf) (hexc : segs.any hasExc = false) (hwf : runsWellFormed false os = true)
    (x : Nat) : alternates true (ctlOf x segs.flatten) = true := by
  have hQ : RunningIffRegistered hb ff [] [] := fun x => by simp [sinkState, ctlOf, automaton, inRun]
  have := hQ.hist h hexc hwf (registered_nil_nodup hb ff) x
  rw [List.nil_append, sinkState] at this
  rw [alternates_eq, Bool.not_true, this]; rfl

end TTV.Props.C18
