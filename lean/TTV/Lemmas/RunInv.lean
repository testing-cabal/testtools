import TTV.Lemmas.RunFrame
/-! The run invariant of M-Run, `runCore` as main phase + cleanup loop + forced-failure test, and the induction
principles that go with this decomposition. -/
namespace TTV.Run
open TTV.Spec.Run

def stageEvId : Ev → Option Nat
  | .stage i => some i
  | .startTestRun | .stopTestRun | .startTest | .stopTest | .outcome _ _ | .onExc _ _ => none

def onExcEv : Ev → Option (Nat × Exc)
  | .onExc h e => some (h, e)
  | .startTestRun | .stopTestRun | .startTest | .stopTest | .outcome _ _ | .stage _ => none

def hasExpect (st : Stage) : Bool := st.acts.any actIsExpect

def handlerCalls (n : Nat) (es : List Exc) : List (Nat × Exc) :=
  es.flatMap fun e => (List.range n).map fun h => (h, e)

/-- The run invariant.  The ghost `execd` (the stages executed so far, in order) determines the control part of the state: the
log (stages and handler calls, no result call), the exceptions recorded, `force_failure`, the clock.  Only nested stages
wait on the cleanup stack, so a popped stage is never the decorated test method (`decoOf_nested`). -/
structure Inv (p : Program) (ff0 : Bool) (s : RS) : Prop where
  logPure : ∀ e ∈ s.log, isResultEv e = false
  logIds  : s.log.filterMap stageEvId = s.execd.map Stage.id
  onExcs  : s.log.filterMap onExcEv = handlerCalls p.nOnExc s.excs
  excs    : s.excs = s.execd.flatMap (stageExcs p)
  ff      : s.ff = (ff0 || s.execd.any hasExpect)
  nOnExc  : s.nOnExc = p.nOnExc
  clock   : s.clock = s.execd.length
  execdIn : ∀ st ∈ s.execd, st ∈ allStages p
  stackIn : ∀ c, Cl.stage c ∈ s.stack → c ∈ nested p

theorem stageIds_eq (t : Trace) : stageIds t = t.events.filterMap stageEvId := by
  simp only [stageIds]; congr 1; funext e; cases e <;> rfl

theorem onExcCalls_pure (n : Nat) (e : Exc) : ∀ x ∈ onExcCalls n e, isResultEv x = false := by
  intro x hx
  simp only [onExcCalls, List.mem_map] at hx
  obtain ⟨h, _, rfl⟩ := hx
  rfl

theorem onExcCalls_stage (n : Nat) (e : Exc) : (onExcCalls n e).filterMap stageEvId = [] := by
  simp [onExcCalls, List.filterMap_map, Function.comp_def, stageEvId]

theorem onExcCalls_onExc (n : Nat) (e : Exc) : (onExcCalls n e).filterMap onExcEv = handlerCalls n [e] := by
  simp [onExcCalls, handlerCalls, List.filterMap_map, Function.comp_def, onExcEv]

theorem handlerCalls_append (n : Nat) (a b : List Exc) :
    handlerCalls n (a ++ b) = handlerCalls n a ++ handlerCalls n b := by
  simp [handlerCalls]

theorem filterMap_stage_onExcCalls (n : Nat) (es : List Exc) :
    (es.flatMap (onExcCalls n)).filterMap stageEvId = [] := by
  simp [List.filterMap_flatMap, onExcCalls_stage]

theorem filterMap_onExc_onExcCalls (n : Nat) (es : List Exc) :
    (es.flatMap (onExcCalls n)).filterMap onExcEv = handlerCalls n es := by
  simp [List.filterMap_flatMap, onExcCalls_onExc, handlerCalls]

def decoOf (p : Program) (st : Stage) : Bool := p.xfailDeco && st.id == p.body.id

theorem excsD_decoOf (p : Program) (st : Stage) : excsD (decoOf p st) st.term = stageExcs p st := by
  simp [excsD, stageExcs, decoOf]

theorem decoOf_nested (p : Program) (hwf : wf p = true) (st : Stage) (h : st ∈ nested p) : decoOf p st = false := by
  simp [decoOf, nested_id_ne_root p hwf st h _ .body]

/-- what `Inv.step` needs of the stage it runs; `children` is what keeps `Inv.stackIn`: whatever the stage registers is nested -/
structure StageOk (p : Program) (st : Stage) : Prop where
  mem      : st ∈ allStages p
  children : ∀ c, childOf c st.acts → c ∈ nested p

theorem StageOk.nested {p : Program} {st : Stage} (h : st ∈ nested p) : StageOk p st :=
  ⟨nested_sub_all p st h, fun c hc => nested_closed p st c h hc⟩

theorem StageOk.root {p : Program} {st : Stage} (h : isRoot p st) : StageOk p st :=
  ⟨(mem_allStages p st).mpr (Or.inl h), root_children p st h⟩

theorem Inv.step {p : Program} {ff0 : Bool} {s : RS} {st : Stage} (h : Inv p ff0 s) (ok : StageOk p st) :
    Inv p ff0 (runStage st (decoOf p st) s).1 := by
  have e := runStage_effect st (decoOf p st) s
  constructor
  · intro x hx
    rw [e.log] at hx
    simp only [List.mem_append, List.mem_singleton, List.mem_flatMap] at hx
    rcases hx with (hx | hx) | ⟨ex, _, hx⟩
    · exact h.logPure x hx
    · subst hx; rfl
    · exact onExcCalls_pure _ _ x hx
  · rw [e.log, e.execd]
    simp only [List.filterMap_append, filterMap_stage_onExcCalls, List.append_nil, List.map_append, h.logIds]
    simp [stageEvId]
  · rw [e.log, e.excs]
    simp only [List.filterMap_append, filterMap_onExc_onExcCalls, handlerCalls_append, h.onExcs, h.nOnExc]
    simp [onExcEv]
  · rw [e.excs, e.execd, h.excs, excsD_decoOf]
    simp
  · rw [e.ff, e.execd, h.ff]
    simp [hasExpect, actIsExpect'_eq, Bool.or_assoc]
  · rw [e.nOnExc, h.nOnExc]
  · rw [e.clock, e.execd, h.clock]; simp
  · intro x hx
    rw [e.execd] at hx
    simp only [List.mem_append, List.mem_singleton] at hx
    rcases hx with hx | hx
    · exact h.execdIn x hx
    · subst hx; exact ok.mem
  · intro c hc
    rcases (e.stages c).mp hc with hc | hc
    · exact ok.children c hc
    · exact h.stackIn c hc

theorem Inv.pop {p : Program} {ff0 : Bool} {s : RS} (h : Inv p ff0 s) (c : Cl) (rest : List Cl)
    (hs : s.stack = c :: rest) : Inv p ff0 { s with stack := rest } :=
  { h with stackIn := fun x hx => h.stackIn x (by rw [hs]; exact List.mem_cons_of_mem _ hx) }

theorem Inv.stepCl {p : Program} {ff0 : Bool} {s : RS} (hwf : wf p = true) (h : Inv p ff0 s) (c : Cl)
    (rest : List Cl) (hs : s.stack = c :: rest) :
    Inv p ff0 (runCl c { s with stack := rest }) := by
  have h0 := h.pop c rest hs
  cases c with
  | stage st =>
    have hn : st ∈ nested p := h.stackIn st (by rw [hs]; exact List.mem_cons_self)
    have := h0.step (StageOk.nested hn)
    rw [decoOf_nested p hwf st hn] at this
    -- `runCl` then adds to the ghost `ran`, of which `Inv` does not speak
    simp only [runCl]
    exact { this with }
  | gather fid ds | unpatch a old => simp only [runCl]; exact { h0 with }

theorem runCleanups_nil (s : RS) (h : s.stack = []) : runCleanups s = s := by
  rw [runCleanups]; split
  · rfl
  · rename_i c rest hc; rw [h] at hc; cases hc

theorem runCleanups_cons (s : RS) (c : Cl) (rest : List Cl) (h : s.stack = c :: rest) :
    runCleanups s = runCleanups (runCl c { s with stack := rest }) := by
  rw [runCleanups]; split
  · rename_i hc; rw [h] at hc; cases hc
  · rename_i c' rest' hc; rw [h] at hc; cases hc; rfl

theorem runCleanups_stack (s : RS) : (runCleanups s).stack = [] := by
  fun_induction runCleanups s <;> simp_all

theorem runCleanups_induct {p : Program} {ff0 : Bool} (hwf : wf p = true) (I : RS → Prop)
    (hpop : ∀ (s : RS) (c : Cl) (rest : List Cl), Inv p ff0 s → I s → s.stack = c :: rest →
        I (runCl c { s with stack := rest }))
    (s : RS) (hinv : Inv p ff0 s) (h : I s) : Inv p ff0 (runCleanups s) ∧ I (runCleanups s) := by
  fun_induction runCleanups s with
  | case1 s hs => exact ⟨hinv, h⟩
  | case2 s c rest hs ih => exact ih (Inv.stepCl hwf hinv c rest hs) (hpop s c rest hinv h hs)

theorem Inv.cleanups {p : Program} {ff0 : Bool} (hwf : wf p = true) (s : RS) (h : Inv p ff0 s) :
    Inv p ff0 (runCleanups s) :=
  (runCleanups_induct hwf (fun _ => True) (fun _ _ _ _ _ _ => trivial) s h trivial).1

theorem Inv.init (p : Program) (ff0 : Bool) : Inv p ff0 (initRS p ff0) := by
  constructor <;> simp [initRS, handlerCalls]

/- The cleanup loop only adds to `excs`.  That is all `runCore_eq` needs of the loop, so the equation holds without `wf`. -/
theorem runCl_excs_prefix (c : Cl) (s : RS) : ∃ l, (runCl c s).excs = s.excs ++ l := by
  cases c with
  | stage st => exact ⟨excsD false st.term, by simp [runCl, (runStage_effect st false s).excs]⟩
  | gather f ds | unpatch a o => exact ⟨[], by simp [runCl]⟩

theorem runCleanups_excs_prefix (s : RS) : ∃ l, (runCleanups s).excs = s.excs ++ l := by
  fun_induction runCleanups s with
  | case1 s hs => exact ⟨[], by simp⟩
  | case2 s c rest hs ih =>
    obtain ⟨l, hl⟩ := ih
    obtain ⟨l0, hl0⟩ := runCl_excs_prefix c { s with stack := rest }
    exact ⟨l0 ++ l, by rw [hl, hl0]; simp⟩

def mainPhase (p : Program) (ff0 : Bool) : RS :=
  let r1 := runStage p.setUp false (initRS p ff0)
  if setUpOk p then (runStage p.tearDown false (runStage p.body p.xfailDeco r1.1).1).1 else r1.1

def mainStages (p : Program) : List Stage := if setUpOk p then [p.setUp, p.body, p.tearDown] else [p.setUp]

theorem mainPhase_execd (p : Program) (ff0 : Bool) : (mainPhase p ff0).execd = mainStages p := by
  unfold mainPhase mainStages
  split <;> simp [(runStage_effect _ _ _).execd, initRS]

/-- `addSuccess` is due iff nothing was handed to `_got_user_exception`, the forced failure included -/
theorem runCore_eq (p : Program) (ff0 : Bool) :
    runCore p ff0 =
      (if (runCleanups (mainPhase p ff0)).ff then got (runCleanups (mainPhase p ff0)) forcedFailure
        else runCleanups (mainPhase p ff0),
       !(runCleanups (mainPhase p ff0)).ff && (runCleanups (mainPhase p ff0)).excs.isEmpty) := by
  unfold runCore mainPhase
  have e1 := runStage_effect p.setUp false (initRS p ff0)
  generalize runStage p.setUp false (initRS p ff0) = r1 at e1 ⊢
  obtain ⟨s1, ok1⟩ := r1
  dsimp only at e1 ⊢
  have hok1 : ok1 = setUpOk p := e1.ok
  have hx1 : s1.excs = termExcs p.setUp.term := by rw [e1.excs]; simp [initRS, excsD]
  subst hok1
  cases hsok : setUpOk p with
  | false =>
    obtain ⟨l, hl⟩ := runCleanups_excs_prefix s1
    have hne : (runCleanups s1).excs.isEmpty = false := by
      rw [setUpOk] at hsok
      rw [hl, hx1]
      cases hte : termExcs p.setUp.term with
      | nil => rw [hte] at hsok; cases hsok
      | cons => rfl
    simp only [Bool.false_eq_true, if_false, hne, Bool.and_false]
    split <;> rfl
  | true =>
    simp only [if_true]
    have e2 := runStage_effect p.body p.xfailDeco s1
    generalize runStage p.body p.xfailDeco s1 = r2 at e2 ⊢
    obtain ⟨s2, ok2⟩ := r2
    dsimp only at e2 ⊢
    have e3 := runStage_effect p.tearDown false s2
    generalize runStage p.tearDown false s2 = r3 at e3 ⊢
    obtain ⟨s3, ok3⟩ := r3
    dsimp only at e3 ⊢
    obtain ⟨l, hl⟩ := runCleanups_excs_prefix s3
    have hok : (ok2 && ok3 && ((runCleanups s3).excs.length == s3.excs.length)) = (runCleanups s3).excs.isEmpty := by
      have hA : termExcs p.setUp.term = [] := List.isEmpty_iff.mp hsok
      rw [hl, e3.excs, e2.excs, hx1, hA, e2.ok, e3.ok, ← excsD_isEmpty, ← excsD_isEmpty]
      cases excsD p.xfailDeco p.body.term <;> cases excsD false p.tearDown.term <;> cases l <;> simp
    rw [hok]
    split <;> simp [*]

theorem runCore_stack (p : Program) (ff0 : Bool) : (runCore p ff0).1.stack = [] := by
  rw [runCore_eq]
  cases (runCleanups (mainPhase p ff0)).ff <;> simp [runCleanups_stack]

theorem runCore_succ (p : Program) (ff0 : Bool) : (runCore p ff0).2 = true ↔ (runCore p ff0).1.excs = [] := by
  rw [runCore_eq]
  cases (runCleanups (mainPhase p ff0)).ff <;> simp

theorem runCore_noCleanups (p : Program) (ff0 : Bool) (h : (mainPhase p ff0).stack = []) :
    runCore p ff0 =
      (if (mainPhase p ff0).ff then got (mainPhase p ff0) forcedFailure else mainPhase p ff0,
       !(mainPhase p ff0).ff && (mainPhase p ff0).excs.isEmpty) := by
  rw [runCore_eq, runCleanups_nil _ h]

/-- what a step of the main phase may assume besides `Inv` -/
structure MainStep (p : Program) (st : Stage) (s : RS) : Prop where
  root  : isRoot p st
  noRan : s.ran = []

theorem MainStep.ok {p : Program} {st : Stage} {s : RS} (h : MainStep p st s) : StageOk p st := StageOk.root h.root

/-- the invariant of the main phase: `Inv`, the caller's `I`, and that no cleanup has run yet (`ran`: the details lemmas need it of
the stages that run before the cleanup loop) -/
structure MainInv (p : Program) (ff0 : Bool) (I : RS → Prop) (s : RS) : Prop where
  inv : Inv p ff0 s
  i   : I s
  ran : s.ran = []

theorem MainInv.step {p : Program} {ff0 : Bool} {I : RS → Prop} {s : RS}
    (hstage : ∀ (st : Stage) (s : RS), Inv p ff0 s → I s → MainStep p st s → I (runStage st (decoOf p st) s).1)
    (h : MainInv p ff0 I s) (st : Stage) (d : Bool) (hd : decoOf p st = d)
    (hroot : isRoot p st) : MainInv p ff0 I (runStage st d s).1 := by
  subst hd
  exact ⟨h.inv.step (StageOk.root hroot), hstage st s h.inv h.i ⟨hroot, h.ran⟩,
    by rw [(runStage_effect st (decoOf p st) s).ran, h.ran]⟩

theorem mainPhase_induct (p : Program) (ff0 : Bool) (hwf : wf p = true) (I : RS → Prop)
    (h0 : I (initRS p ff0))
    (hstage : ∀ (st : Stage) (s : RS), Inv p ff0 s → I s → MainStep p st s → I (runStage st (decoOf p st) s).1) :
    MainInv p ff0 I (mainPhase p ff0) := by
  obtain ⟨hsb, -, hbt⟩ := root_ids p hwf
  have m0 : MainInv p ff0 I (initRS p ff0) := ⟨Inv.init p ff0, h0, rfl⟩
  have m1 := m0.step hstage p.setUp false (by simp [decoOf, hsb]) .setUp
  unfold mainPhase
  split
  · have m2 := m1.step hstage p.body p.xfailDeco (by simp [decoOf]) .body
    exact m2.step hstage p.tearDown false (by simp [decoOf, Ne.symm hbt]) .tearDown
  · exact m1

theorem mainPhase_inv (p : Program) (ff0 : Bool) (hwf : wf p = true) :
    MainInv p ff0 (fun _ => True) (mainPhase p ff0) :=
  mainPhase_induct p ff0 hwf _ trivial (fun _ _ _ _ _ => trivial)

theorem runCore_induct (p : Program) (ff0 : Bool) (hwf : wf p = true) (I : RS → Prop)
    (h0 : I (initRS p ff0))
    (hstage : ∀ (st : Stage) (s : RS), Inv p ff0 s → I s → MainStep p st s → I (runStage st (decoOf p st) s).1)
    (hpop : ∀ (s : RS) (c : Cl) (rest : List Cl), Inv p ff0 s → I s → s.stack = c :: rest →
        I (runCl c { s with stack := rest }))
    (hgot : ∀ s : RS, Inv p ff0 s → I s → s.stack = [] → s.ff = true → I (got s forcedFailure)) :
    I (runCore p ff0).1 := by
  have m := mainPhase_induct p ff0 hwf I h0 hstage
  obtain ⟨ic, jc⟩ := runCleanups_induct hwf I hpop _ m.inv m.i
  rw [runCore_eq]
  dsimp only
  split
  · rename_i hff
    exact hgot _ ic jc (runCleanups_stack _) hff
  · exact jc

end TTV.Run
