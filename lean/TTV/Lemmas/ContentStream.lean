import TTV.Model.Content
import TTV.Spec.C16
/-! Lemmas for C16: `_iter_chunks` and the event log of `content_from_stream/file`.

One evaluation of the reader is `readAll`, in closed form according to whether its seek is accepted.  The log of a scenario is a
prelude followed by runs that each start with `iter`; `segs_bodies` cuts such a log into exactly these runs, so the consumptions
the specification speaks of are known lists (for a lazy content whose seek is accepted, the bodies from the positions `starts`:
`lazyBodies_eq`), and its clauses about the bytes of a consumption are read off them (`consumptions_fixed`, `consumptions_first`,
`consumptions_reeval`).  Chunk sizes and laziness go by membership instead (what a body may hold: `bodyEv`); `c == c` by `lazyEqs_true`,
every evaluation seeing the same data (`readAll_data`).  Each clause is first a fact about `streamModel` / `streamEqModel` under the
hypotheses that matter; `model_<clause>` and the theorems of `Props/C16` both read that fact. -/
namespace TTV.Lemmas.ContentStream
open TTV.Content TTV.Spec.C16

theorem readLimit_pos {n : Nat} {caps : List Nat} (hn : 1 ≤ n) (hc : caps.all (1 ≤ ·) = true) : 1 ≤ readLimit n caps := by
  cases caps with
  | nil => exact hn
  | cons k ks =>
    rw [List.all_cons, Bool.and_eq_true, decide_eq_true_eq] at hc
    exact Nat.le_min.2 ⟨hn, hc.1⟩

theorem readLimit_le (n : Nat) (caps : List Nat) : readLimit n caps ≤ n := by
  cases caps with
  | nil => exact Nat.le_refl n
  | cons k ks => exact Nat.min_le_left n k

/-- every non-empty read consumes at least one byte, so `rem.length + 1` reads suffice whatever the short-read plan -/
theorem chunksF_flatten (n : Nat) (hn : 1 ≤ n) : ∀ (f : Nat) (caps : List Nat) (rem : Bytes),
    caps.all (1 ≤ ·) = true → rem.length < f → (chunksF f n caps rem).flatten = rem
  | 0, _, _, _, h => absurd h (Nat.not_lt_zero _)
  | f + 1, caps, rem, hc, h => by
    rw [chunksF]
    split
    · rename_i he
      rcases List.take_eq_nil_iff.1 (List.isEmpty_iff.1 he) with h0 | h0
      · exact absurd (readLimit_pos hn hc) (by omega)
      · rw [h0]; rfl
    · rename_i hne
      have hpos := List.length_pos_iff.2 (mt List.isEmpty_iff.2 hne)
      have hle := List.length_take_le' (readLimit n caps) rem
      rw [List.flatten_cons, chunksF_flatten n hn f _ _
        (List.all_eq_true.2 fun x hx => List.all_eq_true.1 hc x (List.mem_of_mem_tail hx)) (by rw [List.length_drop]; omega)]
      exact List.prefix_iff_eq_append.1 (List.take_prefix _ _)

theorem chunks_flatten (n : Nat) (hn : 1 ≤ n) (caps : List Nat) (hc : caps.all (1 ≤ ·) = true) (rem : Bytes) :
    (chunks n caps rem).flatten = rem :=
  chunksF_flatten n hn _ caps rem hc (Nat.lt_succ_self _)

theorem chunksF_sizes (n : Nat) : ∀ (f : Nat) (caps : List Nat) (rem : Bytes),
    ∀ c ∈ chunksF f n caps rem, c ≠ [] ∧ c.length ≤ n
  | 0, _, _, c, h => nomatch h
  | f + 1, caps, rem, c, h => by
    rw [chunksF] at h
    split at h
    · nomatch h
    · rename_i hne
      rcases List.mem_cons.1 h with rfl | h
      · exact ⟨mt List.isEmpty_iff.2 hne, Nat.le_trans (List.length_take_le _ _) (readLimit_le n caps)⟩
      · exact chunksF_sizes n f _ _ c h

theorem chunks_sizes (n : Nat) (caps : List Nat) (rem : Bytes) : ∀ c ∈ chunks n caps rem, c ≠ [] ∧ c.length ≤ n :=
  chunksF_sizes n _ caps rem

/-- the stream an evaluation starts on (the local `s0` of `readAll`): a file is opened afresh -/
def s0 (i : StreamIn) (s : Stream) : Stream := if i.isFile then { s with pos := 0 } else s

/-- the events of an evaluation whose seek is accepted and that reads the chunks `cs` -/
def okEvs (i : StreamIn) (cs : List Bytes) (consumer : Bool) : List Ev :=
  (if i.isFile then [Ev.opened] else []) ++ seekEvs i
    ++ (cs.flatMap fun c => Ev.read i.chunkSize c.length :: (if consumer then [Ev.chunk c] else []))
    ++ [Ev.read i.chunkSize 0] ++ (if i.isFile then [Ev.closed] else [])

/-- the events of an evaluation whose seek raises `e` -/
def errEvs (i : StreamIn) (e : Exc) : List Ev :=
  (if i.isFile then [Ev.opened] else []) ++ seekEvs i ++ (if i.isFile then [Ev.closed] else []) ++ [Ev.raised e]

theorem readAll_ok {i : StreamIn} {s s1 : Stream} (c : Bool) (h : seekRes i (s0 i s) = .ok s1) :
    readAll i s c = (okEvs i (chunks i.chunkSize i.caps (s1.data.drop s1.pos)) c,
      some (chunks i.chunkSize i.caps (s1.data.drop s1.pos)),
      { s1 with pos := s1.pos + (chunks i.chunkSize i.caps (s1.data.drop s1.pos)).flatten.length }) := by
  simp only [s0] at h
  simp only [readAll, h, okEvs]

theorem readAll_err {i : StreamIn} {s : Stream} {e : Exc} (c : Bool) (h : seekRes i (s0 i s) = .error e) :
    readAll i s c = (errEvs i e, none, s0 i s) := by
  simp only [s0] at h
  simp only [readAll, h, errEvs, s0]

/-- what an evaluation of the reader, and a consumption of a lazy content, may log: stream events, chunks of the right size, `raised`,
`done` -/
def bodyEv (n : Nat) : Ev → Bool
  | .chunk x => !x.isEmpty && x.length ≤ n
  | .iter | .made | .eqSelf _ => false
  | _ => true

theorem bodyEv_chunk {n : Nat} {x : Bytes} : bodyEv n (.chunk x) = true ↔ x ≠ [] ∧ x.length ≤ n := by
  rw [bodyEv, Bool.and_eq_true, Bool.not_eq_true', decide_eq_true_eq, List.isEmpty_eq_false_iff]

theorem isIter_of_bodyEv {n : Nat} {e : Ev} (h : bodyEv n e = true) : isIter e = false := by cases e <;> first | rfl | cases h
theorem eqAnswer_of_bodyEv {n : Nat} {e : Ev} (h : bodyEv n e = true) : eqAnswer e = none := by cases e <;> first | rfl | cases h
theorem bodyEv_of_isIO {n : Nat} {e : Ev} (h : isIO e = true) : bodyEv n e = true := by cases e <;> first | rfl | cases h

theorem isIter_of_isIO {e : Ev} (h : isIO e = true) : isIter e = false := isIter_of_bodyEv (n := 0) (bodyEv_of_isIO h)
theorem isMade_of_isIO {e : Ev} (h : isIO e = true) : isMade e = false := by cases e <;> first | rfl | cases h
theorem isRaised_of_isIO {e : Ev} (h : isIO e = true) : isRaised e = false := by cases e <;> first | rfl | cases h
theorem chunkOf_of_isIO {e : Ev} (h : isIO e = true) : chunkOf e = none := by cases e <;> first | rfl | cases h

theorem mem_seekEvs {i : StreamIn} {e : Ev} (h : e ∈ seekEvs i) : isIO e = true := by
  unfold seekEvs at h
  split at h
  · nomatch h
  · cases List.mem_singleton.1 h; rfl

theorem mem_okEvs {i : StreamIn} {cs : List Bytes} {c : Bool} {e : Ev} (h : e ∈ okEvs i cs c) :
    isIO e = true ∨ ∃ x, x ∈ cs ∧ e = .chunk x ∧ c = true := by
  simp only [okEvs, List.mem_append, List.mem_flatMap, List.mem_cons, List.mem_ite_nil_right, List.not_mem_nil, or_false] at h
  rcases h with (((⟨_, rfl⟩ | h) | ⟨x, hx, rfl | ⟨hc, rfl⟩⟩) | rfl) | ⟨_, rfl⟩
  · exact .inl rfl
  · exact .inl (mem_seekEvs h)
  · exact .inl rfl
  · exact .inr ⟨x, hx, rfl, hc⟩
  · exact .inl rfl
  · exact .inl rfl

theorem mem_okEvs_false {i : StreamIn} {cs : List Bytes} {e : Ev} (h : e ∈ okEvs i cs false) : isIO e = true :=
  (mem_okEvs h).resolve_right fun ⟨_, _, _, hc⟩ => nomatch hc

theorem mem_errEvs {i : StreamIn} {x : Exc} {e : Ev} (h : e ∈ errEvs i x) : isIO e = true ∨ e = .raised x := by
  simp only [errEvs, List.mem_append, List.mem_singleton, List.mem_ite_nil_right] at h
  rcases h with ((⟨_, rfl⟩ | h) | ⟨_, rfl⟩) | h
  · exact .inl rfl
  · exact .inl (mem_seekEvs h)
  · exact .inl rfl
  · exact .inr h

theorem chunkOf_okEvs (i : StreamIn) (cs : List Bytes) : (okEvs i cs true).filterMap chunkOf = cs := by
  have h1 : (seekEvs i).filterMap chunkOf = [] :=
    List.filterMap_eq_nil_iff.2 fun e he => chunkOf_of_isIO (mem_seekEvs he)
  have h2 : ∀ l : List Bytes, (l.flatMap fun c => [Ev.read i.chunkSize c.length, Ev.chunk c]).filterMap chunkOf = l := by
    intro l
    induction l with
    | nil => rfl
    | cons x xs ih => rw [List.flatMap_cons, List.filterMap_append, ih]; rfl
  simp only [okEvs, if_true, List.filterMap_append, h1, h2]
  cases i.isFile <;> simp [List.filterMap_cons, chunkOf]

theorem chunkOf_okEvs_false (i : StreamIn) (cs : List Bytes) : (okEvs i cs false).filterMap chunkOf = [] :=
  List.filterMap_eq_nil_iff.2 fun _ he => chunkOf_of_isIO (mem_okEvs_false he)

theorem readAll_bodyEv {i : StreamIn} {s : Stream} {c : Bool} {e : Ev} (h : e ∈ (readAll i s c).1) :
    bodyEv i.chunkSize e = true := by
  cases hs : seekRes i (s0 i s) with
  | error x =>
    rw [readAll_err c hs] at h
    exact (mem_errEvs h).elim bodyEv_of_isIO fun h => by rw [h]; rfl
  | ok s1 =>
    rw [readAll_ok c hs] at h
    exact (mem_okEvs h).elim bodyEv_of_isIO fun ⟨x, hx, he, _⟩ => by rw [he]; exact bodyEv_chunk.2 (chunks_sizes _ _ _ x hx)

/-- two arms for the four of `seek`: where it clamps a negative target to 0, `toNat` does -/
theorem seek_eq (f : Bool) (s : Stream) (off : Int) (wh : Nat) :
    seek f s off wh = if seekBase s wh + off < 0 ∧ (f = true ∨ wh = 0) then .error (if f then .osError else .valueError)
      else .ok ⟨s.data, (seekBase s wh + off).toNat⟩ := by
  unfold seek
  by_cases ht : seekBase s wh + off < 0
  · have h0 : (seekBase s wh + off).toNat = 0 := by omega
    cases f <;> by_cases hw : wh = 0 <;> simp [ht, hw, h0]
  · simp [ht]

theorem seek_data {f : Bool} {s s1 : Stream} {off : Int} {wh : Nat} (h : seek f s off wh = .ok s1) : s1.data = s.data := by
  rw [seek_eq] at h
  split at h
  · cases h
  · cases h; rfl

theorem seekRes_data {i : StreamIn} {s s1 : Stream} (h : seekRes i s = .ok s1) : s1.data = s.data := by
  unfold seekRes at h
  split at h
  · cases h; rfl
  · exact seek_data h

theorem s0_data (i : StreamIn) (s : Stream) : (s0 i s).data = s.data := by
  unfold s0; split <;> rfl

theorem readAll_data (i : StreamIn) (s : Stream) (c : Bool) : (readAll i s c).2.2.data = s.data := by
  cases hs : seekRes i (s0 i s) with
  | error x => rw [readAll_err c hs]; exact s0_data i s
  | ok s1 => rw [readAll_ok c hs]; exact (seekRes_data hs).trans (s0_data i s)

theorem s0_eq {i : StreamIn} {s : Stream} (hd : s.data = dataOf i) (hp : i.isFile = true ∨ s.pos = i.pos0) :
    s0 i s = ⟨dataOf i, posBefore i⟩ := by
  obtain ⟨d, q⟩ := s
  cases hf : i.isFile <;> simp_all [s0, posBefore]

/-- `startPos` in the two arms of `seek_eq` -/
theorem startPos_eq (i : StreamIn) : startPos i =
    match i.seekTo with
    | none => some (posBefore i)
    | some (off, wh) =>
      if seekOrigin i wh + off < 0 ∧ (i.isFile = true ∨ wh = 0) then none else some (seekOrigin i wh + off).toNat := by
  unfold startPos
  cases i.seekTo with
  | none => rfl
  | some ow =>
    obtain ⟨off, wh⟩ := ow
    by_cases ht : seekOrigin i wh + off < 0
    · have h0 : (seekOrigin i wh + off).toNat = 0 := by omega
      by_cases hw : i.isFile = true ∨ wh = 0 <;> simp [ht, hw, h0]
    · simp [ht]

theorem seekFrom_startPos {i : StreamIn} {off : Int} {wh p : Nat} (hsk : i.seekTo = some (off, wh))
    (hw : wh ≠ 1) (hsp : startPos i = some p) (cur : Nat) : seekFrom i off wh cur = p := by
  rw [startPos_eq, hsk] at hsp
  dsimp only at hsp
  split at hsp
  · cases hsp
  · rw [← Option.some.inj hsp, seekFrom, seekOrigin, if_neg hw, if_neg hw]

/-- the specification's `startPos` is the model's seek on the stream as it is when the content is first evaluated -/
theorem seekRes_eq_startPos (i : StreamIn) : seekRes i ⟨dataOf i, posBefore i⟩ =
    match startPos i with
    | some p => .ok ⟨dataOf i, p⟩
    | none => .error (if i.isFile then .osError else .valueError) := by
  rw [startPos_eq]
  unfold seekRes
  cases i.seekTo with
  | none => rfl
  | some ow =>
    dsimp only
    rw [seek_eq, show seekBase ⟨dataOf i, posBefore i⟩ ow.2 = seekOrigin i ow.2 from rfl]
    split <;> rfl

theorem seekRes_of_startPos {i : StreamIn} {s : Stream} {p : Nat} (hd : s.data = dataOf i)
    (hp : i.isFile = true ∨ s.pos = i.pos0) (h : startPos i = some p) :
    seekRes i (s0 i s) = .ok ⟨dataOf i, p⟩ := by
  have := seekRes_eq_startPos i
  rwa [h, ← s0_eq hd hp] at this

theorem startPos_none_of_error {i : StreamIn} {s : Stream} {x : Exc} (hd : s.data = dataOf i)
    (hp : i.isFile = true ∨ s.pos = i.pos0) (h : seekRes i (s0 i s) = .error x) : startPos i = none := by
  cases hsp : startPos i with
  | none => rfl
  | some p => rw [seekRes_of_startPos hd hp hsp] at h; cases h

theorem seekRes_seekFrom {i : StreamIn} {s : Stream} {off : Int} {wh p : Nat} (hf : i.isFile = false)
    (hsk : i.seekTo = some (off, wh)) (hsp : startPos i = some p) (hd : s.data = dataOf i) :
    seekRes i (s0 i s) = .ok ⟨dataOf i, seekFrom i off wh s.pos⟩ := by
  obtain ⟨d, q⟩ := s
  simp only at hd
  subst hd
  simp only [seekRes, hsk, s0, hf, Bool.false_eq_true, if_false, seek_eq, false_or]
  rw [if_neg]; rfl
  -- an absolute offset that is refused now was refused when the content was made
  rintro ⟨ht, rfl⟩
  rw [startPos_eq, hsk] at hsp
  dsimp only at hsp
  rw [if_pos ⟨ht, .inr rfl⟩] at hsp
  cases hsp

theorem seekRes_fixed {i : StreamIn} {s : Stream} {p : Nat} (hsp : startPos i = some p)
    (hcfg : i.isFile = true ∨ absSeek i = true) (hd : s.data = dataOf i) : seekRes i (s0 i s) = .ok ⟨dataOf i, p⟩ := by
  cases hf : i.isFile with
  | true => exact seekRes_of_startPos hd (Or.inl hf) hsp
  | false =>
    have ha := hcfg.resolve_left (by rw [hf]; exact Bool.false_ne_true)
    unfold absSeek at ha
    split at ha
    · next hsk => rw [seekRes_seekFrom hf hsk hsp hd, seekFrom_startPos hsk (by simpa using ha) hsp]
    · nomatch ha

theorem segs_noIter : ∀ l : List Ev, (∀ e ∈ l, isIter e = false) → segs l = [l]
  | [], _ => rfl
  | x :: xs, h => by
    rw [segs, if_neg (by rw [h x List.mem_cons_self]; decide), segs_noIter xs fun e he => h e (List.mem_cons_of_mem _ he)]

theorem segs_append_iter : ∀ (pre rest : List Ev), (∀ e ∈ pre, isIter e = false) →
    segs (pre ++ Ev.iter :: rest) = pre :: segs rest
  | [], rest, _ => rfl
  | x :: xs, rest, h => by
    rw [List.cons_append, segs, if_neg (by rw [h x List.mem_cons_self]; decide),
      segs_append_iter xs rest fun e he => h e (List.mem_cons_of_mem _ he)]

theorem segs_bodies : ∀ (bs : List (List Ev)) (pre : List Ev), (∀ e ∈ pre, isIter e = false) →
    (∀ b ∈ bs, ∀ e ∈ b, isIter e = false) → segs (pre ++ (bs.map (Ev.iter :: ·)).flatten) = pre :: bs
  | [], pre, hp, _ => by rw [List.map_nil, List.flatten_nil, List.append_nil, segs_noIter pre hp]
  | b :: bs, pre, hp, hb => by
    rw [List.map_cons, List.flatten_cons, List.cons_append, segs_append_iter pre _ hp,
      segs_bodies bs b (hb b List.mem_cons_self) fun b' h => hb b' (List.mem_cons_of_mem _ h)]

theorem mem_runs {bs : List (List Ev)} {e : Ev} (h : e ∈ (bs.map (Ev.iter :: ·)).flatten) : e = .iter ∨ ∃ b ∈ bs, e ∈ b := by
  obtain ⟨l, hl, he⟩ := List.mem_flatten.1 h
  obtain ⟨b, hb, rfl⟩ := List.mem_map.1 hl
  exact (List.mem_cons.1 he).imp_right fun he => ⟨b, hb, he⟩

/-- `lazyIters` cut into its consumptions, without the `iter` markers (`lazyIters_eq`) -/
def lazyBodies (i : StreamIn) : Nat → Stream → List (List Ev)
  | 0, _ => []
  | k + 1, s =>
    let r := readAll i s true
    (r.1 ++ (if r.2.1.isSome then [Ev.done] else [])) :: lazyBodies i k r.2.2

theorem lazyIters_eq (i : StreamIn) : ∀ (k : Nat) (s : Stream),
    lazyIters i k s = ((lazyBodies i k s).map (Ev.iter :: ·)).flatten
  | 0, _ => rfl
  | k + 1, s => by
    rw [lazyIters, lazyBodies, List.map_cons, List.flatten_cons, lazyIters_eq i k]
    simp only [List.cons_append, List.append_assoc]

theorem lazyBodies_bodyEv {i : StreamIn} {e : Ev} : ∀ (k : Nat) (s : Stream), ∀ b ∈ lazyBodies i k s, e ∈ b →
    bodyEv i.chunkSize e = true
  | 0, _, _, hb, _ => nomatch hb
  | k + 1, s, b, hb, he => by
    rcases List.mem_cons.1 hb with rfl | hb
    · exact (List.mem_append.1 he).elim readAll_bodyEv fun h => by
        cases List.mem_singleton.1 (List.mem_ite_nil_right.1 h).2; rfl
    · exact lazyBodies_bodyEv k _ b hb he

/-- the stream as it is handed to `content_from_*` -/
def sInit (i : StreamIn) : Stream := { data := i.data0, pos := i.pos0 }

/-- the stream when a lazy content is first consumed: the data may have been replaced -/
def sLazy (i : StreamIn) : Stream := { data := i.data1.getD i.data0, pos := i.pos0 }

theorem sInit_eq (i : StreamIn) : ({ data := i.data0, pos := i.pos0 } : Stream) = sInit i := rfl

theorem sInit_data {i : StreamIn} (hb : i.bufferNow = true) : (sInit i).data = dataOf i := by
  rw [dataOf, if_pos hb]; rfl

theorem sLazy_data {i : StreamIn} (hb : i.bufferNow = false) : (sLazy i).data = dataOf i := by
  rw [dataOf, if_neg (by rw [hb]; decide)]; rfl

theorem streamModel_lazy {i : StreamIn} (h : i.bufferNow = false) :
    streamModel i = Ev.made :: lazyIters i i.iters (sLazy i) := by
  simp [streamModel, h, sLazy]

theorem streamModel_buf_err {i : StreamIn} {x : Exc} (h : i.bufferNow = true)
    (hs : seekRes i (s0 i (sInit i)) = .error x) : streamModel i = errEvs i x := by
  simp only [streamModel, h, if_true, sInit_eq, readAll_err false hs]

/-- one consumption of a buffered content: the chunks held are replayed, no stream event -/
def bufBody (cs : List Bytes) : List Ev := cs.map Ev.chunk ++ [Ev.done]

theorem streamModel_buf_ok {i : StreamIn} {s1 : Stream} (h : i.bufferNow = true)
    (hs : seekRes i (s0 i (sInit i)) = .ok s1) :
    streamModel i = (okEvs i (chunks i.chunkSize i.caps (s1.data.drop s1.pos)) false ++ [Ev.made])
      ++ ((List.replicate i.iters (bufBody (chunks i.chunkSize i.caps (s1.data.drop s1.pos)))).map (Ev.iter :: ·)).flatten := by
  simp only [streamModel, h, if_true, sInit_eq, readAll_ok false hs]
  simp [bufBody]

theorem mem_bufPrelude {i : StreamIn} {cs : List Bytes} {e : Ev} (h : e ∈ okEvs i cs false ++ [Ev.made]) :
    isIO e = true ∨ e = .made :=
  (List.mem_append.1 h).imp mem_okEvs_false List.mem_singleton.1

theorem mem_bufBody {cs : List Bytes} {e : Ev} (h : e ∈ bufBody cs) : e = .done ∨ ∃ x ∈ cs, e = .chunk x := by
  rcases List.mem_append.1 h with h | h
  · obtain ⟨x, hx, rfl⟩ := List.mem_map.1 h; exact .inr ⟨x, hx, rfl⟩
  · exact .inl (List.mem_singleton.1 h)

theorem mem_bufTail {cs : List Bytes} {k : Nat} {e : Ev}
    (h : e ∈ ((List.replicate k (bufBody cs)).map (Ev.iter :: ·)).flatten) : e = .iter ∨ e = .done ∨ ∃ x ∈ cs, e = .chunk x := by
  rcases mem_runs h with h | ⟨b, hb, he⟩
  · exact .inl h
  · rw [(List.mem_replicate.1 hb).2] at he; exact .inr (mem_bufBody he)

theorem consumptions_lazy {i : StreamIn} (hb : i.bufferNow = false) :
    consumptions (streamModel i) = lazyBodies i i.iters (sLazy i) := by
  rw [streamModel_lazy hb, lazyIters_eq, consumptions]
  exact congrArg (List.drop 1)
    (segs_bodies _ [Ev.made] (fun e he => by cases List.mem_singleton.1 he; rfl) fun b hb _ he =>
      isIter_of_bodyEv (lazyBodies_bodyEv _ _ b hb he))

theorem consumptions_buf {i : StreamIn} {s1 : Stream} (hb : i.bufferNow = true) (hs : seekRes i (s0 i (sInit i)) = .ok s1) :
    consumptions (streamModel i) = List.replicate i.iters (bufBody (chunks i.chunkSize i.caps (s1.data.drop s1.pos))) := by
  rw [streamModel_buf_ok hb hs, consumptions]
  exact congrArg (List.drop 1)
    (segs_bodies _ _
      (fun e he => (mem_bufPrelude he).elim isIter_of_isIO fun h => by rw [h]; rfl)
      fun b h e he => by
        rw [(List.mem_replicate.1 h).2] at he
        rcases mem_bufBody he with rfl | ⟨x, _, rfl⟩ <;> rfl)

theorem chunk_mem_streamModel {i : StreamIn} {x : Bytes} (h : Ev.chunk x ∈ streamModel i) :
    x ≠ [] ∧ x.length ≤ i.chunkSize := by
  cases hb : i.bufferNow with
  | false =>
    rw [streamModel_lazy hb, lazyIters_eq] at h
    rcases List.mem_cons.mp h with h | h
    · nomatch h
    · rcases mem_runs h with h | ⟨b, hb, he⟩
      · nomatch h
      · exact bodyEv_chunk.1 (lazyBodies_bodyEv _ _ b hb he)
  | true =>
    cases hs : seekRes i (s0 i (sInit i)) with
    | error e =>
      rw [streamModel_buf_err hb hs] at h
      rcases mem_errEvs h with h | h <;> nomatch h
    | ok s1 =>
      rw [streamModel_buf_ok hb hs] at h
      rcases List.mem_append.1 h with h | h
      · rcases mem_bufPrelude h with h | h <;> nomatch h
      · rcases mem_bufTail h with h | h | ⟨y, hy, h⟩
        · nomatch h
        · nomatch h
        · cases h; exact chunks_sizes _ _ _ x hy

theorem model_chunkSizes (i : StreamIn) (eqEvs : List Ev) : cChunkSizes (.stream i) (.stream (streamModel i) eqEvs) = true := by
  simp only [cChunkSizes, List.all_eq_true, List.mem_filterMap]
  rintro c ⟨e, he, hc⟩
  cases e <;> cases hc
  exact bodyEv_chunk.2 (chunk_mem_streamModel he)

theorem streamModel_buf_post {i : StreamIn} (hb : i.bufferNow = true) :
    ((streamModel i).dropWhile (!isMade ·)).all (!isIO ·) = true := by
  cases hs : seekRes i (s0 i (sInit i)) with
  | error x =>
    rw [streamModel_buf_err hb hs, ← List.append_nil (errEvs i x), List.dropWhile_append_of_pos]
    · rfl
    · intro e he
      rcases mem_errEvs he with h | rfl
      · rw [isMade_of_isIO h]; rfl
      · rfl
  | ok s1 =>
    rw [streamModel_buf_ok hb hs, List.append_assoc, List.singleton_append, List.dropWhile_append_of_pos]
    · show (List.all (Ev.made :: _) _) = true
      rw [List.all_cons, Bool.and_eq_true, List.all_eq_true]
      exact ⟨rfl, fun e he => by rcases mem_bufTail he with rfl | rfl | ⟨x, _, rfl⟩ <;> rfl⟩
    · intro e he
      rw [isMade_of_isIO (mem_okEvs_false he)]; rfl

theorem model_lazy (i : StreamIn) (eqEvs : List Ev) : cLazy (.stream i) (.stream (streamModel i) eqEvs) = true := by
  simp only [cLazy]
  cases hb : i.bufferNow with
  | false => rw [streamModel_lazy hb]; rfl
  | true => rw [if_pos rfl]; exact streamModel_buf_post hb

theorem segOk_iff {want : Bytes} {seg : List Ev} : segOk want seg = true ↔
    seg.any isDone = true ∧ seg.any isRaised = false ∧ (seg.filterMap chunkOf).flatten = want := by
  rw [segOk, Bool.and_eq_true, Bool.and_eq_true, Bool.not_eq_true', beq_iff_eq, and_assoc]

theorem segOk_done {l : List Ev} (h : ∀ e ∈ l, isRaised e = false) :
    segOk (l.filterMap chunkOf).flatten (l ++ [Ev.done]) = true := by
  rw [segOk_iff, List.any_append, List.any_append, List.filterMap_append,
    (List.any_eq_false (p := isRaised)).2 fun e he => by rw [h e he]; decide]
  exact ⟨Bool.or_true _, rfl, by rw [show List.filterMap chunkOf [Ev.done] = [] from rfl, List.append_nil]⟩

theorem segOk_bufBody (cs : List Bytes) : segOk cs.flatten (bufBody cs) = true := by
  have := segOk_done (l := cs.map Ev.chunk) fun e he => by obtain ⟨_, _, rfl⟩ := List.mem_map.1 he; rfl
  rwa [List.filterMap_map, show chunkOf ∘ Ev.chunk = some from rfl, List.filterMap_some] at this

theorem filterMap_eqAnswer_readAll (i : StreamIn) (s : Stream) (c : Bool) : (readAll i s c).1.filterMap eqAnswer = [] :=
  List.filterMap_eq_nil_iff.2 fun _ he => eqAnswer_of_bodyEv (readAll_bodyEv he)

theorem lazyEqs_true {i : StreamIn} (want : Bytes)
    (h : ∀ s : Stream, s.data = dataOf i → ∃ cs, (readAll i s false).2.1 = some cs ∧ cs.flatten = want) :
    ∀ (k : Nat) (s : Stream), s.data = dataOf i → (lazyEqs i k s).filterMap eqAnswer = List.replicate k true
  | 0, _, _ => rfl
  | k + 1, s, hd => by
    obtain ⟨a, ha, haw⟩ := h s hd
    have hd1 : (readAll i s false).2.2.data = dataOf i := (readAll_data i s false).trans hd
    obtain ⟨b, hb, hbw⟩ := h _ hd1
    have hd2 : (readAll i (readAll i s false).2.2 false).2.2.data = dataOf i := (readAll_data i _ false).trans hd1
    simp only [lazyEqs, ha, hb, List.filterMap_append, filterMap_eqAnswer_readAll, List.nil_append,
      lazyEqs_true want h k _ hd2, List.filterMap_cons, eqAnswer, List.filterMap_nil, haw, hbw, beq_self_eq_true,
      List.singleton_append, List.replicate_succ]

theorem lazyEnd_data (i : StreamIn) : ∀ (k : Nat) (s : Stream), (lazyEnd i k s).data = s.data
  | 0, _ => rfl
  | k + 1, s => by rw [lazyEnd, lazyEnd_data i k, readAll_data]

theorem streamEqModel_lazy {i : StreamIn} (h : i.bufferNow = false) :
    streamEqModel i = lazyEqs i i.eqs (lazyEnd i i.iters (sLazy i)) := by
  simp [streamEqModel, h, sLazy]

theorem streamEqModel_buf_ok {i : StreamIn} {s1 : Stream} (h : i.bufferNow = true)
    (hs : seekRes i (s0 i (sInit i)) = .ok s1) : streamEqModel i = List.replicate i.eqs (Ev.eqSelf true) := by
  simp only [streamEqModel, h, if_true, sInit_eq, readAll_ok false hs, beq_self_eq_true]

/-- the read loop delivers all that remains: the one thing for which the chunk size and the short-read plan matter below
(`chunks_flatten` under the conditions of the domain) -/
def Delivers (i : StreamIn) : Prop := ∀ rem, (chunks i.chunkSize i.caps rem).flatten = rem

theorem delivers_of_wf {i : StreamIn} (h : i.wf = true) : Delivers i := by
  simp only [StreamIn.wf, Bool.and_eq_true, decide_eq_true_eq] at h
  exact chunks_flatten _ h.1.1 _ h.2

/-- the events of a consumption that starts reading at position `p` and completes -/
def okBody (i : StreamIn) (p : Nat) : List Ev :=
  okEvs i (chunks i.chunkSize i.caps ((dataOf i).drop p)) true ++ [Ev.done]

/-- the positions at which successive evaluations start reading, `next` being what the seek makes of the position the stream
stands at; each evaluation leaves the stream at the end of the data (`posAfter`) -/
def starts (i : StreamIn) (next : Nat → Nat) : Nat → Nat → List Nat
  | 0, _ => []
  | k + 1, cur => next cur :: starts i next k (posAfter i (next cur))

theorem starts_const (i : StreamIn) (p : Nat) : ∀ (k cur : Nat), starts i (fun _ => p) k cur = List.replicate k p
  | 0, _ => rfl
  | k + 1, _ => by rw [starts, starts_const i p k, List.replicate_succ]

section
variable {i : StreamIn} (hfl : Delivers i)
include hfl

theorem segOk_okBody (p : Nat) : segOk ((dataOf i).drop p) (okBody i p) = true := by
  have := segOk_done (l := okEvs i (chunks i.chunkSize i.caps ((dataOf i).drop p)) true) fun e he =>
    (mem_okEvs he).elim isRaised_of_isIO fun ⟨_, _, h, _⟩ => by rw [h]; rfl
  rwa [chunkOf_okEvs, hfl _] at this

theorem readAll_end {s s1 : Stream} (hs : seekRes i (s0 i s) = .ok s1) (c : Bool) :
    (readAll i s c).2.2 = ⟨s1.data, max s1.pos s1.data.length⟩ := by
  rw [readAll_ok c hs]
  simp only [hfl _, List.length_drop, Stream.mk.injEq, true_and]
  omega

theorem lazyBodies_succ {s : Stream} {p : Nat} (hs : seekRes i (s0 i s) = .ok ⟨dataOf i, p⟩) (k : Nat) :
    lazyBodies i (k + 1) s = okBody i p :: lazyBodies i k ⟨dataOf i, posAfter i p⟩ := by
  rw [lazyBodies, readAll_end hfl hs true, readAll_ok true hs]; rfl

theorem lazyBodies_eq {next : Nat → Nat}
    (h : ∀ s : Stream, s.data = dataOf i → seekRes i (s0 i s) = .ok ⟨dataOf i, next s.pos⟩) :
    ∀ (k : Nat) (s : Stream), s.data = dataOf i → lazyBodies i k s = (starts i next k s.pos).map (okBody i)
  | 0, _, _ => rfl
  | k + 1, s, hd => by
    rw [lazyBodies_succ hfl (h s hd), lazyBodies_eq h k _ rfl]; rfl

/-- `hcfg`: the configurations in which every evaluation is asked for the same bytes - a file is opened afresh, a buffered content
replays its list, a seek counted from the start or the end ignores where the stream stands -/
theorem consumptions_fixed {p : Nat} (hsp : startPos i = some p)
    (hcfg : i.isFile = true ∨ i.bufferNow = true ∨ absSeek i = true) :
    (consumptions (streamModel i)).all (segOk ((dataOf i).drop p)) = true := by
  cases hb : i.bufferNow with
  | true =>
    have := segOk_bufBody (chunks i.chunkSize i.caps ((dataOf i).drop p))
    rw [hfl _] at this
    rw [consumptions_buf hb (seekRes_of_startPos (sInit_data hb) (Or.inr rfl) hsp), List.all_replicate]
    split
    · rfl
    · exact this
  | false =>
    rw [consumptions_lazy hb, lazyBodies_eq hfl (next := fun _ => p)
      (fun _ hd => seekRes_fixed hsp (by simpa [hb] using hcfg) hd) _ _ (sLazy_data hb), starts_const, List.map_replicate,
      List.all_replicate, segOk_okBody hfl, ite_self]

theorem consumptions_first {p : Nat} (hsp : startPos i = some p) :
    ((consumptions (streamModel i)).take 1).all (segOk ((dataOf i).drop p)) = true := by
  cases hb : i.bufferNow with
  | true =>
    exact List.all_eq_true.2 fun seg h =>
      List.all_eq_true.1 (consumptions_fixed hfl hsp (.inr (.inl hb))) seg (List.mem_of_mem_take h)
  | false =>
    rw [consumptions_lazy hb]
    cases i.iters with
    | zero => rfl
    | succ k =>
      rw [lazyBodies_succ hfl (seekRes_of_startPos (sLazy_data hb) (Or.inr rfl) hsp), List.take_succ_cons, List.take_zero,
        List.all_cons, List.all_nil, Bool.and_true]
      exact segOk_okBody hfl p

theorem reevalOk_starts (off : Int) (wh : Nat) :
    ∀ (k cur : Nat), reevalOk i off wh cur ((starts i (seekFrom i off wh) k cur).map (okBody i)) = true
  | 0, _ => rfl
  | k + 1, cur => by
    rw [starts, List.map_cons, reevalOk, segOk_okBody hfl, reevalOk_starts off wh k]; rfl

theorem consumptions_reeval {off : Int} {wh p : Nat} (hf : i.isFile = false) (hb : i.bufferNow = false)
    (hsk : i.seekTo = some (off, wh)) (hsp : startPos i = some p) :
    reevalOk i off wh i.pos0 (consumptions (streamModel i)) = true := by
  rw [consumptions_lazy hb, lazyBodies_eq hfl (fun _ hd => seekRes_seekFrom hf hsk hsp hd) _ _ (sLazy_data hb)]
  exact reevalOk_starts hfl off wh i.iters i.pos0

theorem eqSelf_fixed {p : Nat} (hsp : startPos i = some p)
    (hcfg : i.isFile = true ∨ i.bufferNow = true ∨ absSeek i = true) :
    (streamEqModel i).filterMap eqAnswer = List.replicate i.eqs true := by
  cases hb : i.bufferNow with
  | true =>
    rw [streamEqModel_buf_ok hb (seekRes_of_startPos (sInit_data hb) (Or.inr rfl) hsp), List.filterMap_replicate]; rfl
  | false =>
    rw [streamEqModel_lazy hb]
    refine lazyEqs_true ((dataOf i).drop p) (fun s hds => ?_) i.eqs _ ((lazyEnd_data i _ _).trans (sLazy_data hb))
    rw [readAll_ok false (seekRes_fixed hsp (by simpa [hb] using hcfg) hds)]
    exact ⟨_, rfl, hfl _⟩

theorem model_chunkConcat (eqEvs : List Ev) : cChunkConcat (.stream i) (.stream (streamModel i) eqEvs) = true := by
  simp only [cChunkConcat, expected]
  cases hsp : startPos i with
  | none => rfl
  | some p =>
    simp only [Option.map_some]
    rw [Bool.and_eq_true]
    constructor
    · cases hb : i.bufferNow with
      | false => rfl
      | true =>
        rw [streamModel_buf_ok hb (seekRes_of_startPos (sInit_data hb) (Or.inr rfl) hsp), Bool.not_true, Bool.false_or,
          List.any_append, List.any_append, Bool.or_eq_true, Bool.or_eq_true]
        exact .inl (.inr rfl)
    · split
      · next h => exact consumptions_fixed hfl hsp (by rw [Bool.or_eq_true] at h; exact h.imp_right .inl)
      · exact consumptions_first hfl hsp

theorem model_reeval (eqEvs : List Ev) : cReeval (.stream i) (.stream (streamModel i) eqEvs) = true := by
  simp only [cReeval]
  cases hsk : i.seekTo with
  | none => rfl
  | some ow =>
    obtain ⟨off, wh⟩ := ow
    cases hsp : startPos i with
    | none => rfl
    | some p =>
      simp only
      split
      · rfl
      · next h =>
        rw [Bool.or_eq_true, not_or, Bool.not_eq_true, Bool.not_eq_true] at h
        rw [posBefore, if_neg (by rw [h.1]; decide)]
        exact consumptions_reeval hfl h.1 h.2 hsk hsp

theorem model_eqSelf (evs : List Ev) : cEqSelf (.stream i) (.stream evs (streamEqModel i)) = true := by
  simp only [cEqSelf]
  split
  · next h =>
    rw [Bool.and_eq_true, expected, Option.isSome_map, Option.isSome_iff_exists, Bool.or_eq_true, Bool.or_eq_true, or_assoc] at h
    obtain ⟨⟨p, hsp⟩, hcfg⟩ := h
    exact beq_iff_eq.2 (eqSelf_fixed hfl hsp hcfg)
  · rfl

end

end TTV.Lemmas.ContentStream
