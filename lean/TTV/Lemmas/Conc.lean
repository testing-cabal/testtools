import TTV.Model.Conc
import TTV.Lemmas.Sched
/-! The invariant `Inv` of the M-Conc scheduler (shared by C12 and C13): under **every** schedule the event log is a
sequence of whole critical sections (`flatLog closed`) plus at most one open section owned by the semaphore holder (`openLog`), and
every thread's sections (`ownedBy i closed`, then those to come) appear in its program order.  No bound on threads, program sizes or
schedule length.  Before it, what one step does to the program counters and the queue, whatever the state (`stepThread_cases`); after
it, what it says of a finished state (`Flat`), and progress: a state that satisfies the invariant is not stuck, and every enabled step
uses up a micro-step. -/
namespace TTV.Conc

theorem progSteps_cons (a : Section) (p : List Section) : progSteps (a :: p) = secSteps a ++ progSteps p := rfl

theorem progSteps_append (a b : List Section) : progSteps (a ++ b) = progSteps a ++ progSteps b := by
  simp [progSteps]

theorem progSteps_eq_segSteps (p : List Section) : progSteps p = segSteps (p.map Seg.sec) := by
  induction p with
  | nil => rfl
  | cons s r ih => rw [progSteps_cons, ih]; simp [secSteps, segSteps, callSteps]

theorem segSteps_append (a b : List Seg) : segSteps (a ++ b) = segSteps a ++ segSteps b := by
  induction a with
  | nil => rfl
  | cons x a ih => cases x <;> simp [segSteps, ih]

theorem segSecs_append (a b : List Seg) : segSecs (a ++ b) = segSecs a ++ segSecs b := by
  induction a with
  | nil => rfl
  | cons x a ih => cases x <;> simp [segSecs, ih]

theorem segSecs_map_sec (p : List Section) : segSecs (p.map Seg.sec) = p := by
  induction p with
  | nil => rfl
  | cons s r ih => simp [segSecs, ih]

theorem segSteps_eq_nil {p : List Seg} (h : segSteps p = []) : p = [] := by
  cases p with
  | nil => rfl
  | cons a r => cases a <;> simp [segSteps] at h

/-- what a step list still puts on the queue (the queue is read by the machine of `Lemmas/ConcSuite` only) -/
def stepItems (steps : List Step) : List Item :=
  steps.filterMap fun | .put x => some x | _ => none

theorem stepItems_append (a b : List Step) : stepItems (a ++ b) = stepItems a ++ stepItems b :=
  List.filterMap_append

theorem stepItems_cons (a : Step) (rest : List Step) : stepItems (a :: rest) = stepItems [a] ++ stepItems rest :=
  stepItems_append [a] rest

theorem stepItems_cons_put (x : Item) (rest : List Step) : stepItems (.put x :: rest) = x :: stepItems rest := rfl

theorem stepItems_cons_other {a : Step} (rest : List Step) (h : ∀ x, a ≠ .put x) : stepItems (a :: rest) = stepItems rest := by
  cases a <;> first | rfl | exact absurd rfl (h _)

/-- In the first case the thread is unknown, finished or blocked at an `acquire`; its next step is then no `put`, which the middle
conjunct records. -/
theorem stepThread_cases (s : St) (t : Nat) :
    (stepThread s t = s ∧ stepItems ((s.pcs[t]?).getD []) = stepItems ((s.pcs[t]?).getD []).tail ∧ enabled s t = false) ∨
    ∃ a rest, s.pcs[t]? = some (a :: rest) ∧ (stepThread s t).pcs = s.pcs.set t rest ∧
      (stepThread s t).queue = s.queue ++ stepItems [a] ∧ enabled s t = true := by
  unfold stepThread enabled
  split
  · rename_i h; exact Or.inl ⟨rfl, by rw [h]; rfl, by rw [h]⟩
  · rename_i h; exact Or.inl ⟨rfl, by rw [h]; rfl, by rw [h]⟩
  · rename_i rest hpc
    split
    · exact Or.inl ⟨rfl, by rw [hpc]; rfl, by simp [*]⟩
    · exact Or.inr ⟨_, rest, hpc, rfl, (List.append_nil _).symm, by simp [*]⟩
  · rename_i rest hpc
    split <;> exact Or.inr ⟨_, rest, hpc, rfl, (List.append_nil _).symm, by rw [hpc]⟩
  · rename_i rest hpc; exact Or.inr ⟨_, rest, hpc, rfl, (List.append_nil _).symm, by rw [hpc]⟩
  · rename_i c r rest hpc; exact Or.inr ⟨_, rest, hpc, rfl, (List.append_nil _).symm, by rw [hpc]⟩
  · rename_i x rest hpc; exact Or.inr ⟨_, rest, hpc, rfl, rfl, by rw [hpc]⟩

theorem stepThread_of_not_enabled {s : St} {i : Nat} (h : enabled s i = false) : stepThread s i = s := by
  rcases stepThread_cases s i with ⟨he, _⟩ | ⟨_, _, _, _, _, he⟩
  · exact he
  · rw [h] at he; cases he

def secEvents (p : Nat × Section) : List Ev :=
  (p.1, EvK.acq) :: (p.2.map (fun c => (p.1, EvK.call c.1 c.2)) ++ [(p.1, EvK.rel)])

def flatLog (closed : List (Nat × Section)) : List Ev := (closed.map secEvents).flatten

def openLog (sem : Option Nat) (cur : Section) : List Ev :=
  match sem with
  | some h => (h, EvK.acq) :: cur.map (fun c => (h, EvK.call c.1 c.2))
  | none => []

/-- `Spec.C12.secsOf` (`secsOf_eq_ownedBy` in `Lemmas/ConcBlock`, by `rfl`), so that the invariant is stated without the specification -/
def ownedBy (i : Nat) (closed : List (Nat × Section)) : List Section :=
  (closed.filter fun p => p.1 == i).map (·.2)

theorem flatLog_nil : flatLog [] = [] := rfl

theorem flatLog_cons (p : Nat × Section) (closed : List (Nat × Section)) : flatLog (p :: closed) = secEvents p ++ flatLog closed := rfl

theorem flatLog_append (a b : List (Nat × Section)) : flatLog (a ++ b) = flatLog a ++ flatLog b := by
  simp [flatLog]

theorem ownedBy_append (i : Nat) (a b : List (Nat × Section)) : ownedBy i (a ++ b) = ownedBy i a ++ ownedBy i b := by
  simp [ownedBy]

theorem mem_ownedBy {p : Nat × Section} {closed : List (Nat × Section)} (h : p ∈ closed) : p.2 ∈ ownedBy p.1 closed := by
  simp only [ownedBy, List.mem_map, List.mem_filter]
  exact ⟨p, ⟨h, by simp⟩, rfl⟩

theorem fst_of_mem_secEvents {e : Ev} {p : Nat × Section} (h : e ∈ secEvents p) : e.1 = p.1 := by
  unfold secEvents at h
  rcases List.mem_cons.mp h with rfl | h
  · rfl
  · rcases List.mem_append.mp h with h | h
    · obtain ⟨c, _, rfl⟩ := List.mem_map.mp h; rfl
    · simp at h; subst h; rfl

theorem filter_secEvents (j : Nat) (p : Nat × Section) :
    (secEvents p).filter (fun e => e.1 == j) = if p.1 = j then secEvents p else [] := by
  split
  · rename_i h
    rw [List.filter_eq_self]; intro e he; simp [fst_of_mem_secEvents he, h]
  · rename_i h
    rw [List.filter_eq_nil_iff]; intro e he; simp [fst_of_mem_secEvents he, h]

theorem filter_flatLog (j : Nat) : ∀ closed : List (Nat × Section),
    (flatLog closed).filter (fun e => e.1 == j) = flatLog ((ownedBy j closed).map fun s => (j, s))
  | [] => by simp [flatLog, ownedBy]
  | p :: closed => by
      have ih := filter_flatLog j closed
      obtain ⟨i, sec⟩ := p
      simp only [flatLog, ownedBy, List.map_cons, List.flatten_cons, List.filter_append, filter_secEvents, List.filter_cons] at ih ⊢
      by_cases hij : i = j
      · subst hij; simp [ih]
      · have hne : (i == j) = false := by simp [hij]
        simp [hij, hne, ih]

/-- `secs i` are the sections of thread `i`'s whole program.  Ghost state: `closed` the completed
sections in log order, `cur` the calls already made in the open section, `todo` those still to make,
`rem i` what thread `i` still has to do after its current section.  While the semaphore is free (`sem = none`) there is no open
section and nothing constrains `cur` and `todo`: the next `acquire` sets them. -/
structure Inv (n : Nat) (secs : Nat → List Section) (s : St)
    (closed : List (Nat × Section)) (cur todo : Section) (rem : Nat → List Seg) : Prop where
  len : s.pcs.length = n
  out : ∀ i, i < n → s.sem ≠ some i → s.pcs[i]? = some (segSteps (rem i))
  ins : ∀ h, s.sem = some h → h < n ∧ s.pcs[h]? = some (callSteps todo ++ Step.rel :: segSteps (rem h))
  log_eq : s.log = flatLog closed ++ openLog s.sem cur
  acct : ∀ i, i < n → secs i = ownedBy i closed ++ (if s.sem = some i then [cur ++ todo] else []) ++ segSecs (rem i)
  owners : ∀ p ∈ closed, p.1 < n
  -- the counter is 1 when nobody is inside a section and 0 otherwise - never 2 -, and `semLog`, the counter as read after every
  -- operation on the semaphore, is what the log says it must have been
  cnt : s.semv = (if s.sem.isNone then 1 else 0) ∧ s.semLog = readings s.log

theorem Inv.fresh {n : Nat} {secs : Nat → List Section} {pcs : List (List Step)} {rem : Nat → List Seg} (hlen : pcs.length = n)
    (hpc : ∀ i, i < n → pcs[i]? = some (segSteps (rem i))) (hsecs : ∀ i, i < n → secs i = segSecs (rem i)) :
    Inv n secs { pcs := pcs } [] [] [] rem :=
  ⟨hlen, fun i hi _ => hpc i hi, nofun, rfl, fun i hi => hsecs i hi, nofun, rfl, rfl⟩

theorem readings_snoc (log : List Ev) (e : Ev) : readings (log ++ [e]) = readings log ++ e.2.reading?.toList := by
  cases h : e.2.reading? <;> simp [readings, List.filterMap_append, h]

theorem secEvents_eq_openLog (i : Nat) (cur : Section) : secEvents (i, cur) = openLog (some i) cur ++ [(i, EvK.rel)] := rfl

theorem flatLog_snoc (closed : List (Nat × Section)) (i : Nat) (cur : Section) :
    flatLog (closed ++ [(i, cur)]) = flatLog closed ++ openLog (some i) cur ++ [(i, EvK.rel)] := by
  rw [flatLog_append, flatLog_cons, flatLog_nil, List.append_nil, secEvents_eq_openLog, List.append_assoc]

theorem ownedBy_snoc (j : Nat) (closed : List (Nat × Section)) (i : Nat) (cur : Section) :
    ownedBy j (closed ++ [(i, cur)]) = ownedBy j closed ++ if i = j then [cur] else [] := by
  rw [ownedBy_append]
  by_cases hij : i = j <;> simp [ownedBy, hij]

theorem Inv.call {n secs s closed cur c todo rem} (h : Inv n secs s closed cur (c :: todo) rem) {i : Nat} (hs : s.sem = some i) :
    Inv n secs (stepThread s i) closed (cur ++ [c]) todo rem := by
  obtain ⟨hi, hpc⟩ := h.ins i hs
  simp only [stepThread, hpc, callSteps, List.map_cons, List.cons_append]
  refine ⟨by simpa using h.len, fun j hj hne => ?_, fun j hj => ?_, ?_, fun j hj => ?_, h.owners, h.cnt.1, ?_⟩
  · have hij : i ≠ j := fun e => hne (e ▸ hs)
    exact (List.getElem?_set_ne hij).trans (h.out j hj hne)
  · obtain rfl : i = j := Option.some.inj (hs.symm.trans hj)
    exact ⟨hi, List.getElem?_set_self (h.len ▸ hi)⟩
  · simp [h.log_eq, hs, openLog]
  · rw [h.acct j hj, List.append_assoc cur]; rfl
  · simp [readings_snoc, EvK.reading?, h.cnt.2]

theorem Inv.release {n secs s closed cur rem} (h : Inv n secs s closed cur [] rem) {i : Nat} (hs : s.sem = some i) :
    Inv n secs (stepThread s i) (closed ++ [(i, cur)]) [] [] rem := by
  obtain ⟨hi, hpc⟩ := h.ins i hs
  have hv : s.semv = 0 := by simp [h.cnt.1, hs]
  simp only [stepThread, hpc, callSteps, List.map_nil, List.nil_append]
  refine ⟨by simpa using h.len, fun j hj _ => ?_, nofun, ?_, fun j hj => ?_, ?_, by simp [hv], ?_⟩
  · by_cases hij : i = j
    · subst hij; exact List.getElem?_set_self (h.len ▸ hi)
    · exact (List.getElem?_set_ne hij).trans (h.out j hj fun e => hij (Option.some.inj (hs.symm.trans e)))
  · simp [h.log_eq, hs, flatLog_snoc, openLog]
  · simp [h.acct j hj, hs, ownedBy_snoc]
  · intro p hp
    rcases List.mem_append.mp hp with hp | hp
    · exact h.owners p hp
    · rw [List.mem_singleton.mp hp]; exact hi
  · simp [readings_snoc, EvK.reading?, h.cnt.2, hv]

theorem Inv.put {n secs s closed cur todo rem} (h : Inv n secs s closed cur todo rem) {i : Nat} (hi : i < n) (hs : s.sem ≠ some i)
    {x : Item} {r : List Seg} (hr : rem i = .put x :: r) :
    Inv n secs (stepThread s i) closed cur todo (fun j => if j = i then r else rem j) := by
  have hpc := h.out i hi hs
  simp only [stepThread, hpc, hr, segSteps]
  refine ⟨by simpa using h.len, fun j hj hne => ?_, fun k hk => ?_, h.log_eq, fun j hj => ?_, h.owners, h.cnt⟩
  · by_cases hij : j = i
    · subst hij; rw [if_pos rfl]; exact List.getElem?_set_self (h.len ▸ hi)
    · rw [if_neg hij, List.getElem?_set_ne (Ne.symm hij)]; exact h.out j hj hne
  · have hki : k ≠ i := fun e => hs (e ▸ hk)
    rw [if_neg hki, List.getElem?_set_ne (Ne.symm hki)]; exact h.ins k hk
  · by_cases hij : j = i
    · subst hij; rw [if_pos rfl, h.acct j hj, hr]; rfl
    · rw [if_neg hij]; exact h.acct j hj

theorem Inv.acquire {n secs s closed cur todo rem} (h : Inv n secs s closed cur todo rem) {i : Nat} (hi : i < n) (hs : s.sem = none)
    {sc : Section} {r : List Seg} (hr : rem i = .sec sc :: r) :
    Inv n secs (stepThread s i) closed [] sc (fun j => if j = i then r else rem j) := by
  have hpc := h.out i hi (by simp [hs])
  have hv : s.semv = 1 := by simp [h.cnt.1, hs]
  simp only [stepThread, hpc, hr, segSteps, hv, Nat.succ_ne_zero, if_false]
  refine ⟨by simpa using h.len, fun j hj hne => ?_, fun k hk => ?_, ?_, fun j hj => ?_, h.owners, by simp, ?_⟩
  · have hij : j ≠ i := fun e => hne (e ▸ rfl)
    rw [if_neg hij, List.getElem?_set_ne (Ne.symm hij)]; exact h.out j hj (by simp [hs])
  · obtain rfl : i = k := Option.some.inj hk
    rw [if_pos rfl]; exact ⟨hi, List.getElem?_set_self (h.len ▸ hi)⟩
  · simp [h.log_eq, hs, openLog]
  · by_cases hij : j = i
    · subst hij; simp [h.acct j hj, hs, hr, segSecs]
    · simp [h.acct j hj, hs, hij, Ne.symm hij]
  · simp [readings_snoc, EvK.reading?, h.cnt.2]

theorem step_preserves_closed {n secs s closed cur todo rem} (i : Nat) (h : Inv n secs s closed cur todo rem) :
    ∃ closed' cur' todo' rem', Inv n secs (stepThread s i) closed' cur' todo' rem'
      ∧ (closed' = closed ∨ closed' = closed ++ [(i, cur)]) := by
  cases he : enabled s i with
  | false => exact ⟨closed, cur, todo, rem, (stepThread_of_not_enabled he).symm ▸ h, .inl rfl⟩
  | true =>
  by_cases hi : i < n
  case neg =>
    have : s.pcs[i]? = none := List.getElem?_eq_none (by rw [h.len]; omega)
    simp [enabled, this] at he
  by_cases hs : s.sem = some i
  · cases todo with
    | nil => exact ⟨_, _, _, _, h.release hs, .inr rfl⟩
    | cons c t => exact ⟨_, _, _, _, h.call hs, .inl rfl⟩
  · have hpc := h.out i hi hs
    match hr : rem i with
    | [] => simp [enabled, hpc, hr, segSteps] at he
    | .put x :: r => exact ⟨_, _, _, _, h.put hi hs hr, .inl rfl⟩
    | .sec sc :: r =>
      cases hsem : s.sem with
      | some k => simp [enabled, hpc, hr, segSteps, h.cnt.1, hsem] at he
      | none => exact ⟨_, _, _, _, h.acquire hi hsem hr, .inl rfl⟩

theorem step_preserves {n secs s closed cur todo rem} (i : Nat) (h : Inv n secs s closed cur todo rem) :
    ∃ closed' cur' todo' rem', Inv n secs (stepThread s i) closed' cur' todo' rem' := by
  obtain ⟨c, cu, t, r, h', _⟩ := step_preserves_closed i h
  exact ⟨c, cu, t, r, h'⟩

def HasInv (n : Nat) (secs : Nat → List Section) (s : St) : Prop := ∃ closed cur todo rem, Inv n secs s closed cur todo rem

theorem HasInv.step {n secs s} (h : HasInv n secs s) (i : Nat) : HasInv n secs (stepThread s i) :=
  let ⟨_, _, _, _, h⟩ := h; step_preserves i h

theorem run_preserves {n secs s} (sched : List Nat) (h : HasInv n secs s) : HasInv n secs (run s sched) :=
  Sched.run_keeps (fun _ i h => h.step i) sched h

theorem Inv.holder {n secs s closed cur todo rem} (h : Inv n secs s closed cur todo rem) {k : Nat} (hs : s.sem = some k) :
    k < n ∧ enabled s k = true ∧ ∃ a rest, s.pcs[k]? = some (a :: rest) ∧ a ≠ .acq := by
  obtain ⟨hk, hpc⟩ := h.ins k hs
  unfold enabled
  cases todo <;> exact ⟨hk, by rw [hpc]; rfl, _, _, hpc, nofun⟩

theorem Inv.done {n secs s closed cur todo rem} (h : Inv n secs s closed cur todo rem) {i : Nat}
    (hpc : s.pcs[i]? = some []) : s.sem ≠ some i ∧ secs i = ownedBy i closed := by
  have hi : i < n := h.len ▸ (List.getElem?_eq_some_iff.mp hpc).1
  have hs : s.sem ≠ some i := fun hs => by
    obtain ⟨_, _, _, _, hpc', _⟩ := h.holder hs
    rw [hpc] at hpc'; cases hpc'
  have hr := h.out i hi hs
  rw [hpc] at hr
  exact ⟨hs, by simpa [hs, segSteps_eq_nil (Option.some.inj hr).symm, segSecs] using h.acct i hi⟩

/-- A finished state, without the invariant's ghost state. -/
structure Flat (n : Nat) (secs : Nat → List Section) (s : St) (closed : List (Nat × Section)) : Prop where
  log : s.log = flatLog closed
  owners : ∀ p ∈ closed, p.1 < n
  acct : ∀ j, j < n → secs j = ownedBy j closed
  fin : finished s = true
  sem : s.sem = none
  semv : s.semv = 1
  semLog : s.semLog = readings s.log

theorem Inv.closed_mem {n secs s closed cur todo rem} (h : Inv n secs s closed cur todo rem) {p : Nat × Section}
    (hp : p ∈ closed) : p.1 < n ∧ p.2 ∈ secs p.1 :=
  ⟨h.owners p hp, h.acct p.1 (h.owners p hp) ▸ List.mem_append_left _ (List.mem_append_left _ (mem_ownedBy hp))⟩

theorem Inv.sem_none {n secs s closed cur todo rem} (h : Inv n secs s closed cur todo rem)
    (hd : ∀ k, s.sem = some k → s.pcs[k]? = some []) : s.sem = none := by
  cases hs : s.sem with
  | none => rfl
  | some k => exact absurd hs (h.done (hd k hs)).1

theorem Inv.log_free {n secs s closed cur todo rem} (h : Inv n secs s closed cur todo rem) (hs : s.sem = none) :
    s.log = flatLog closed := by
  simpa [hs, openLog] using h.log_eq

theorem Inv.finished {n secs s closed cur todo rem} (h : Inv n secs s closed cur todo rem) (hf : finished s = true) :
    Flat n secs s closed := by
  have hall : ∀ i, i < n → s.pcs[i]? = some [] := fun i hi => by
    have hlt : i < s.pcs.length := h.len ▸ hi
    rw [List.getElem?_eq_getElem hlt, List.isEmpty_iff.mp (List.all_eq_true.mp hf _ (List.getElem_mem hlt))]
  have hsem : s.sem = none := h.sem_none fun k hs => hall k (h.ins k hs).1
  exact ⟨h.log_free hsem, h.owners, fun i hi => (h.done (hall i hi)).2, hf, hsem,
    by simp [h.cnt.1, hsem], h.cnt.2⟩

theorem remaining_step {s : St} {i : Nat} (he : enabled s i = true) : remaining (stepThread s i) + 1 = remaining s := by
  rcases stepThread_cases s i with ⟨_, _, hd⟩ | ⟨a, rest, hpc, hpcs, _⟩
  · rw [he] at hd; cases hd
  · have := Sched.sum_map_set List.length rest hpc
    rw [List.length_cons] at this
    unfold remaining; rw [hpcs]; omega

theorem finished_of_remaining_zero {s : St} (h : remaining s = 0) : finished s = true := by
  rw [finished, List.all_eq_true]
  intro x hx
  exact List.isEmpty_iff.mpr (List.length_eq_zero_iff.mp
    (List.sum_eq_zero_iff_forall_eq_nat.mp h _ (List.mem_map_of_mem hx)))

theorem enabled_of_steps {b : St} {t : Nat} (hv : b.semv = 1) (hlt : t < b.pcs.length) (h : b.pcs[t]? ≠ some []) :
    enabled b t = true := by
  unfold enabled
  rw [List.getElem?_eq_getElem hlt] at h ⊢
  cases hp : b.pcs[t] with
  | nil => exact absurd (congrArg some hp) h
  | cons a rest => cases a <;> simp [hv]

theorem exists_enabled {n secs s closed cur todo rem} (h : Inv n secs s closed cur todo rem)
    (hnf : finished s = false) : ∃ i, i < n ∧ enabled s i = true := by
  cases hsem : s.sem with
  | some k =>
    obtain ⟨hk, hen, _⟩ := h.holder hsem
    exact ⟨k, hk, hen⟩
  | none =>
    obtain ⟨x, hx, hne⟩ := List.all_eq_false.mp hnf
    obtain ⟨i, hi, rfl⟩ := List.mem_iff_getElem.mp hx
    refine ⟨i, h.len ▸ hi, enabled_of_steps (by simp [h.cnt.1, hsem]) hi fun hc => hne ?_⟩
    rw [List.getElem?_eq_getElem hi] at hc
    rw [Option.some.inj hc]; rfl

theorem run_drain_finishes {n secs s} (sched : List Nat) {fuel : Nat} (h : HasInv n secs s) (hf : remaining s ≤ fuel) :
    HasInv n secs (drain fuel (run s sched)) ∧ finished (drain fuel (run s sched)) = true :=
  Sched.run_drain_ends (d := drain) (width := fun s => s.pcs.length) (fun _ => rfl) (fun _ _ => rfl) (fun _ i h => h.step i)
    (fun _ _ _ he => by have := remaining_step he; omega) (fun _ _ => stepThread_of_not_enabled)
    (fun _ ⟨_, _, _, _, h⟩ hnf => let ⟨i, hi, he⟩ := exists_enabled h hnf; ⟨i, h.len ▸ hi, he⟩) sched h hf

/-! ## for a machine that embeds this one (`Lemmas/ConcSuite`)
It reads a thread's remaining program as `(s.pcs[t]?).getD []` (nothing for a thread that is not there) and what that thread will
still put as `stepItems` of it. -/

theorem stepItems_tail_subset {l : List Step} : ∀ x ∈ stepItems l.tail, x ∈ stepItems l := by
  cases l with
  | nil => exact fun x hx => hx
  | cons a rest => rw [stepItems_cons]; exact fun x hx => List.mem_append_right _ hx

theorem stepItems_progSteps (p : List Section) : stepItems (progSteps p) = [] := by
  induction p with
  | nil => rfl
  | cons a p ih => rw [progSteps_cons, stepItems_append, ih]; simp [secSteps, stepItems]

theorem stepItems_segSteps_secs (p : List Section) : stepItems (segSteps (p.map Seg.sec)) = [] := by
  rw [← progSteps_eq_segSteps]; exact stepItems_progSteps p

theorem stepItems_segSteps_puts (xs : List Item) : stepItems (segSteps (xs.map Seg.put)) = xs := by
  induction xs with
  | nil => rfl
  | cons x xs ih => simp [segSteps, stepItems_cons_put, ih]

theorem stepThread_sem (s : St) (i h : Nat) (hs : (stepThread s i).sem = some h) : s.sem = some h ∨ h = i := by
  unfold stepThread at hs
  split at hs
  · left; exact hs
  · left; exact hs
  · split at hs
    · left; exact hs
    · right; simp at hs; exact hs.symm
  · split at hs
    · left; exact hs
    · right; simp at hs; exact hs.symm
  · simp at hs
  · left; exact hs
  · left; exact hs

theorem stepThread_pcs_length (s : St) (t : Nat) : (stepThread s t).pcs.length = s.pcs.length := by
  rcases stepThread_cases s t with ⟨he, _⟩ | ⟨_, _, _, hpcs, _⟩
  · rw [he]
  · rw [hpcs, List.length_set]

theorem stepThread_pc (s : St) (t j : Nat) :
    ((stepThread s t).pcs[j]?).getD [] = (s.pcs[j]?).getD [] ∨
      (j = t ∧ ∃ a, (s.pcs[j]?).getD [] = a :: ((stepThread s t).pcs[j]?).getD []) := by
  rcases stepThread_cases s t with ⟨he, _⟩ | ⟨a, rest, hpc, hpcs, _⟩
  · rw [he]; exact Or.inl rfl
  · rw [hpcs]
    by_cases htj : j = t
    · subst htj; rw [List.getElem?_set_self (List.getElem_of_getElem? hpc).1, hpc]; exact Or.inr ⟨rfl, a, rfl⟩
    · rw [List.getElem?_set_ne (Ne.symm htj)]; exact Or.inl rfl

theorem stepThread_pcs_other (s : St) {t j : Nat} (hne : j ≠ t) : (stepThread s t).pcs[j]? = s.pcs[j]? := by
  rcases stepThread_cases s t with ⟨he, _⟩ | ⟨_, _, _, hpcs, _⟩
  · rw [he]
  · rw [hpcs, List.getElem?_set_ne (Ne.symm hne)]

theorem stepThread_queue (s : St) (t : Nat) :
    ∀ x ∈ (stepThread s t).queue, x ∈ s.queue ∨ x ∈ stepItems ((s.pcs[t]?).getD []) := by
  rcases stepThread_cases s t with ⟨he, _⟩ | ⟨a, rest, hpc, _, hqu, _⟩
  · rw [he]; exact fun x hx => Or.inl hx
  · rw [hqu, hpc, Option.getD_some, stepItems_cons a rest]
    exact fun x hx => (List.mem_append.mp hx).imp_right (List.mem_append_left _)

theorem stepThread_items_self (s : St) (t : Nat) :
    ∀ x ∈ stepItems (((stepThread s t).pcs[t]?).getD []), x ∈ stepItems ((s.pcs[t]?).getD []).tail := by
  rcases stepThread_cases s t with ⟨he, hno, _⟩ | ⟨a, rest, hpc, hpcs, _⟩
  · rw [he, hno]; exact fun x hx => hx
  · rw [hpcs, List.getElem?_set_self (List.getElem_of_getElem? hpc).1, hpc]; exact fun x hx => hx

theorem stepThread_queue_le (s : St) (t : Nat) : (stepThread s t).queue.length ≤ s.queue.length + 1 := by
  rcases stepThread_cases s t with ⟨he, _⟩ | ⟨a, rest, _, _, hq, _⟩
  · rw [he]; omega
  · rw [hq]; cases a <;> simp [stepItems]

/-- the invariant does not read the queue -/
theorem Inv.congr {n secs} {s s' : St} {closed cur todo rem} (h : Inv n secs s closed cur todo rem)
    (hsem : s'.sem = s.sem) (hpcs : s'.pcs = s.pcs) (hlog : s'.log = s.log) (hv : s'.semv = s.semv := by rfl)
    (hl : s'.semLog = s.semLog := by rfl) : Inv n secs s' closed cur todo rem :=
  ⟨by rw [hpcs]; exact h.len, by rw [hsem, hpcs]; exact h.out, by rw [hsem, hpcs]; exact h.ins,
   by rw [hsem, hlog]; exact h.log_eq, by rw [hsem]; exact h.acct, h.owners, by rw [hsem, hv, hl, hlog]; exact h.cnt⟩

/-- main of the concurrent suites, when it enters its abort path in the middle of a run, is given its `stop()` sections this way -/
theorem Inv.extend {n secs s closed cur todo rem} (h : Inv n secs s closed cur todo rem) (j : Nat)
    (hsec : secs j = []) (hpc : s.pcs[j]? = some []) (p : List Section) :
    Inv n (fun t => if t = j then p else secs t) { s with pcs := s.pcs.set j (progSteps p) } closed cur todo
      (fun t => if t = j then p.map Seg.sec else rem t) := by
  have hns : s.sem ≠ some j := (h.done hpc).1
  have hown : ownedBy j closed = [] := (h.done hpc).2.symm.trans hsec
  refine ⟨by simpa using h.len, fun t ht hne => ?_, fun k hk => ?_, h.log_eq, fun t ht => ?_, h.owners, h.cnt⟩
  · by_cases htj : t = j
    · subst htj; rw [if_pos rfl, ← progSteps_eq_segSteps]; exact List.getElem?_set_self (List.getElem?_eq_some_iff.mp hpc).1
    · rw [if_neg htj]; exact (List.getElem?_set_ne (Ne.symm htj)).trans (h.out t ht hne)
  · have hkj : k ≠ j := fun e => hns (e ▸ hk)
    rw [if_neg hkj]; exact ⟨(h.ins k hk).1, (List.getElem?_set_ne (Ne.symm hkj)).trans (h.ins k hk).2⟩
  · by_cases htj : t = j
    · subst htj; simp [hown, hns, segSecs_map_sec]
    · simp only [htj, if_false]; exact h.acct t ht

theorem getElem?_set_self' {α} {l : List α} {i : Nat} {a : α} (h : i < l.length) : (l.set i a)[i]? = some a :=
  List.getElem?_set_self h

end TTV.Conc
