import TTV.Model.Content
/-! Lemmas for C16: lawful incremental decoders; for these `asText` does not depend on the chunking; decoders given by a
per-byte transition function are lawful. -/
namespace TTV.Lemmas.ContentDecode
open TTV.Content

/-- The law is a hypothesis, not a fact of Python's `codecs`: the incremental decoders of utf-16 / utf-32 without BOM, utf-8-sig and
punycode break it, which is why `as_text` joins the bytes and decodes once (repaired in `/repo` `788e0fd`) and only `iter_text` rests
on it. -/
structure Lawful {σ : Type} (D : Decoder σ) : Prop where
  feed_nil : ∀ s, D.feed s [] = some (s, [])
  feed_append : ∀ s a b, D.feed s (a ++ b) =
    match D.feed s a with
    | none => none
    | some (s', o) =>
      match D.feed s' b with
      | none => none
      | some (s'', o') => some (s'', o ++ o')

/-- `decodeAll` started anywhere (`decodeAll_eq_run`) -/
def run {σ : Type} (D : Decoder σ) (s : σ) (b : Bytes) : Option Text :=
  match D.feed s b with
  | none => none
  | some (s', o) => (D.flush s').map (o ++ ·)

theorem run_append {σ : Type} {D : Decoder σ} (h : Lawful D) (s : σ) (a b : Bytes) :
    run D s (a ++ b) = match D.feed s a with
      | none => none
      | some (s', o) => (run D s' b).map (o ++ ·) := by
  simp only [run, h.feed_append]
  cases D.feed s a with
  | none => rfl
  | some r =>
    dsimp only
    cases D.feed r.1 b with
    | none => rfl
    | some r2 => dsimp only; cases D.flush r2.1 <;> simp

theorem iterTextFrom_flatten {σ : Type} {D : Decoder σ} (h : Lawful D) :
    ∀ (chunks : List Bytes) (s : σ), (iterTextFrom D s chunks).map List.flatten = run D s chunks.flatten
  | [], s => by
    -- no chunk at all: the one place where `feed_nil` is needed, `run` feeding `[]` where `iterTextFrom` feeds nothing
    simp only [iterTextFrom, run, List.flatten_nil, h.feed_nil]
    cases D.flush s with
    | none => rfl
    | some f => cases f <;> simp
  | c :: cs, s => by
    rw [iterTextFrom, List.flatten_cons, run_append h]
    cases D.feed s c with
    | none => rfl
    | some r => simp only [← iterTextFrom_flatten h cs, Option.map_map]; rfl

theorem decodeAll_eq_run {σ : Type} {D : Decoder σ} (h : Lawful D) (b : Bytes) : decodeAll D b = run D D.init b := by
  rw [decodeAll, asText, iterText, iterTextFrom_flatten h, List.flatten_cons, List.flatten_nil, List.append_nil]

theorem asText_eq_decodeAll {σ : Type} {D : Decoder σ} (h : Lawful D) (chunks : List Bytes) :
    asText D chunks = decodeAll D chunks.flatten := by
  rw [decodeAll_eq_run h, asText, iterText, iterTextFrom_flatten h]

theorem feedBytes_append {σ : Type} (step : σ → Nat → Option (σ × Text)) :
    ∀ (a b : Bytes) (s : σ), feedBytes step s (a ++ b) =
      match feedBytes step s a with
      | none => none
      | some (s', o) =>
        match feedBytes step s' b with
        | none => none
        | some (s'', o') => some (s'', o ++ o') := by
  intro a
  induction a with
  | nil => intro b s; simp only [List.nil_append, feedBytes]; cases feedBytes step s b <;> simp
  | cons x xs ih =>
    intro b s
    simp only [List.cons_append, feedBytes, ih]
    cases step s x with
    | none => rfl
    | some r =>
      dsimp only
      cases feedBytes step r.1 xs with
      | none => rfl
      | some r2 => dsimp only; cases feedBytes step r2.1 b <;> simp

theorem lawful_of_step {σ : Type} (init : σ) (step : σ → Nat → Option (σ × Text)) (flush : σ → Option Text) :
    Lawful { init := init, feed := feedBytes step, flush := flush } :=
  { feed_nil := fun _ => rfl, feed_append := fun s a b => feedBytes_append step a b s }

theorem run_feedBytes_cons {σ : Type} (init : σ) (step : σ → Nat → Option (σ × Text)) (flush : σ → Option Text)
    (s : σ) (x : Nat) (xs : Bytes) :
    run ⟨init, feedBytes step, flush⟩ s (x :: xs) = match step s x with
      | none => none
      | some (s', o) => (run ⟨init, feedBytes step, flush⟩ s' xs).map (o ++ ·) := by
  rw [← List.singleton_append, run_append (lawful_of_step init step flush)]
  simp only [feedBytes]
  cases step s x with
  | none => rfl
  | some r => simp

theorem latin1_lawful : Lawful latin1 := lawful_of_step _ _ _
theorem ascii_lawful : Lawful ascii := lawful_of_step _ _ _
theorem utf8_lawful : Lawful utf8 := lawful_of_step _ _ _

end TTV.Lemmas.ContentDecode
