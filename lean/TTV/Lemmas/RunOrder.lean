import TTV.Lemmas.RunInv
import TTV.Spec.C01
/-! The stages of a run, in order, as a traversal of the program (`runOrder`): the roots, then what the cleanup stack holds,
each cleanup followed at once by what it registered itself, last registered first.  `runCore_execd_eq` needs no well-formedness: the
loop pops stages, not ids.  While the loop runs, the stages executed followed by those still due (`tour` of the stack) do
not change (`runCl_plan`), so what `wf` says of all stages of the program holds of those a run executes
(`runOrder_flatMap_nodup`: none twice), and the sequence is the one the spec's stack machine accepts (`runCleanups_popAll` for the
loop, `cStages_of_ids` for the run). -/
namespace TTV.Run
open TTV.Spec.Run TTV.Spec.C01

mutual
/-- what popping `stage st` executes, in order, until the entries below it are reached -/
def post : Stage → List Stage
  | .mk i acts t => .mk i acts t :: postActs acts
/-- … and what popping everything these actions pushed executes -/
def postActs : List Act → List Stage
  | [] => []
  | .cleanup s :: as => postActs as ++ post s
  | .useFixture _ _ s :: as => postActs as ++ post s
  | .addDetail _ _ :: as => postActs as
  | .expect _ _ :: as => postActs as
  | .patch _ _ :: as => postActs as
end

/-- the stages the cleanup loop executes from this stack -/
def tour : List Cl → List Stage
  | [] => []
  | .stage s :: r => post s ++ tour r
  | .gather _ _ :: r => tour r
  | .unpatch _ _ :: r => tour r

theorem post_eq (st : Stage) : post st = st :: postActs st.acts := by
  cases st; simp [post, Stage.acts]

theorem tour_append (a b : List Cl) : tour (a ++ b) = tour a ++ tour b := by
  induction a with
  | nil => rfl
  | cons c a ih => cases c <;> simp [tour, ih]

theorem tour_pushes (as : List Act) (a : List (Nat × Nat)) : tour (pushes as a) = postActs as := by
  induction as generalizing a with
  | nil => rfl
  | cons x as ih => cases x <;> simp [pushes, postActs, tour_append, tour, ih]

theorem post_perm : ∀ st : Stage, (post st).Perm (stagesOf st)
  | .mk i acts t => by
    simp only [post, stagesOf]
    exact (postActs_perm acts).cons _
where
  postActs_perm : ∀ acts : List Act, (postActs acts).Perm (stagesOfActs acts)
    | [] => .refl _
    | .cleanup s :: as | .useFixture _ _ s :: as => by
      simp only [postActs, stagesOfActs]
      exact List.perm_append_comm.trans ((post_perm s).append (postActs_perm as))
    | .addDetail _ _ :: as | .expect _ _ :: as | .patch _ _ :: as => postActs_perm as

theorem runCl_plan (c : Cl) (rest : List Cl) (s : RS) :
    (runCl c { s with stack := rest }).execd ++ tour (runCl c { s with stack := rest }).stack =
      s.execd ++ tour (c :: rest) := by
  cases c with
  | stage st =>
    simp only [runCl, runStage_stack_pushes, (runStage_effect st false _).execd, tour_append, tour_pushes, tour, post_eq]
    simp
  | gather f ds | unpatch a o => simp [runCl, tour]

theorem runCleanups_execd (s : RS) : (runCleanups s).execd = s.execd ++ tour s.stack := by
  fun_induction runCleanups s with
  | case1 s hs => simp [hs, tour]
  | case2 s c rest hs ih => rw [ih, runCl_plan, hs]

/-- what the cleanup loop executes after the main phase (`mainPhase_tour`): the cleanups of the last root first -/
def cleanupOrder (p : Program) : List Stage := (mainStages p).reverse.flatMap fun st => postActs st.acts

def runOrder (p : Program) : List Stage := mainStages p ++ cleanupOrder p

theorem mainPhase_tour (p : Program) (ff0 : Bool) : tour (mainPhase p ff0).stack = cleanupOrder p := by
  unfold mainPhase cleanupOrder mainStages
  split <;> simp [runStage_stack_pushes, tour_append, tour_pushes, initRS]

theorem mainPhase_sids (p : Program) (ff0 : Bool) :
    stackIds (mainPhase p ff0).stack = ((mainStages p).flatMap fun st => regsOf st.acts).reverse := by
  unfold mainPhase mainStages
  split <;> simp [runStage_stack_pushes, stackIds_append, stackIds_pushes, regIds_eq, initRS]

theorem runCleanups_mainPhase_execd (p : Program) (ff0 : Bool) : (runCleanups (mainPhase p ff0)).execd = runOrder p := by
  rw [runCleanups_execd, mainPhase_execd, mainPhase_tour, runOrder]

theorem runCore_execd_eq (p : Program) (ff0 : Bool) : (runCore p ff0).1.execd = runOrder p := by
  rw [runCore_eq, ← runCleanups_mainPhase_execd p ff0]
  dsimp only
  split <;> simp

theorem runOrder_flatMap_nodup {β : Type} (p : Program) (f : Stage → List β) (h : ((allStages p).flatMap f).Nodup) :
    ((runOrder p).flatMap f).Nodup := by
  have hs := post_perm p.setUp
  have hb := post_perm p.body
  have ht := post_perm p.tearDown
  rw [post_eq] at hs hb ht
  unfold runOrder cleanupOrder mainStages
  unfold allStages at h
  split
  · refine ((List.Perm.flatMap_right f ?_).nodup_iff).mpr h
    refine List.Perm.trans ?_ ((hs.append hb).append ht)
    simp only [List.reverse_cons, List.reverse_nil, List.nil_append, List.cons_append, List.flatMap_cons, List.flatMap_nil,
      List.append_nil, List.append_assoc]
    -- s :: b :: t :: (T ++ (B ++ S))  ~  s :: (S ++ (b :: (B ++ t :: T)))
    refine List.Perm.cons _ (List.Perm.trans ?_ List.perm_append_comm)
    refine List.Perm.cons _ (List.Perm.trans ?_ (List.perm_append_comm.append_right _))
    simp only [List.cons_append, List.append_assoc]
    exact List.Perm.refl _
  · rw [List.flatMap_append, List.flatMap_append, List.nodup_append, List.nodup_append] at h
    exact ((List.Perm.flatMap_right f (by simpa using hs)).nodup_iff).mpr h.1.1

theorem runOrder_nodup (p : Program) (hwf : wf p = true) : ((runOrder p).map Stage.id).Nodup := by
  rw [List.map_eq_flatMap]
  exact runOrder_flatMap_nodup p _ (List.map_eq_flatMap ▸ wf_nodup p hwf)

theorem cleanupOrder_nested (p : Program) : ∀ x ∈ cleanupOrder p, x ∈ nested p := by
  intro x hx
  obtain ⟨st, hst, hx⟩ := List.mem_flatMap.mp hx
  have hx := (post_perm.postActs_perm st.acts).subset hx
  unfold mainStages at hst
  simp only [nested, List.mem_append]
  split at hst <;> simp only [List.reverse_cons, List.reverse_nil, List.nil_append, List.cons_append, List.mem_cons,
    List.not_mem_nil, or_false] at hst
  · rcases hst with rfl | rfl | rfl <;> simp [hx]
  · subst hst; simp [hx]

theorem runCore_execd_nodup (p : Program) (ff0 : Bool) (hwf : wf p = true) :
    ((runCore p ff0).1.execd.map Stage.id).Nodup :=
  runCore_execd_eq p ff0 ▸ runOrder_nodup p hwf

theorem popAll_nil (p : Program) (fuel : Nat) (st : List Nat) : popAll p fuel [] st = st.isEmpty := by
  cases fuel <;> simp [popAll]

/- A fact about `tour`, `stackIds` and `popAll` on a stack whose stages are nested (of `Inv` the proof reads `stackIn` only).  It is
proved along the loop because the loop's termination measure is the induction needed: once `stage st` is popped the claim is due for
`pushes st.acts _ ++ rest`, which is not a part of the old stack. -/
theorem runCleanups_popAll {p : Program} {ff0 : Bool} (hwf : wf p = true) (s : RS) (h : Inv p ff0 s) :
    ∀ fuel, (tour s.stack).length < fuel → popAll p fuel ((tour s.stack).map Stage.id) (stackIds s.stack) = true := by
  fun_induction runCleanups s with
  | case1 s hs => intro fuel _; simp [hs, tour, stackIds, popAll_nil]
  | case2 s c rest hs ih =>
    have hp := ih (Inv.stepCl hwf h c rest hs)
    rw [hs]
    cases c with
    | stage st =>
      have hst : st ∈ nested p := h.stackIn st (by rw [hs]; exact List.mem_cons_self)
      have e := runStage_effect st false { s with stack := rest }
      have ht : tour (runStage st false { s with stack := rest }).1.stack = postActs st.acts ++ tour rest := by
        simp [runStage_stack_pushes, tour_append, tour_pushes]
      intro fuel hf
      cases fuel with
      | zero => simp at hf
      | succ f =>
        simp only [tour, post_eq, List.cons_append, List.length_cons] at hf
        simp only [tour, post_eq, List.cons_append, List.map_cons, stackIds, popAll, beq_self_eq_true, Bool.true_and,
          findStage_of_mem p hwf st (nested_sub_all p st hst)]
        have := hp f (by simp only [runCl, ht]; omega)
        simpa only [runCl, e.sids, regIds_eq, ht] using this
    | gather fid ds | unpatch a old => simpa [runCl, stackIds, tour] using hp

theorem cStages_of_ids {p : Program} (ff0 : Bool) (hwf : wf p = true) (hskip : p.skipDeco = none) {t : Trace}
    (h : stageIds t = (runOrder p).map Stage.id) : cStages p ff0 t = true := by
  have hp := runCleanups_popAll hwf _ (mainPhase_inv p ff0 hwf).inv _ (Nat.lt_succ_self _)
  rw [mainPhase_tour, mainPhase_sids] at hp
  simp only [cStages, hskip, Option.isSome_none, Bool.false_eq_true, if_false, h, runOrder]
  -- `cStages` matches the ids of the roots one by one and hands the rest to `popAll`, which is `hp`
  cases hsok : setUpOk p <;> simp [mainStages, hsok] at hp ⊢ <;> exact hp

end TTV.Run
