import TTV.Model.SuiteUtilSkel
import TTV.Lemmas.Suite
/-! The reference terms mean the hand-written model functions.  The `ref…_…` lemmas give the fields of the reference records one by
one: a proof rewrites with the fields it depends on and unfolds a record only where `rfl` evaluates the whole term.  A statement about a child list is the statement about the tree
`.suite .plain ts`, unfolded (for the filter through the injectivity of `T.suite`, since `filterI` returns a suite). -/
namespace TTV.SuiteUtilSkel
open TTV.Suite

theorem refIter_non : refIter.nonIterable = .yieldSelf := rfl
theorem refIter_it : refIter.iterable = .yieldFromChildren := rfl

theorem iterateIL_eq (s : IterSrc) (ts : List T) : iterateIL s ts = ts.flatMap (iterateI s) :=
  eq_flatMap rfl (fun _ _ => rfl) ts

theorem iterateI_ref (t : T) : iterateI refIter t = iterate t := by
  induction t with
  | case id => simp [iterateI, iterate, refIter_non]
  | suite k cs ih =>
    simp only [iterateI, iterate, refIter_it, if_true, iterateIL_eq, iterateL_eq]
    exact flatMap_congr ih

theorem iterateIL_ref : ∀ ts : List T, iterateIL refIter ts = iterateL ts :=
  fun ts => iterateI_ref (.suite .plain ts)

theorem refFilter_cases : refFilter.cases = [(.hasOwnFilter, .delegate), (.hasId, .keepIfIdIn true), (.isTestSuite, .filterChildrenInPlace)] := rfl
theorem refFilter_final : refFilter.finalReturnsSame = true := rfl

theorem filterIL_eq (s : FilterSrc) (S : Nat → Bool) (ts : List T) : filterIL s S ts = ts.map (filterI s S) := by
  induction ts with
  | nil => rfl
  | cons t ts ih => rw [filterIL, ih, List.map_cons]

/-- `filterI` is `filterIds` for ANY case list that decides the five kinds of node (a test case, a suite of each of the four
classes) as `filterIds` needs it.  In particular the order of cases whose tests exclude each other does not matter. -/
theorem filterI_sem (s : FilterSrc) (S : Nat → Bool) (hfin : s.finalReturnsSame = true)
    (hcase : ∀ id, chooseAct s.cases (.case id) = some (.keepIfIdIn true))
    (hsuite : ∀ k cs, chooseAct s.cases (.suite k cs) = some .delegate ∨ chooseAct s.cases (.suite k cs) = some .filterChildrenInPlace)
    (t : T) : filterI s S t = filterIds S t := by
  induction t with
  | case id => by_cases h : S id <;> simp [filterI, filterIds, hcase id, h]
  | suite k cs ih =>
    have hcs : filterIL s S cs = filterL S cs := by
      rw [filterIL_eq, filterL_eq]; exact List.map_congr_left ih
    rcases hsuite k cs with h | h <;> simp [filterI, filterIds, h, hfin, hcs]

theorem filterIL_sem (s : FilterSrc) (S : Nat → Bool) (hfin : s.finalReturnsSame = true)
    (hcase : ∀ id, chooseAct s.cases (.case id) = some (.keepIfIdIn true))
    (hsuite : ∀ k cs, chooseAct s.cases (.suite k cs) = some .delegate ∨ chooseAct s.cases (.suite k cs) = some .filterChildrenInPlace) :
    ∀ ts : List T, filterIL s S ts = filterL S ts := by
  intro ts
  rw [filterIL_eq, filterL_eq]
  exact List.map_congr_left fun t _ => filterI_sem s S hfin hcase hsuite t

theorem filterI_ref (S : Nat → Bool) (t : T) : filterI refFilter S t = filterIds S t :=
  filterI_sem refFilter S refFilter_final (fun _ => rfl)
    (fun k _ => by cases k <;> simp [refFilter_cases, chooseAct, FTest.holds]) t

theorem filterIL_ref (S : Nat → Bool) : ∀ ts : List T, filterIL refFilter S ts = filterL S ts :=
  fun ts => (T.suite.inj (filterI_ref S (.suite .plain ts))).2

theorem refFlatten_non : refFlatten.nonIterable = .single := rfl
theorem refFlatten_test : refFlatten.unpackTest = .plainTypeOrOuter := rfl
theorem refFlatten_body : refFlatten.unpackBody = .extendRecursive := rfl
theorem refFlatten_steps : refFlatten.wholeSteps = [.firstId, .sortIfHas, .returnPair] := rfl

theorem flattenIL_eq (s : FlattenSrc) (ts : List T) : flattenIL s ts = ts.flatMap (flattenI s false) :=
  eq_flatMap rfl (fun _ _ => rfl) ts

theorem flattenI_ref (outer : Bool) (t : T) : flattenI refFlatten outer t = flatten outer t := by
  induction t generalizing outer with
  | case id => simp [flattenI, flatten, refFlatten_non]
  | suite k cs ih =>
    have hcs : flattenIL refFlatten cs = flattenL cs := by
      rw [flattenIL_eq, flattenL_eq]; exact flatMap_congr fun c hc => ih c hc false
    by_cases h : (k = .plain || outer) = true
    · simp only [flattenI, flatten, refFlatten_test, refFlatten_body, h, hcs]; simp
    · simp only [flattenI, flatten, refFlatten_test, refFlatten_steps, h, hcs, wholeI, iterate]
      by_cases hk : k = .csort <;> simp [hk]

theorem flattenIL_ref (ts : List T) : flattenIL refFlatten ts = flattenL ts :=
  flattenI_ref false (.suite .plain ts)

theorem sortSelfI_ref (cs : List T) : sortSelfI refFlatten refSortSelf cs = some ((sortItems (flattenL cs)).map (·.2)) := by
  rw [refSortSelf, sortSelfI, flattenIL_ref]

theorem sortedI_ref (x : T) :
    sortedI refIter refFlatten x refSorted none = (match sortedTests x with | none => .valueError | some r => .ok r) := by
  simp only [refSorted, sortedI, iterateI_ref, flattenI_ref, sortedTests]
  split <;> simp

theorem loadedI_refLoadList (it : IterSrc) (f : FilterSrc) (S : Nat → Bool) (x : T) :
    loadedI refLoadList it f S x = some (iterateI it (filterI f S x)) := rfl

theorem loadedI_ref (S : Nat → Bool) (x : T) :
    loadedI refLoadList refIter refFilter S x = some (iterate (filterIds S x)) := by
  rw [loadedI_refLoadList, filterI_ref, iterateI_ref]

end TTV.SuiteUtilSkel
