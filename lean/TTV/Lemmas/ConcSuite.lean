import TTV.Model.ConcSuite
import TTV.Lemmas.Conc
/-! Invariants of the concurrent-suite machine `Conc.stepC` (C13), for every schedule.

`stepC_cases` is the one case analysis of a step: a thread takes a step, or main makes a transition, which is some bookkeeping and
then one of the ways of `Exit` (main parks, `run()` returns or raises, main enters its `stop()` sections).

* `QInv`  — queue / registration accounting, in terms of `todoItems s w`, the items of worker `w` that main has not taken yet (in the
            queue or not yet put): they always end with that worker's final item (`fin` / `stopRun`), which occurs once; a
            worker is registered iff it is started and its final item has not been taken out of the queue.
* `BInv`  — the semaphore / log invariant of M-Conc (`Inv`) for the embedded state, main's `stop()` sections included
            (`BI`: for some ghost state).
* `RInv`  — how `run()` ends; `SInv` — delivery accounting; `FInv` — the stop flags of the stream flavour.
* `CInv`: the five together.  Progress: a state that satisfies it is not stuck, and the measure `pot` decreases with
  every enabled step.

For an invariant `I` (`QInv`, `BI`, `RInv`, `SInv`, `FInv`), `I_init` and `I_stepC` say that the start and every step keep it; `I_exit`,
`I_thread`, `I_pop`, `I_register`, … (each invariant has those it needs) are the cases of `stepC_cases` that are work for it.  Every
`I_init` is `I_exit` from `preC i`, the state before main's first transition (`initC_exit`).  Of the state `b` after the bookkeeping
`I_exit` takes what `I` can say then: `QInv`, `SInv` hold of `b` with main at no place; `BI`, `FInv` look at little the bookkeeping
changes (who is started or registered), so they are taken of the state before it; `RInv` has no case for `b`, so bare facts.  With a dot
(`I.congr`, `I.transfer`, `I.park`, …): what can be read off a state that satisfies `I`, or that `I` does not look at what has changed. -/
namespace TTV.Conc

section proj
variable (i : SInput) (s : CSt) (r : MainRes) (c : Cause) (k : Nat)

@[simp] theorem finishMain_base : (finishMain s r).base = s.base := rfl
@[simp] theorem finishMain_mpc : (finishMain s r).mpc = .done := rfl
theorem finishMain_nsp : (finishMain s r).nsp = s.nsp := rfl
@[simp] theorem finishMain_reg : (finishMain s r).reg = s.reg := rfl
@[simp] theorem finishMain_flags : (finishMain s r).flags = s.flags := rfl
theorem finishMain_sink : (finishMain s r).sink = s.sink := rfl
@[simp] theorem finishMain_result : (finishMain s r).result = some r := rfl
theorem finishMain_joined : (finishMain s r).joined = s.joined := rfl
theorem finishMain_live : (finishMain s r).liveAtReturn = unfinished s := rfl
theorem finishMain_ngets : (finishMain s r).ngets = s.ngets := rfl
theorem finishMain_nstatus : (finishMain s r).nstatus = s.nstatus := rfl
theorem finishMain_pending : (finishMain s r).pending = s.pending := rfl

@[simp] theorem finishMain_msecs (s : CSt) (r : MainRes) : (finishMain s r).msecs = s.msecs := rfl

theorem finishMain_mpc_irrel (s : CSt) (m : MainPc) (r : MainRes) : finishMain { s with mpc := m } r = finishMain s r := rfl

theorem loopHead_eq : loopHead s = if s.reg.isEmpty then finishMain s .returned else { s with mpc := .get } := rfl

theorem loopHead_ctl : ∃ m res live, loopHead s = { s with mpc := m, result := res, liveAtReturn := live } := by
  unfold loopHead finishMain; split <;> exact ⟨_, _, _, rfl⟩

theorem loopHead_nsp : (loopHead s).nsp = s.nsp := by obtain ⟨_, _, _, h⟩ := loopHead_ctl s; rw [h]
theorem loopHead_reg : (loopHead s).reg = s.reg := by obtain ⟨_, _, _, h⟩ := loopHead_ctl s; rw [h]
theorem loopHead_flags : (loopHead s).flags = s.flags := by obtain ⟨_, _, _, h⟩ := loopHead_ctl s; rw [h]
theorem loopHead_sink : (loopHead s).sink = s.sink := by obtain ⟨_, _, _, h⟩ := loopHead_ctl s; rw [h]
theorem loopHead_joined : (loopHead s).joined = s.joined := by obtain ⟨_, _, _, h⟩ := loopHead_ctl s; rw [h]
theorem loopHead_ngets : (loopHead s).ngets = s.ngets := by obtain ⟨_, _, _, h⟩ := loopHead_ctl s; rw [h]
theorem loopHead_nstatus : (loopHead s).nstatus = s.nstatus := by obtain ⟨_, _, _, h⟩ := loopHead_ctl s; rw [h]

theorem loopHead_mpc : (loopHead s).mpc = if s.reg.isEmpty then .done else .get := by
  unfold loopHead; split <;> rfl

theorem setFlags_length : ∀ (ws : List Nat) (f : List Bool), (setFlags f ws).length = f.length
  | [], _ => rfl
  | w :: ws, f => by simp [setFlags, setFlags_length ws]

theorem abortMain_ctl : ∃ p m fl res live ms pd,
    abortMain i s c = { s with base := { s.base with pcs := p }, mpc := m, flags := fl, result := res, liveAtReturn := live,
                               msecs := ms, pending := pd } ∧ fl.length = s.flags.length := by
  unfold abortMain finishMain
  split
  · exact ⟨s.base.pcs, _, _, _, _, _, _, rfl, setFlags_length _ _⟩
  · split
    · exact ⟨s.base.pcs, _, _, _, _, _, _, rfl, rfl⟩
    · exact ⟨_, _, _, _, _, _, _, rfl, rfl⟩

theorem abortMain_sem : (abortMain i s c).base.sem = s.base.sem := by
  obtain ⟨_, _, _, _, _, _, _, h, _⟩ := abortMain_ctl i s c; rw [h]
theorem abortMain_log : (abortMain i s c).base.log = s.base.log := by
  obtain ⟨_, _, _, _, _, _, _, h, _⟩ := abortMain_ctl i s c; rw [h]
theorem abortMain_ngets : (abortMain i s c).ngets = s.ngets := by
  obtain ⟨_, _, _, _, _, _, _, h, _⟩ := abortMain_ctl i s c; rw [h]
theorem abortMain_nstatus : (abortMain i s c).nstatus = s.nstatus := by
  obtain ⟨_, _, _, _, _, _, _, h, _⟩ := abortMain_ctl i s c; rw [h]
theorem abortMain_flags_len : (abortMain i s c).flags.length = s.flags.length := by
  obtain ⟨_, _, _, _, _, _, _, h, hl⟩ := abortMain_ctl i s c; rw [h]; exact hl

end proj

def projQ (w : Nat) (q : List Item) : List Item := q.filter fun x => x.owner == w

/-- the item that ends worker `w`'s deliveries; taking it out of the queue makes main `join()` the worker -/
def lastItem (i : SInput) (w : Nat) : Item :=
  match i.flavour with
  | .suite => .fin w
  | .stream => .stopRun w

def wpc (s : CSt) (w : Nat) : List Step := (s.base.pcs[w + 1]?).getD []

/-- worker `w`'s items that main has not taken yet, in order: those in the (FIFO) queue, then those `w` has not put.  A suffix of the
items of `w`'s program: a thread step moves the first of the second part to the end of the first, `get` takes the head -/
def todoItems (s : CSt) (w : Nat) : List Item := projQ w s.base.queue ++ stepItems (wpc s w)

/-- not a worker's final item -/
def Item.plain : Item → Bool
  | .startRun _ => true
  | .status _ => true
  | _ => false

def GoodT (last : Item) (w : Nat) (l : List Item) : Prop :=
  (l = [] ∨ ∃ pre, l = pre ++ [last] ∧ ∀ y ∈ pre, y.plain = true) ∧ ∀ x ∈ l, x.owner = w

/-- a worker's last step is a `put` (of its final item): once that item is delivered the thread has ended, and `join()` does not block -/
def LastIsPut (steps : List Step) : Prop := steps = [] ∨ ∃ pre x, steps = pre ++ [Step.put x]

theorem LastIsPut_tail {a : Step} {rest : List Step} (h : LastIsPut (a :: rest)) : LastIsPut rest := by
  rcases h with h | ⟨pre, x, h⟩
  · cases h
  · rcases List.cons_eq_append_iff.mp h with ⟨_, h⟩ | ⟨pre', _, h⟩
    · cases h; exact Or.inl rfl
    · exact Or.inr ⟨pre', x, h⟩

theorem stepItems_ne_nil {steps : List Step} (h : LastIsPut steps) (hne : steps ≠ []) : stepItems steps ≠ [] := by
  rcases h with h | ⟨pre, x, rfl⟩
  · exact absurd h hne
  · simp [stepItems]

theorem GoodT.uncons {last : Item} {w : Nat} {x : Item} {l : List Item} (h : GoodT last w (x :: l)) :
    GoodT last w l ∧ ((x = last ∧ l = []) ∨ (x.plain = true ∧ l ≠ [])) := by
  obtain ⟨h1 | ⟨pre, h1, h3⟩, h2⟩ := h
  · cases h1
  · have hown : ∀ y ∈ l, y.owner = w := fun y hy => h2 y (List.mem_cons_of_mem _ hy)
    rcases List.cons_eq_append_iff.mp h1 with ⟨_, h⟩ | ⟨pre', rfl, rfl⟩
    · cases h; exact ⟨⟨Or.inl rfl, hown⟩, Or.inl ⟨rfl, rfl⟩⟩
    · exact ⟨⟨Or.inr ⟨pre', rfl, fun y hy => h3 y (List.mem_cons_of_mem _ hy)⟩, hown⟩,
        Or.inr ⟨h3 x List.mem_cons_self, by simp⟩⟩

theorem lastItem_not_plain (i : SInput) (w : Nat) : (lastItem i w).plain = false := by
  unfold lastItem; split <;> rfl

theorem lastItem_owner (i : SInput) (w : Nat) : (lastItem i w).owner = w := by
  unfold lastItem; split <;> rfl

theorem projQ_append (w : Nat) (a b : List Item) : projQ w (a ++ b) = projQ w a ++ projQ w b :=
  List.filter_append a b

theorem todoItems_step {s s' : CSt} {t : Nat} (hb : s'.base = stepThread s.base t)
    (hown : ∀ x ∈ stepItems ((s.base.pcs[t]?).getD []), x.owner + 1 = t) (w : Nat) : todoItems s' w = todoItems s w := by
  unfold todoItems wpc
  rw [hb]
  rcases stepThread_cases s.base t with ⟨he, _⟩ | ⟨a, rest, hpc, hpcs, hqu, _⟩
  · rw [he]
  · have hown' : ∀ x ∈ stepItems [a], x.owner + 1 = t := fun x hx =>
      hown x (by rw [hpc, Option.getD_some, stepItems_cons]; exact List.mem_append_left _ hx)
    rw [hpcs, hqu, projQ_append]
    by_cases htw : w + 1 = t
    · have : projQ w (stepItems [a]) = stepItems [a] :=
        List.filter_eq_self.mpr fun x hx => by have := hown' x hx; simp; omega
      subst htw
      rw [this, List.getElem?_set_self (List.getElem_of_getElem? hpc).1, hpc, Option.getD_some, Option.getD_some,
        stepItems_cons a rest, List.append_assoc]
    · have : projQ w (stepItems [a]) = [] :=
        List.filter_eq_nil_iff.mpr fun x hx => by have := hown' x hx; simp; omega
      rw [this, List.getElem?_set_ne (Ne.symm htw), List.append_nil]

theorem todoItems_pop {s s' : CSt} {x : Item} {q : List Item} (hq : s.base.queue = x :: q) (hq' : s'.base.queue = q)
    (hpc : s'.base.pcs = s.base.pcs) (w : Nat) :
    todoItems s w = (if x.owner = w then [x] else []) ++ todoItems s' w := by
  simp only [todoItems, wpc, hq, hq', hpc, projQ, List.filter_cons, beq_iff_eq]
  split <;> rfl

theorem todoItems_congr {s s' : CSt} {w : Nat} (hpc : s'.base.pcs[w + 1]? = s.base.pcs[w + 1]?)
    (hq : s'.base.queue = s.base.queue) : todoItems s' w = todoItems s w := by
  simp only [todoItems, wpc, hpc, hq]

theorem wpc_congr {s s' : CSt} {w : Nat} (hpc : s'.base.pcs[w + 1]? = s.base.pcs[w + 1]?) : wpc s' w = wpc s w := by
  simp only [wpc, hpc]

theorem progsFrom_length (i : SInput) : ∀ (ws : List Worker) (k : Nat), (progsFrom i k ws).length = ws.length
  | [], _ => rfl
  | _ :: ws, k => by simp [progsFrom, progsFrom_length i ws]

theorem progsFrom_getElem? (i : SInput) : ∀ (ws : List Worker) (k j : Nat),
    (progsFrom i k ws)[j]? = (ws[j]?).map (progOf i (k + j))
  | [], _, _ => rfl
  | w :: ws, k, 0 => rfl
  | w :: ws, k, j + 1 => by
      simp only [progsFrom, List.getElem?_cons_succ]
      rw [progsFrom_getElem? i ws (k + 1) j, Nat.add_right_comm, Nat.add_assoc]

theorem progs_getElem? (i : SInput) (w : Nat) : (progs i)[w]? = (i.workers[w]?).map (progOf i w) := by
  unfold progs; simpa using progsFrom_getElem? i i.workers 0 w

theorem items_suite (wi : Nat) (w : Worker) : stepItems (segSteps (suiteProg wi w).segs) = [.fin wi] := by
  unfold suiteProg
  dsimp only
  split <;> rw [segSteps_append, stepItems_append, stepItems_segSteps_secs] <;> rfl

theorem suiteProg_secs (wi : Nat) (w : Worker) :
    segSecs (suiteProg wi w).segs =
      (sectionsAbort w.faults {} (workerOps w)).1 ++
        (if (sectionsAbort w.faults {} (workerOps w)).2.2 || w.boom
         then (sectionsAbort w.faults (sectionsAbort w.faults {} (workerOps w)).2.1 brokenOps).1 else []) := by
  unfold suiteProg
  dsimp only
  split <;> simp [segSecs_append, segSecs_map_sec, segSecs]

theorem streamProg_segs (wi tb : Nat) (w : Worker) :
    (streamProg wi tb w).segs = (Item.startRun wi :: ((streamEvents wi tb w).map .status ++ [.stopRun wi])).map Seg.put := by
  simp [streamProg]

theorem items_stream (wi tb : Nat) (w : Worker) :
    stepItems (segSteps (streamProg wi tb w).segs) = .startRun wi :: ((streamEvents wi tb w).map .status ++ [.stopRun wi]) := by
  rw [streamProg_segs, stepItems_segSteps_puts]

theorem streamProg_secs (wi tb : Nat) (w : Worker) : segSecs (streamProg wi tb w).segs = [] := by
  have : ∀ l : List Item, segSecs (l.map Seg.put) = [] := fun l => by induction l <;> simp_all [segSecs]
  rw [streamProg_segs, this]

theorem testsEvents_id (wi : Nat) : ∀ (ts : List WTest) (j : Nat), ∀ e ∈ testsEvents wi j ts, ∃ n, e.id = .t n
  | [], _, e, h => by cases h
  | t :: ts, j, e, h => by
      rcases List.mem_append.mp h with h | h
      · unfold testEvents at h
        split at h
        · obtain ⟨ne, _, rfl⟩ := List.mem_map.mp h; exact ⟨_, rfl⟩
        · simp only [List.mem_cons, List.not_mem_nil, or_false] at h
          rcases h with rfl | rfl <;> exact ⟨_, rfl⟩
      · exact testsEvents_id wi ts (j + 1) e h

/-- the worker index enters a worker's events only as their `w`: under another index (the worker's route code, `Spec.C13.wEvents`) they
are the same events with that `w` (`streamEvents_setW`) -/
def setW (r : Nat) (e : SEv) : SEv := { e with w := r }

theorem testsEvents_setW (w r : Nat) : ∀ (ts : List WTest) (j : Nat), (testsEvents w j ts).map (setW r) = testsEvents r j ts
  | [], _ => rfl
  | t :: ts, j => by
      simp only [testsEvents, List.map_append, testsEvents_setW w r ts (j + 1)]
      congr 1
      unfold testEvents
      cases t.native with
      | none => rfl
      | some evs => simp [setW, nativeEvent, Function.comp_def]

theorem fileEvents_setW (w r : Nat) : ∀ n : Nat, (fileEvents w n).map (setW r) = fileEvents r n
  | 0 => rfl
  | 1 => rfl
  | n + 2 => by simp only [fileEvents, List.map_cons, fileEvents_setW w r (n + 1)]; rfl

theorem streamEvents_setW (w r tb : Nat) (wk : Worker) : (streamEvents w tb wk).map (setW r) = streamEvents r tb wk := by
  unfold streamEvents
  rw [List.map_append, testsEvents_setW]
  congr 1
  split
  · simp [brokenEvents, fileEvents_setW, setW, brokenFail]
  · rfl

theorem owner_of_map_setW {w : Nat} {l : List SEv} (h : l.map (setW w) = l) : ∀ e ∈ l, e.w = w := fun e he =>
  (congrArg SEv.w (List.map_inj_left.mp (h.trans (List.map_id l).symm) e he)).symm

theorem fileEvents_owner (wi n : Nat) : ∀ e ∈ fileEvents wi n, e.w = wi := owner_of_map_setW (fileEvents_setW wi wi n)

theorem streamEvents_owner (wi tb : Nat) (w : Worker) : ∀ e ∈ streamEvents wi tb w, e.w = wi :=
  owner_of_map_setW (streamEvents_setW wi wi tb w)

theorem items_good (i : SInput) (wi : Nat) (w : Worker) :
    GoodT (lastItem i wi) wi (stepItems (segSteps (progOf i wi w).segs)) := by
  cases hf : i.flavour with
  | suite =>
    simp only [progOf, lastItem, hf]
    rw [items_suite]
    exact ⟨Or.inr ⟨[], rfl, by simp⟩, by intro x hx; simp at hx; subst hx; rfl⟩
  | stream =>
    simp only [progOf, lastItem, hf]
    rw [items_stream]
    refine ⟨Or.inr ⟨.startRun wi :: (streamEvents wi i.tb w).map .status, by simp, ?_⟩, ?_⟩
    · intro y hy
      simp at hy
      rcases hy with rfl | ⟨e, _, rfl⟩ <;> rfl
    · intro x hx
      simp at hx
      rcases hx with rfl | ⟨e, he, rfl⟩ | rfl
      · rfl
      · exact streamEvents_owner wi i.tb w e he
      · rfl

theorem segs_lastIsPut (i : SInput) (wi : Nat) (w : Worker) :
    LastIsPut (segSteps (progOf i wi w).segs) ∧ segSteps (progOf i wi w).segs ≠ [] := by
  have : ∃ pre x, (progOf i wi w).segs = pre ++ [Seg.put x] := by
    unfold progOf
    split
    · unfold suiteProg; dsimp only; split <;> exact ⟨_, _, rfl⟩
    · exact ⟨.put (.startRun wi) :: (streamEvents wi i.tb w).map (fun e => Seg.put (.status e)), .stopRun wi, rfl⟩
  obtain ⟨pre, x, h⟩ := this
  rw [h, segSteps_append]
  exact ⟨Or.inr ⟨segSteps pre, x, rfl⟩, by simp [segSteps]⟩

theorem stopsRaise_faults (mf : List Nat) : ∀ (n k : Nat), stopsRaise mf k n = true → mf ≠ []
  | 0, _, h => by simp [stopsRaise] at h
  | n + 1, k, h => by
      simp only [stopsRaise, Bool.or_eq_true] at h
      rcases h with h | h
      · intro hc; subst hc; simp at h
      · exact stopsRaise_faults mf n (k + 1) h

theorem stopSections_all (mf : List Nat) : ∀ (n k : Nat), ∀ s ∈ stopSections mf k n, ∃ r, s = [(Call.ctl .stop, r)]
  | 0, _, s, h => by cases h
  | n + 1, k, s, h => by
      simp only [stopSections] at h
      split at h
      · exact ⟨true, List.mem_singleton.mp h⟩
      · rcases List.mem_cons.mp h with rfl | h
        · exact ⟨false, rfl⟩
        · exact stopSections_all mf n (k + 1) s h

/-- main is inside `while threads:` -/
def inLoop (s : CSt) : Prop := s.mpc = .get ∨ (∃ w, s.mpc = .join w) ∨ ∃ e, s.mpc = .fwd e

theorem inLoop.get {s : CSt} (h : s.mpc = .get) : inLoop s := Or.inl h
theorem inLoop.join {s : CSt} {w : Nat} (h : s.mpc = .join w) : inLoop s := Or.inr (Or.inl ⟨w, h⟩)
theorem inLoop.fwd {s : CSt} {e : SEv} (h : s.mpc = .fwd e) : inLoop s := Or.inr (Or.inr ⟨e, h⟩)

structure QInv (i : SInput) (s : CSt) : Prop where
  n_pcs : s.base.pcs.length = i.workers.length + 1
  nsp_le : s.nsp ≤ spawnCount i
  goodT : ∀ w, w < i.workers.length → GoodT (lastItem i w) w (todoItems s w)
  lastPut : ∀ w, w < i.workers.length → LastIsPut (wpc s w)
  -- a worker not yet started still has its final item to deliver: registering it makes `reg_iff` true of it
  unspawned : ∀ w, s.nsp ≤ w → w < i.workers.length → todoItems s w ≠ []
  -- at `spawn k` worker `k` does not count as started yet, but its `startTestRun` item, which main has put on its behalf
  -- (`announce k`), is in the queue
  qowner : ∀ x ∈ s.base.queue, x.owner < s.nsp ∨ s.mpc = .spawn x.owner
  -- main's own program, the `stop()` sections of its abort path, puts nothing
  main_noput : stepItems ((s.base.pcs[0]?).getD []) = []
  reg_iff : ∀ w, w ∈ s.reg ↔ (w < s.nsp ∧ todoItems s w ≠ [])
  reg_nodup : s.reg.Nodup
  joined_lt : ∀ w ∈ s.joined, w < s.nsp
  -- at `join w` main has taken `w`'s final item out of the queue; `w` enters `joined` only when `join()` returns
  joined_iff : ∀ w, w < s.nsp → ((w ∈ s.joined ∨ s.mpc = .join w) ↔ todoItems s w = [])
  mpc_spawn : ∀ k, s.mpc = .spawn k → k = s.nsp ∧ k < spawnCount i
  mpc_announce : ∀ k, s.mpc = .announce k → k = s.nsp ∧ k < spawnCount i
  mpc_get : s.mpc = .get → s.reg ≠ []
  mpc_join : ∀ w, s.mpc = .join w → w < s.nsp
  -- main enters its loop only after every sub-suite has been started
  mpc_loop : inLoop s → s.nsp = spawnCount i ∧ i.mkRaise = none

/-- `Spec.C13.causeOk`, which this file does not import -/
def causeOk (i : SInput) : Cause → Bool
  | .interrupt => i.intr.isSome
  | .makeTests => i.mkRaise.isSome
  | .injected => !i.mfaults.isEmpty

theorem spawnCount_le (i : SInput) : spawnCount i ≤ i.workers.length := by
  unfold spawnCount; split
  · exact Nat.min_le_right _ _
  · exact Nat.le_refl _

theorem QInv.nsp_lt {i : SInput} {s : CSt} (h : QInv i s) {w : Nat} (hw : w < s.nsp) : w < i.workers.length :=
  Nat.lt_of_lt_of_le hw (Nat.le_trans h.nsp_le (spawnCount_le i))

/-- the ways a transition of main ends, from the state `b` it has produced so far (`b.mpc` no longer matters).
`none`: main goes on - it parks before the next sub-suite, or at `queue.get()`, or `run()` returns.
`some c`: the `except:` clause with cause `c` - `run()` raises at once (stream: after setting the stop flags; suite: if
nobody is registered), or main enters its `stop()` sections (suite). -/
inductive Exit (i : SInput) (b : CSt) : Option Cause → CSt → Prop
  | park : b.nsp < spawnCount i → Exit i b none { b with mpc := parkPc i b.nsp }
  | get : b.reg ≠ [] → b.nsp = spawnCount i → i.mkRaise = none → Exit i b none { b with mpc := .get }
  | returned : b.reg = [] → b.nsp = spawnCount i → i.mkRaise = none → Exit i b none (finishMain b .returned)
  | flagged (c : Cause) : causeOk i c = true → i.flavour = .stream →
      Exit i b (some c) (finishMain { b with flags := setFlags b.flags b.reg } (.raised c))
  | raised (c : Cause) : causeOk i c = true → i.flavour = .suite → b.reg = [] → Exit i b (some c) (finishMain b (.raised c))
  | abort (c : Cause) : causeOk i c = true → i.flavour = .suite → b.reg ≠ [] →
      Exit i b (some c)
        { b with base := { b.base with pcs := b.base.pcs.set 0 (progSteps (stopSections i.mfaults 0 b.reg.length)) },
                 mpc := .abort, msecs := stopSections i.mfaults 0 b.reg.length,
                 pending := if stopsRaise i.mfaults 0 b.reg.length then .injected else c }

theorem loopHead_exit {i : SInput} {b : CSt} (hall : b.nsp = spawnCount i) (hmk : i.mkRaise = none) :
    Exit i b none (loopHead b) := by
  unfold loopHead
  split
  · exact .returned (List.isEmpty_iff.mp ‹_›) hall hmk
  · exact .get (fun hc => ‹¬ _› (List.isEmpty_iff.mpr hc)) hall hmk

theorem abortMain_exit {i : SInput} {b : CSt} {c : Cause} (hc : causeOk i c = true) : Exit i b (some c) (abortMain i b c) := by
  unfold abortMain
  split
  · exact .flagged c hc ‹_›
  · split
    · exact .raised c hc ‹_› (List.isEmpty_iff.mp ‹_›)
    · exact .abort c hc ‹_› (fun hr => ‹¬ _› (List.isEmpty_iff.mpr hr))

theorem nextSpawn_exit {i : SInput} {b : CSt} (hle : b.nsp ≤ spawnCount i) : ∃ κ, Exit i b κ (nextSpawn i b b.nsp) := by
  unfold nextSpawn
  split
  · exact ⟨_, .park ‹_›⟩
  · split
    · exact ⟨_, abortMain_exit ‹_›⟩
    · exact ⟨_, loopHead_exit (by omega) (Option.not_isSome_iff_eq_none.mp ‹_›)⟩

theorem parkPc_cases (i : SInput) (k : Nat) :
    (parkPc i k = .announce k ∧ i.flavour = .stream) ∨ (parkPc i k = .spawn k ∧ i.flavour = .suite) := by
  unfold parkPc; split
  · exact Or.inl ⟨rfl, ‹_›⟩
  · exact Or.inr ⟨rfl, ‹_›⟩

theorem stepC_of_not_enabled {i : SInput} {s : CSt} {t : Nat} (h : enabledC i s t = false) : stepC i s t = s := by
  unfold enabledC at h
  unfold stepC
  split
  · rw [if_pos ‹_›] at h; rw [h]; rfl
  · rw [if_neg ‹_›, Bool.and_eq_false_iff, decide_eq_false_iff_not] at h
    split
    · have he := h.resolve_left (not_not_intro ‹_›)
      -- a blocked or finished thread is not about to put, so the flags are untouched as well
      have hfl : flagsAfter s t = s.flags := by
        unfold enabled at he
        unfold flagsAfter
        split
        · rw [‹s.base.pcs[t]? = _›] at he; cases he
        · rfl
      rw [stepThread_of_not_enabled he, hfl]
    · rfl

/-- `QInv` is needed only to know which branch of `nextSpawn` / `loopHead` main takes (`mpc_spawn`, `mpc_announce`,
`mpc_loop`) and that a started worker exists (`nsp_lt`).  `announce` is the worker's first step (its `startTestRun` item), which main
takes on its behalf. -/
theorem stepC_cases {i : SInput} {s : CSt} (hq : QInv i s) (t : Nat)
    {P : CSt → Prop}
    (idle : enabledC i s t = false → P s)
    (worker : ∀ w, w < i.workers.length → w < s.nsp → enabled s.base (w + 1) = true →
      P { s with base := stepThread s.base (w + 1), flags := flagsAfter s (w + 1) })
    (announce : ∀ w, w < i.workers.length → s.mpc = .announce w →
      P { s with base := stepThread s.base (w + 1), flags := flagsAfter s (w + 1), mpc := .spawn w })
    (spawn : ∀ k κ s', s.mpc = .spawn k → Exit i { s with nsp := k + 1, reg := s.reg ++ [k] } κ s' → P s')
    (interrupt : ∀ s', s.mpc = .get → Exit i { s with ngets := s.ngets + 1 } (some .interrupt) s' → P s')
    (popLast : ∀ x q, s.mpc = .get → s.base.queue = x :: q → x.plain = false →
      P { s with base := { s.base with queue := q }, ngets := s.ngets + 1, reg := s.reg.erase x.owner, mpc := .join x.owner })
    (popStart : ∀ w q s', s.mpc = .get → s.base.queue = .startRun w :: q →
      Exit i { s with base := { s.base with queue := q }, ngets := s.ngets + 1 } none s' → P s')
    (popStatus : ∀ e q, s.mpc = .get → s.base.queue = .status e :: q →
      P { s with base := { s.base with queue := q }, ngets := s.ngets + 1, mpc := .fwd e })
    (join : ∀ w s', s.mpc = .join w → Exit i { s with joined := s.joined ++ [w] } none s' → P s')
    (fwd : ∀ e κ s', s.mpc = .fwd e → (κ = none → i.mfaults.contains s.nstatus = false) →
      Exit i { s with sink := s.sink ++ [(e, i.mfaults.contains s.nstatus)], nstatus := s.nstatus + 1 } κ s' → P s')
    (abortStep : s.mpc = .abort → enabled s.base 0 = true → ((stepThread s.base 0).pcs[0]?).getD [] ≠ [] →
      P { s with base := stepThread s.base 0 })
    (abortEnd : s.mpc = .abort → enabled s.base 0 = true → ((stepThread s.base 0).pcs[0]?).getD [] = [] →
      P (finishMain { s with base := stepThread s.base 0 } (.raised s.pending))) :
    P (stepC i s t) := by
  cases he : enabledC i s t with
  | false => rw [stepC_of_not_enabled he]; exact idle he
  | true =>
    unfold enabledC at he
    unfold stepC
    cases t with
    | succ w =>
      rw [if_neg (Nat.succ_ne_zero w), Bool.and_eq_true, decide_eq_true_eq] at he
      rw [if_neg (Nat.succ_ne_zero w), if_pos he.1]
      exact worker w (hq.nsp_lt he.1) he.1 he.2
    | zero =>
      rw [if_pos rfl] at he
      rw [if_pos rfl, if_pos he]
      unfold mainEnabled at he
      unfold stepMain
      split
      · rename_i k hk
        exact announce k (Nat.lt_of_lt_of_le (hq.mpc_announce k hk).2 (spawnCount_le i)) hk
      · rename_i k hk
        obtain ⟨hk1, hk2⟩ := hq.mpc_spawn k hk
        obtain ⟨κ, hex⟩ := nextSpawn_exit (i := i) (b := { s with nsp := k + 1, reg := s.reg ++ [k] }) hk2
        exact spawn k κ _ hk hex
      · rename_i hg
        have hl := hq.mpc_loop (.get hg)
        split
        · rename_i hi
          exact interrupt _ hg (abortMain_exit (by show i.intr.isSome = true; rw [beq_iff_eq.mp hi]; rfl))
        · rename_i hi
          split
          · rename_i hemp
            rw [hg, hemp] at he
            simp [hi] at he
          · rename_i x q hqq
            split
            · exact popLast (.fin _) q hg hqq rfl
            · exact popLast (.stopRun _) q hg hqq rfl
            · exact popStart _ q _ hg hqq (loopHead_exit hl.1 hl.2)
            · exact popStatus _ q hg hqq
      · rename_i w hw
        rw [hw] at he
        rw [if_pos he]
        have hl := hq.mpc_loop (.join hw)
        exact join w _ hw (loopHead_exit hl.1 hl.2)
      · rename_i e hfw
        have hl := hq.mpc_loop (.fwd hfw)
        dsimp only
        split
        · rename_i hf
          refine fwd e _ _ hfw (fun hc => by cases hc) (abortMain_exit ?_)
          show (!i.mfaults.isEmpty) = true
          cases hm : i.mfaults with
          | nil => rw [hm] at hf; cases hf
          | cons _ _ => rfl
        · rename_i hf
          exact fwd e _ _ hfw (fun _ => Bool.not_eq_true _ ▸ hf) (loopHead_exit hl.1 hl.2)
      · rename_i ha
        rw [ha] at he
        dsimp only
        split
        · rename_i hemp; exact abortEnd ha he (List.isEmpty_iff.mp hemp)
        · rename_i hemp; exact abortStep ha he (fun hc => hemp (List.isEmpty_iff.mpr hc))
      · rename_i hd; rw [hd] at he; cases he

theorem QInv.congr {i : SInput} {s s' : CSt} (h : QInv i s) (h0 : stepItems ((s'.base.pcs[0]?).getD []) = [])
    (hlen : s'.base.pcs.length = s.base.pcs.length := by rfl)
    (hpc : ∀ w, s'.base.pcs[w + 1]? = s.base.pcs[w + 1]? := by exact fun _ => rfl) (hq : s'.base.queue = s.base.queue := by rfl)
    (hnsp : s'.nsp = s.nsp := by rfl) (hreg : s'.reg = s.reg := by rfl) (hj : s'.joined = s.joined := by rfl)
    (hm : s'.mpc = s.mpc := by rfl) : QInv i s' := by
  have ht : ∀ w, todoItems s' w = todoItems s w := fun w => todoItems_congr (hpc w) hq
  have hw : ∀ w, wpc s' w = wpc s w := fun w => wpc_congr (hpc w)
  -- `main_noput` is the one field given anew (`h0`); the others are `h`'s, rewritten
  cases h
  constructor <;> first | exact h0 | (simp only [inLoop, hlen, hq, hnsp, hreg, hj, hm, ht, hw]; assumption)

/-- main moves from one place to another, neither of them `join` (which stands for a worker's final item being taken) nor, before
the move, `spawn` (which stands for the items main has put on an unstarted worker's behalf) -/
theorem QInv.park {i : SInput} {s : CSt} (h : QInv i s) (m : MainPc) (hj : ∀ w, s.mpc ≠ .join w) (hs : ∀ w, s.mpc ≠ .spawn w)
    (hsp : ∀ k, m = .spawn k → k = s.nsp ∧ k < spawnCount i := by simp)
    (han : ∀ k, m = .announce k → k = s.nsp ∧ k < spawnCount i := by simp) (hget : m = .get → s.reg ≠ [] := by simp)
    (hjoin : ∀ w, m ≠ .join w := by simp)
    (hloop : inLoop { s with mpc := m } → s.nsp = spawnCount i ∧ i.mkRaise = none := by simp [inLoop]) : QInv i { s with mpc := m } :=
  { h with
    qowner := fun x hx => Or.inl ((h.qowner x hx).resolve_right (hs _))
    joined_iff := fun w hw => ⟨fun hc => (h.joined_iff w hw).mp (Or.inl (hc.resolve_right (hjoin w))),
      fun ht => Or.inl (((h.joined_iff w hw).mpr ht).resolve_right (hj w))⟩
    mpc_spawn := hsp, mpc_announce := han, mpc_get := hget, mpc_join := fun w hw => absurd hw (hjoin w), mpc_loop := hloop }

/-- `h`: of `b` with main at no place.  `.done` stands for "between two places": there the `mpc_*` fields ask nothing and `qowner`,
`joined_iff` make no exception for a worker, so this is what the bookkeeping of a transition has to establish -/
theorem QInv_exit {i : SInput} {b s' : CSt} {κ : Option Cause} (hex : Exit i b κ s') (h : QInv i { b with mpc := .done }) :
    QInv i s' := by
  cases hex with
  | park hlt =>
    rcases parkPc_cases i b.nsp with ⟨hp, _⟩ | ⟨hp, _⟩ <;> rw [hp]
    · exact h.park _ (by simp) (by simp) (han := fun k hk => by cases hk; exact ⟨rfl, hlt⟩)
    · exact h.park _ (by simp) (by simp) (hsp := fun k hk => by cases hk; exact ⟨rfl, hlt⟩)
  | get hreg hall hmk => exact h.park .get (by simp) (by simp) (hget := fun _ => hreg) (hloop := fun _ => ⟨hall, hmk⟩)
  | returned | flagged | raised => exact h.congr h.main_noput
  | abort =>
    have hlt : 0 < b.base.pcs.length := h.n_pcs ▸ Nat.succ_pos _
    exact (h.park .abort (by simp) (by simp)).congr (by simp [hlt, stepItems_progSteps]) (by simp) (fun w => by simp)

theorem QInv_register {i : SInput} {s : CSt} (h : QInv i s) {k : Nat} (hk : s.mpc = .spawn k) :
    QInv i { s with nsp := k + 1, reg := s.reg ++ [k], mpc := .done } := by
  obtain ⟨hk1, hk2⟩ := h.mpc_spawn k hk
  subst hk1
  have hT : todoItems s s.nsp ≠ [] := h.unspawned _ (Nat.le_refl _) (Nat.lt_of_lt_of_le hk2 (spawnCount_le i))
  have hknot : s.nsp ∉ s.reg := fun hc => Nat.lt_irrefl _ ((h.reg_iff _).mp hc).1
  have hjn : ∀ w, s.mpc ≠ .join w := by simp [hk]
  refine { h with
    nsp_le := hk2, unspawned := fun w h1 h2 => h.unspawned w (Nat.le_of_succ_le h1) h2, qowner := ?_, reg_iff := ?_, reg_nodup := ?_,
    joined_lt := ?_, joined_iff := ?_, mpc_spawn := by simp, mpc_announce := by simp, mpc_get := by simp, mpc_join := by simp,
    mpc_loop := by simp [inLoop] }
  · intro x hx
    rcases h.qowner x hx with h1 | h1
    · exact Or.inl (Nat.lt_succ_of_lt h1)
    · rw [hk] at h1; exact Or.inl (MainPc.spawn.inj h1 ▸ Nat.lt_succ_self _)
  · intro w
    rw [List.mem_append, List.mem_singleton, h.reg_iff, Nat.lt_succ_iff_lt_or_eq]
    constructor
    · rintro (hw | rfl)
      · exact ⟨Or.inl hw.1, hw.2⟩
      · exact ⟨Or.inr rfl, hT⟩
    · rintro ⟨hw1 | rfl, hw2⟩
      · exact Or.inl ⟨hw1, hw2⟩
      · exact Or.inr rfl
  · exact List.nodup_append.mpr ⟨h.reg_nodup, by simp, fun a ha b hb => by
      rw [List.mem_singleton.mp hb]; exact fun hc => hknot (hc ▸ ha)⟩
  · exact fun w hw => Nat.lt_succ_of_lt (h.joined_lt w hw)
  · intro w hw
    rcases Nat.lt_succ_iff_lt_or_eq.mp hw with hw | rfl
    · have := h.joined_iff w hw
      show (w ∈ s.joined ∨ MainPc.done = .join w) ↔ todoItems s w = []
      simpa [hjn w] using this
    · exact ⟨fun hj => absurd (h.joined_lt _ (hj.resolve_right (by simp))) (Nat.lt_irrefl _), fun hc => absurd hc hT⟩

theorem QInv.counters {i : SInput} {s : CSt} (h : QInv i s) (a b : Nat) (sk : List (SEv × Bool)) :
    QInv i { s with ngets := a, nstatus := b, sink := sk } :=
  h.congr h.main_noput

theorem QInv_pop {i : SInput} {s : CSt} {x : Item} {q : List Item} (h : QInv i s) (hq : s.base.queue = x :: q)
    (hmpc : s.mpc = .get) (ng : Nat) :
    (x.plain = true → QInv i { s with base := { s.base with queue := q }, ngets := ng, mpc := .done })
    ∧ (x.plain = false →
        QInv i { s with base := { s.base with queue := q }, ngets := ng, reg := s.reg.erase x.owner, mpc := .join x.owner }) := by
  have hqo : ∀ y ∈ s.base.queue, y.owner < s.nsp := fun y hy => (h.qowner y hy).resolve_right (by simp [hmpc])
  have hw0 : x.owner < s.nsp := hqo x (by rw [hq]; exact List.mem_cons_self)
  have hqo' : ∀ m : MainPc, ∀ y ∈ q, y.owner < s.nsp ∨ m = .spawn y.owner :=
    fun _ y hy => Or.inl (hqo y (by rw [hq]; exact List.mem_cons_of_mem _ hy))
  let s1 : CSt := { s with base := { s.base with queue := q } }
  have hT : ∀ w, todoItems s w = (if x.owner = w then [x] else []) ++ todoItems s1 w := todoItems_pop hq rfl rfl
  have hgx : GoodT (lastItem i x.owner) x.owner (x :: todoItems s1 x.owner) := by
    have := h.goodT _ (h.nsp_lt hw0); rwa [hT, if_pos rfl] at this
  have hgood : ∀ w, w < i.workers.length → GoodT (lastItem i w) w (todoItems s1 w) := by
    intro w hw
    by_cases hwx : x.owner = w
    · subst hwx; exact hgx.uncons.1
    · have := h.goodT w hw; rwa [hT, if_neg hwx] at this
  have hnil : ∀ w, todoItems s1 w = [] ↔ todoItems s w = [] ∨ (x.owner = w ∧ x.plain = false) := by
    intro w
    rw [hT]
    by_cases hwx : x.owner = w
    · subst hwx
      rcases hgx.uncons.2 with ⟨hl, he⟩ | ⟨hp, hne⟩
      · simp [he, show x.plain = false by rw [hl]; exact lastItem_not_plain i _]
      · simp [hne, hp]
    · simp [hwx]
  have hj : ∀ w, w < s.nsp → (w ∈ s.joined ↔ todoItems s w = []) := fun w hw => by simpa [hmpc] using h.joined_iff w hw
  constructor
  · intro hpl
    have hnil' : ∀ w, todoItems s1 w = [] ↔ todoItems s w = [] := fun w => by simp [hnil, hpl]
    exact { h with
      goodT := hgood, unspawned := fun w h1 h2 => mt (hnil' w).mp (h.unspawned w h1 h2), qowner := hqo' _
      reg_iff := fun w => (h.reg_iff w).trans (and_congr_right fun _ => not_congr (hnil' w).symm)
      joined_iff := fun w hw => (or_iff_left (by simp)).trans ((hj w hw).trans (hnil' w).symm)
      mpc_spawn := by simp, mpc_announce := by simp, mpc_get := by simp, mpc_join := by simp, mpc_loop := by simp [inLoop] }
  · intro hpl
    have hnil' : ∀ w, todoItems s1 w = [] ↔ todoItems s w = [] ∨ x.owner = w := fun w => by simp [hnil, hpl]
    refine { h with
      goodT := hgood, unspawned := fun w h1 h2 hc => ?_, qowner := hqo' _, reg_iff := fun w => ?_, reg_nodup := h.reg_nodup.erase _
      joined_iff := fun w hw => ?_, mpc_spawn := by simp, mpc_announce := by simp, mpc_get := by simp
      mpc_join := fun w hw => by cases hw; exact hw0, mpc_loop := fun _ => h.mpc_loop (.get hmpc) }
    · rcases (hnil' w).mp hc with hc | rfl
      · exact h.unspawned w h1 h2 hc
      · exact Nat.lt_irrefl _ (Nat.lt_of_lt_of_le hw0 h1)
    · show w ∈ s.reg.erase x.owner ↔ w < s.nsp ∧ todoItems s1 w ≠ []
      simp only [h.reg_nodup.mem_erase_iff, h.reg_iff, ne_eq, hnil', not_or]
      exact ⟨fun ⟨a, b, c⟩ => ⟨b, c, fun e => a e.symm⟩, fun ⟨b, c, a⟩ => ⟨fun e => a e.symm, b, c⟩⟩
    · show (w ∈ s.joined ∨ MainPc.join x.owner = .join w) ↔ todoItems s1 w = []
      rw [hj w hw, hnil']
      simp

theorem QInv_join {i : SInput} {s : CSt} (h : QInv i s) {w : Nat} (hw : s.mpc = .join w) :
    QInv i { s with joined := s.joined ++ [w], mpc := .done } := by
  refine { h with
    qowner := fun x hx => Or.inl ((h.qowner x hx).resolve_right (by simp [hw])), joined_lt := ?_, joined_iff := ?_
    mpc_spawn := by simp, mpc_announce := by simp, mpc_get := by simp, mpc_join := by simp, mpc_loop := by simp [inLoop] }
  · intro w' hw'
    rcases List.mem_append.mp hw' with h1 | h1
    · exact h.joined_lt w' h1
    · rw [List.mem_singleton.mp h1]; exact h.mpc_join _ hw
  · intro w' hw'
    show (w' ∈ s.joined ++ [w] ∨ MainPc.done = .join w') ↔ todoItems s w' = []
    rw [← h.joined_iff w' hw', hw]
    simp [eq_comm]

theorem QInv.put_owner {i : SInput} {s : CSt} (h : QInv i s) (t : Nat) :
    ∀ x ∈ stepItems ((s.base.pcs[t]?).getD []), x.owner + 1 = t := by
  intro x hx
  cases t with
  | zero => rw [h.main_noput] at hx; cases hx
  | succ w =>
    by_cases hw : w < i.workers.length
    · rw [(h.goodT w hw).2 x (List.mem_append_right _ hx)]
    · rw [List.getElem?_eq_none (by rw [h.n_pcs]; omega)] at hx; cases hx

/-- `t` is main (inside its abort path) or a worker whose items may be in the queue: a
started one, or the one main is about to start (`spawn`), whose `startTestRun` item main puts on its behalf. -/
theorem QInv_thread {i : SInput} {s : CSt} (h : QInv i s) (t : Nat) (fl : List Bool)
    (hl : ∀ w, t = w + 1 → w < s.nsp ∨ s.mpc = .spawn w) : QInv i { s with base := stepThread s.base t, flags := fl } := by
  have hT : ∀ w, todoItems { s with base := stepThread s.base t, flags := fl } w = todoItems s w :=
    todoItems_step rfl (h.put_owner t)
  refine { h with
    n_pcs := by rw [← h.n_pcs]; exact stepThread_pcs_length _ _, goodT := fun w hw => by rw [hT]; exact h.goodT w hw, lastPut := ?_
    unspawned := fun w h1 h2 => by rw [hT]; exact h.unspawned w h1 h2, qowner := ?_, main_noput := ?_
    reg_iff := fun w => by rw [hT]; exact h.reg_iff w, joined_iff := fun w hw => by rw [hT]; exact h.joined_iff w hw }
  · intro w hw
    rcases stepThread_pc s.base t (w + 1) with he | ⟨_, a, he⟩
    · exact (congrArg LastIsPut he).mpr (h.lastPut w hw)
    · exact LastIsPut_tail ((congrArg LastIsPut he).mp (h.lastPut w hw))
  · intro x hx
    rcases stepThread_queue s.base t x hx with hx' | hx'
    · exact h.qowner x hx'
    · exact hl _ (h.put_owner t x hx').symm
  · rcases stepThread_pc s.base t 0 with he | ⟨_, a, he⟩
    · exact he ▸ h.main_noput
    · have := h.main_noput
      rw [he, stepItems_cons] at this
      exact (List.append_eq_nil_iff.mp this).2

theorem QInv_stepC {i : SInput} {s : CSt} (h : QInv i s) (t : Nat) : QInv i (stepC i s t) :=
  stepC_cases h t (idle := fun _ => h)
    (worker := fun w _ hlt _ => QInv_thread h (w + 1) _ fun w' hw' => by cases hw'; exact Or.inl hlt)
    -- main moves to `spawn w` first: from there worker `w` counts as one whose items may be in the queue
    (announce := fun w _ hk =>
      QInv_thread (h.park (.spawn w) (by simp [hk]) (by simp [hk]) (hsp := fun k hk' => by cases hk'; exact h.mpc_announce w hk))
        (w + 1) _ fun w' hw' => by cases hw'; exact Or.inr rfl)
    (spawn := fun _ _ _ hk hex => QInv_exit hex (QInv_register h hk))
    (interrupt := fun _ hg hex => QInv_exit hex ((h.counters _ _ _).park .done (by simp [hg]) (by simp [hg])))
    (popLast := fun _ _ hg hq hx => (QInv_pop h hq hg _).2 hx)
    (popStart := fun _ _ _ hg hq hex => QInv_exit hex ((QInv_pop h hq hg _).1 rfl))
    (popStatus := fun e q hg hq =>
      ((QInv_pop h hq hg (s.ngets + 1)).1 rfl).park (.fwd e) (by simp) (by simp) (hloop := fun _ => h.mpc_loop (.get hg)))
    (join := fun _ _ hw hex => QInv_exit hex (QInv_join h hw))
    (fwd := fun _ _ _ hf _ hex => QInv_exit hex ((h.counters _ _ _).park .done (by simp [hf]) (by simp [hf])))
    (abortStep := fun _ _ _ => QInv_thread h 0 _ fun _ hw => by cases hw)
    (abortEnd := fun ha _ _ =>
      have h' := QInv_thread h 0 s.flags fun _ hw => by cases hw
      (h'.park .done (by simp [ha]) (by simp [ha])).congr h'.main_noput)

/-- the state in which the `for` loop asks `make_tests` for its first sub-suite: `initC i` is `nextSpawn i (preC i) 0` by definition -/
def preC (i : SInput) : CSt :=
  { base := { pcs := [] :: (progs i).map fun p => segSteps p.segs }, flags := i.workers.map fun _ => false, mpc := .done }

theorem initC_exit (i : SInput) : ∃ κ, Exit i (preC i) κ (initC i) := nextSpawn_exit (Nat.zero_le _)

theorem wpc_pre (i : SInput) {w : Nat} (hw : w < i.workers.length) : wpc (preC i) w = segSteps (progOf i w i.workers[w]).segs := by
  simp [wpc, preC, progs_getElem?, hw]

theorem todoItems_pre (i : SInput) {w : Nat} (hw : w < i.workers.length) :
    todoItems (preC i) w = stepItems (segSteps (progOf i w i.workers[w]).segs) := by
  rw [todoItems, wpc_pre i hw]; rfl

theorem QInv_init (i : SInput) : QInv i (initC i) := by
  obtain ⟨κ, hex⟩ := initC_exit i
  refine QInv_exit hex (?_ : QInv i (preC i))
  refine {
    n_pcs := by simp [preC, progs, progsFrom_length], nsp_le := Nat.zero_le _, goodT := ?_, lastPut := ?_, unspawned := ?_
    qowner := fun x hx => (by cases hx), main_noput := rfl, reg_iff := ?_, reg_nodup := List.nodup_nil
    joined_lt := fun w hw => (by cases hw), joined_iff := fun w hw => absurd hw (Nat.not_lt_zero _), mpc_spawn := by simp [preC]
    mpc_announce := by simp [preC], mpc_get := by simp [preC], mpc_join := by simp [preC], mpc_loop := by simp [preC, inLoop] }
  · intro w hw; rw [todoItems_pre i hw]; exact items_good i w _
  · intro w hw; rw [wpc_pre i hw]; exact (segs_lastIsPut i w _).1
  · intro w _ hw; rw [todoItems_pre i hw]; exact stepItems_ne_nil (segs_lastIsPut i w _).1 (segs_lastIsPut i w _).2
  · intro w; exact ⟨fun hw => (by cases hw), fun hw => absurd hw.1 (Nat.not_lt_zero _)⟩

theorem workerDone_iff {s : CSt} {w : Nat} : workerDone s w = true ↔ s.base.pcs[w + 1]? = some [] := beq_iff_eq

theorem QInv.wpc_nil_iff {i : SInput} {s : CSt} (h : QInv i s) {w : Nat} (hw : w < i.workers.length) :
    wpc s w = [] ↔ workerDone s w = true := by
  have hlt : w + 1 < s.base.pcs.length := by rw [h.n_pcs]; omega
  rw [workerDone_iff, wpc, List.getElem?_eq_getElem hlt]
  simp

theorem workerDone_of_todo_nil {i : SInput} {s : CSt} (hq : QInv i s) {w : Nat} (hw : w < s.nsp)
    (ht : todoItems s w = []) : workerDone s w = true :=
  (hq.wpc_nil_iff (hq.nsp_lt hw)).mp <| Decidable.by_contra fun hc =>
    stepItems_ne_nil (hq.lastPut w (hq.nsp_lt hw)) hc (List.append_eq_nil_iff.mp ht).2

theorem QInv.todo_nil {i : SInput} {s : CSt} (h : QInv i s) (hr : s.reg = []) {w : Nat} (hw : w < s.nsp) : todoItems s w = [] :=
  Decidable.by_contra fun hc => by
    have := (h.reg_iff w).mpr ⟨hw, hc⟩
    rw [hr] at this; cases this

theorem unfinished_nil_of_reg_nil {i : SInput} {s : CSt} (hq : QInv i s) (hr : s.reg = []) : unfinished s = [] := by
  unfold unfinished
  rw [List.filter_eq_nil_iff]
  intro w hw
  have hw := List.mem_range.mp hw
  simp [workerDone_of_todo_nil hq hw (hq.todo_nil hr hw)]

/-- main's sections are the `stop()` sections of its abort path -/
def secsC (i : SInput) (ms : List Section) : Nat → List Section
  | 0 => ms
  | w + 1 => match i.workers[w]? with
    | some wk => segSecs (progOf i w wk).segs
    | none => []

theorem secsC_succ (i : SInput) (ms : List Section) {w : Nat} (hw : w < i.workers.length) :
    secsC i ms (w + 1) = segSecs (progOf i w i.workers[w]).segs := by
  simp [secsC, hw]

theorem secsC_suite {i : SInput} (hf : i.flavour = .suite) (ms : List Section) {w : Nat} (hw : w < i.workers.length) :
    secsC i ms (w + 1) = segSecs (suiteProg w i.workers[w]).segs := by
  simp only [secsC_succ i ms hw, progOf, hf]

/-- thread `t` may have taken steps: main, a started worker, or the worker `w` while main stands at `spawn w` - main has put that
worker's `startTestRun` item on its behalf (`announce`), a step of its thread, before `nsp` counts it as started.  (`t - 1` is
truncated: at `t = 0` the last two disjuncts speak of worker 0, which does no harm beside the first.) -/
def LiveT (nsp : Nat) (m : MainPc) (t : Nat) : Prop := t = 0 ∨ t - 1 < nsp ∨ m = .spawn (t - 1)

theorem LiveT.mono {n n' : Nat} {m m' : MainPc} {t : Nat} (hn : n ≤ n') (hsp : ∀ w, m = .spawn w → w < n' ∨ m' = .spawn w) :
    LiveT n m t → LiveT n' m' t :=
  Or.imp_right fun h => h.elim (fun h1 => Or.inl (Nat.lt_of_lt_of_le h1 hn)) (hsp _)

/-- `Inv` for the embedded state (thread 0 is main, whose sections are `msecs`; thread `w + 1` is worker `w`), tied to main's place: only
live threads hold the semaphore or have sections in the log, and main has steps of its own exactly inside its abort path -/
structure BInv (i : SInput) (s : CSt) (closed : List (Nat × Section)) (cur todo : Section) (rem : Nat → List Seg) : Prop where
  inv : Inv (i.workers.length + 1) (secsC i s.msecs) s.base closed cur todo rem
  holder : ∀ h, s.base.sem = some h → LiveT s.nsp s.mpc h
  owners_live : ∀ p ∈ closed, LiveT s.nsp s.mpc p.1
  main_idle : s.mpc ≠ .abort → s.base.pcs[0]? = some []
  msecs_nil : s.mpc ≠ .abort → s.mpc ≠ .done → s.msecs = []
  abort_busy : s.mpc = .abort → (s.base.pcs[0]?).getD [] ≠ []

def BI (i : SInput) (s : CSt) : Prop := ∃ c cu t r, BInv i s c cu t r

theorem BI.main_idle {i : SInput} {s : CSt} (h : BI i s) (hm : s.mpc ≠ .abort) : s.base.pcs[0]? = some [] := by
  obtain ⟨_, _, _, _, h⟩ := h; exact h.main_idle hm

theorem BI.transfer {i : SInput} {s s' : CSt} (h : BI i s) (hm : s.mpc ≠ .abort) (hd : s.mpc ≠ .done)
    (hnsp : s.nsp ≤ s'.nsp) (hsp : ∀ w, s.mpc = .spawn w → w < s'.nsp ∨ s'.mpc = .spawn w)
    (hms : s'.msecs = s.msecs := by rfl) (hsem : s'.base.sem = s.base.sem := by rfl) (hpcs : s'.base.pcs = s.base.pcs := by rfl)
    (hlog : s'.base.log = s.base.log := by rfl) (hv : s'.base.semv = s.base.semv := by rfl)
    (hl : s'.base.semLog = s.base.semLog := by rfl) (hm' : s'.mpc ≠ .abort := by simp) : BI i s' := by
  obtain ⟨c, cu, t, r, h⟩ := h
  exact ⟨c, cu, t, r, hms ▸ h.inv.congr hsem hpcs hlog hv hl, fun k hk => (h.holder k (hsem ▸ hk)).mono hnsp hsp,
    fun p hp => (h.owners_live p hp).mono hnsp hsp, fun _ => hpcs ▸ h.main_idle hm, fun _ _ => hms ▸ h.msecs_nil hm hd,
    fun hc => absurd hc hm'⟩

/-- `b` is `s` after main's bookkeeping: the embedded state and `msecs` as in `s` (the `rfl` conditions) -/
theorem BI_exit {i : SInput} {s b s' : CSt} {κ : Option Cause} (hex : Exit i b κ s') (h : BI i s) (hm : s.mpc ≠ .abort)
    (hd : s.mpc ≠ .done) (hnsp : s.nsp ≤ b.nsp) (hsp : ∀ w, s.mpc = .spawn w → w < b.nsp)
    (hms : b.msecs = s.msecs := by rfl) (hsem : b.base.sem = s.base.sem := by rfl) (hpcs : b.base.pcs = s.base.pcs := by rfl)
    (hlog : b.base.log = s.base.log := by rfl) (hv : b.base.semv = s.base.semv := by rfl)
    (hl : b.base.semLog = s.base.semLog := by rfl) : BI i s' := by
  -- main parked at `get`: every live thread is main or a started worker
  have hb : BI i { b with mpc := .get } :=
    h.transfer hm hd hnsp (fun w hw => Or.inl (hsp w hw)) hms hsem hpcs hlog hv hl
  cases hex with
  | park =>
    refine hb.transfer (by simp) (by simp) (Nat.le_refl _) (by simp) (hm' := ?_)
    rcases parkPc_cases i b.nsp with ⟨hp, _⟩ | ⟨hp, _⟩ <;> simp [hp]
  | get => exact hb
  | returned | flagged | raised => exact hb.transfer (by simp) (by simp) (Nat.le_refl _) (by simp)
  | abort c _ _ hne =>
    -- main, idle so far, is given the program of its `stop()` sections
    obtain ⟨cl, cu, t, r, hb⟩ := hb
    have hinv := Inv.extend (hb.msecs_nil (by simp) (by simp) ▸ hb.inv) 0 rfl (hb.main_idle (by simp))
      (stopSections i.mfaults 0 b.reg.length)
    have hsecs : ∀ p, (fun t => if t = 0 then p else secsC i [] t) = secsC i p :=
      fun p => funext fun t => by cases t <;> simp [secsC]
    rw [hsecs] at hinv
    have hlive : ∀ k, LiveT b.nsp .get k → LiveT b.nsp .abort k := fun k hk => hk.mono (Nat.le_refl _) (by simp)
    refine ⟨cl, cu, t, _, hinv, fun k hk => hlive k (hb.holder k hk), fun p hp => hlive _ (hb.owners_live p hp), absurd rfl, absurd rfl,
      fun _ => ?_⟩
    have hlt : 0 < b.base.pcs.length := hb.inv.len ▸ Nat.succ_pos _
    obtain ⟨m, hm'⟩ := Nat.exists_eq_succ_of_ne_zero (fun hc => hne (List.length_eq_zero_iff.mp hc))
    simp only [List.getElem?_set_self hlt, Option.getD_some, hm', stopSections]
    split <;> simp [progSteps, secSteps]

/-- the part of the invariant that a step of the embedded M-Conc state re-establishes by itself.  `L` is "live" in the state after
the step: as before it (`BI_thread`), or with the next place of main left open (`BI_abortStep`). -/
theorem BInv_baseStep {i : SInput} {s : CSt} {c cu td r} (h : BInv i s c cu td r) (t : Nat) (L : Nat → Prop)
    (hold : ∀ k, LiveT s.nsp s.mpc k → L k) (ht : L t) :
    ∃ c' cu' td' r', Inv (i.workers.length + 1) (secsC i s.msecs) (stepThread s.base t) c' cu' td' r'
      ∧ (∀ k, (stepThread s.base t).sem = some k → L k)
      ∧ (∀ p ∈ c', L p.1) := by
  obtain ⟨c', cu', td', r', hinv, hcl⟩ := step_preserves_closed t h.inv
  refine ⟨c', cu', td', r', hinv, ?_, ?_⟩
  · intro k hk
    rcases stepThread_sem s.base t k hk with h1 | h1
    · exact hold k (h.holder k h1)
    · subst h1; exact ht
  · intro p hp
    rcases hcl with rfl | rfl
    · exact hold _ (h.owners_live p hp)
    · rcases List.mem_append.mp hp with hp | hp
      · exact hold _ (h.owners_live p hp)
      · rw [List.mem_singleton.mp hp]; exact ht

theorem BI_thread {i : SInput} {s : CSt} (h : BI i s) (w : Nat) (fl : List Bool) (hl : w < s.nsp ∨ s.mpc = .spawn w) :
    BI i { s with base := stepThread s.base (w + 1), flags := fl } := by
  obtain ⟨c, cu, td, r, h⟩ := h
  obtain ⟨c', cu', td', r', hinv, hh, ho⟩ := BInv_baseStep h (w + 1) (LiveT s.nsp s.mpc) (fun _ hk => hk) (Or.inr hl)
  have hpc0 : (stepThread s.base (w + 1)).pcs[0]? = s.base.pcs[0]? := stepThread_pcs_other s.base (Nat.succ_ne_zero w).symm
  exact ⟨c', cu', td', r', hinv, hh, ho, fun hc => hpc0 ▸ h.main_idle hc, h.msecs_nil,
    fun hc => (congrArg (·.getD []) hpc0) ▸ h.abort_busy hc⟩

theorem BI_abortStep {i : SInput} {s : CSt} (h : BI i s) (ha : s.mpc = .abort) :
    (((stepThread s.base 0).pcs[0]?).getD [] ≠ [] → BI i { s with base := stepThread s.base 0 }) ∧
    (((stepThread s.base 0).pcs[0]?).getD [] = [] → ∀ r, BI i (finishMain { s with base := stepThread s.base 0 } r)) := by
  obtain ⟨c, cu, td, rm, h⟩ := h
  obtain ⟨c', cu', td', r', hinv, hh, ho⟩ := BInv_baseStep h 0 (fun k => ∀ m, LiveT s.nsp m k)
    (fun k hk m => hk.mono (Nat.le_refl _) (by simp [ha])) (fun m => Or.inl rfl)
  refine ⟨fun hne => ⟨c', cu', td', r', hinv, fun k hk => hh k hk _, fun p hp => ho p hp _, fun hc => absurd ha hc, h.msecs_nil,
    fun _ => hne⟩, fun hemp r => ⟨c', cu', td', r', hinv, fun k hk => hh k hk _, fun p hp => ho p hp _, fun _ => ?_, by simp, by simp⟩⟩
  have hlen : 0 < (stepThread s.base 0).pcs.length := by rw [hinv.len]; exact Nat.succ_pos _
  show (stepThread s.base 0).pcs[0]? = some []
  rw [List.getElem?_eq_getElem hlen] at hemp ⊢
  exact congrArg some hemp

theorem BI_stepC {i : SInput} {s : CSt} (h : BI i s) (hq : QInv i s) (t : Nat) : BI i (stepC i s t) :=
  stepC_cases hq t (idle := fun _ => h)
    (worker := fun w _ hlt _ => BI_thread h w _ (Or.inl hlt))
    (announce := fun w _ hk =>
      BI_thread (h.transfer (s' := { s with mpc := .spawn w }) (by simp [hk]) (by simp [hk]) (Nat.le_refl _) (by simp [hk])) w _
        (Or.inr rfl))
    (spawn := fun k _ _ hk hex => BI_exit hex h (by simp [hk]) (by simp [hk]) (by rw [(hq.mpc_spawn k hk).1]; exact Nat.le_succ _)
      (fun w hw => by rw [hk] at hw; exact MainPc.spawn.inj hw ▸ Nat.lt_succ_self _))
    (interrupt := fun _ hg hex => BI_exit hex h (by simp [hg]) (by simp [hg]) (Nat.le_refl _) (by simp [hg]))
    (popLast := fun _ _ hg _ _ => h.transfer (by simp [hg]) (by simp [hg]) (Nat.le_refl _) (by simp [hg]))
    (popStart := fun _ _ _ hg _ hex => BI_exit hex h (by simp [hg]) (by simp [hg]) (Nat.le_refl _) (by simp [hg]))
    (popStatus := fun _ _ hg _ => h.transfer (by simp [hg]) (by simp [hg]) (Nat.le_refl _) (by simp [hg]))
    (join := fun _ _ hw hex => BI_exit hex h (by simp [hw]) (by simp [hw]) (Nat.le_refl _) (by simp [hw]))
    (fwd := fun _ _ _ hf _ hex => BI_exit hex h (by simp [hf]) (by simp [hf]) (Nat.le_refl _) (by simp [hf]))
    (abortStep := fun ha _ hne => (BI_abortStep h ha).1 hne)
    (abortEnd := fun ha _ hemp => (BI_abortStep h ha).2 hemp _)

theorem BI_init (i : SInput) : BI i (initC i) := by
  obtain ⟨κ, hex⟩ := initC_exit i
  -- main's place before the first transition does not matter: say `get`
  refine BI_exit (s := { preC i with mpc := .get }) hex ?_ (by simp) (by simp) (Nat.le_refl _) (by simp)
  refine ⟨[], [], [], fun t => match t with | 0 => [] | w + 1 => (((progs i)[w]?).map (·.segs)).getD [], ?_, ?_, ?_, ?_, ?_, ?_⟩
  · refine Inv.fresh (by simp [progs, progsFrom_length]) (fun t ht => ?_) (fun t ht => ?_) <;> cases t with
    | zero => rfl
    | succ w => simp [secsC, progs_getElem?, Nat.lt_of_succ_lt_succ ht]
  · intro k hk; simp [preC] at hk
  · intro p hp; cases hp
  · intro _; simp [preC]
  · intro _ _; rfl
  · intro hc; simp at hc

/-- how main's place, `result` and what the `except:` clause leaves behind (stop sections, stop flags, the cause raised) fit together -/
structure RInv (i : SInput) (s : CSt) : Prop where
  r_done : s.mpc = .done ↔ s.result.isSome
  r_clean : s.mpc ≠ .abort → (s.result = none ∨ s.result = some .returned) →
    s.msecs = [] ∧ (∀ b ∈ s.flags, b = false) ∧ (∀ p ∈ s.sink, p.2 = false)
  r_returned : s.result = some .returned → s.reg = [] ∧ s.nsp = i.workers.length ∧ s.liveAtReturn = []
  r_cause : ∀ c, (s.result = some (.raised c) ∨ (s.mpc = .abort ∧ s.pending = c)) → causeOk i c = true
  r_msecs : (s.mpc = .abort ∨ ∃ c, s.result = some (.raised c)) → i.flavour = .suite →
    s.msecs = stopSections i.mfaults 0 s.reg.length

theorem RInv.result_none {i : SInput} {s : CSt} (h : RInv i s) (hd : s.mpc ≠ .done) : s.result = none := by
  cases hr : s.result with
  | none => rfl
  | some r => exact absurd (h.r_done.mpr (by simp [hr])) hd

/-! the invariant, by the three shapes a state can have: `run()` is going on outside the `except:` clause, main is making its
`stop()` calls, `run()` has ended -/

theorem RInv.running {i : SInput} {s : CSt} (hres : s.result = none) (hd : s.mpc ≠ .done) (ha : s.mpc ≠ .abort)
    (hcl : s.msecs = [] ∧ (∀ b ∈ s.flags, b = false) ∧ ∀ p ∈ s.sink, p.2 = false) : RInv i s :=
  ⟨by simp [hres, hd], fun _ _ => hcl, by simp [hres], by simp [hres, ha], by simp [hres, ha]⟩

theorem RInv.aborting {i : SInput} {s : CSt} (hres : s.result = none) (ha : s.mpc = .abort) (hc : causeOk i s.pending = true)
    (hms : i.flavour = .suite → s.msecs = stopSections i.mfaults 0 s.reg.length) : RInv i s :=
  ⟨by simp [hres, ha], absurd ha, by simp [hres], fun c h => by simp [hres] at h; exact h.2 ▸ hc, fun _ => hms⟩

theorem RInv.ended {i : SInput} {s : CSt} (r : MainRes) (hres : s.result = some r) (hd : s.mpc = .done)
    (hret : r = .returned → (s.msecs = [] ∧ (∀ b ∈ s.flags, b = false) ∧ ∀ p ∈ s.sink, p.2 = false) ∧
      s.reg = [] ∧ s.nsp = i.workers.length ∧ s.liveAtReturn = [])
    (hraise : ∀ c, r = .raised c → causeOk i c = true ∧ (i.flavour = .suite → s.msecs = stopSections i.mfaults 0 s.reg.length)) :
    RInv i s := by
  refine ⟨by simp [hres, hd], fun _ h => ?_, fun h => ?_, fun c h => ?_, fun h => ?_⟩
  · exact (hret (by simpa [hres] using h)).1
  · exact (hret (by simpa [hres] using h)).2
  · exact (hraise c (by simpa [hres, hd] using h)).1
  · obtain ⟨c, hc⟩ := h.resolve_left (by simp [hd])
    exact (hraise c (by simpa [hres] using hc)).2

theorem RInv_exit {i : SInput} {b s' : CSt} {κ : Option Cause} (hex : Exit i b κ s') (hres : b.result = none) (hms : b.msecs = [])
    (hcl : κ = none → (∀ f ∈ b.flags, f = false) ∧ ∀ p ∈ b.sink, p.2 = false) (hunf : b.reg = [] → unfinished b = []) :
    RInv i s' := by
  cases hex with
  | park =>
    have hp : parkPc i b.nsp ≠ .done ∧ parkPc i b.nsp ≠ .abort := by
      rcases parkPc_cases i b.nsp with ⟨hp, _⟩ | ⟨hp, _⟩ <;> simp [hp]
    exact .running hres hp.1 hp.2 ⟨hms, hcl rfl⟩
  | get => exact .running hres (by simp) (by simp) ⟨hms, hcl rfl⟩
  | returned hreg hall hmk =>
    refine .ended .returned rfl rfl (fun _ => ⟨⟨hms, hcl rfl⟩, hreg, ?_, hunf hreg⟩) (fun c hc => by cases hc)
    show b.nsp = _
    rw [hall, spawnCount, hmk]
  | flagged c hc hf =>
    exact .ended (.raised c) rfl rfl (fun h => by cases h) (fun c' h => by cases h; exact ⟨hc, fun hs => by rw [hf] at hs; cases hs⟩)
  | raised c hc hf hreg =>
    exact .ended (.raised c) rfl rfl (fun h => by cases h) (fun c' h => by cases h; exact ⟨hc, fun _ => by simp [hms, hreg, stopSections]⟩)
  | abort c hc =>
    refine .aborting hres rfl ?_ (fun _ => rfl)
    show causeOk i (if _ then _ else _) = true
    split
    · rename_i hsr; simp [causeOk, stopsRaise_faults _ _ _ hsr]
    · exact hc

theorem flagsAfter_all_false {s : CSt} {t : Nat} (h : ∀ b ∈ s.flags, b = false) : ∀ b ∈ flagsAfter s t, b = false := by
  unfold flagsAfter
  split
  · exact fun b hb => (List.mem_or_eq_of_mem_set hb).elim (h b) id
  · exact h

theorem RInv_stepC {i : SInput} {s : CSt} (h : RInv i s) (hq : QInv i s) (t : Nat) : RInv i (stepC i s t) := by
  have hunf : ∀ {b : CSt}, b.base.pcs = s.base.pcs → b.nsp = s.nsp → s.reg = [] → unfinished b = [] :=
    fun hb hn hr => by
      have := unfinished_nil_of_reg_nil hq hr
      simpa only [unfinished, workerDone, hb, hn] using this
  -- outside the abort path and before `run()` ends nobody has been told to stop and the caller's result has not raised
  have hcl : s.mpc ≠ .done → s.mpc ≠ .abort → s.result = none ∧ s.msecs = [] ∧ (∀ b ∈ s.flags, b = false) ∧ ∀ p ∈ s.sink, p.2 = false :=
    fun hd hm => ⟨h.result_none hd, h.r_clean hm (Or.inl (h.result_none hd))⟩
  apply stepC_cases hq t
  case idle => exact fun _ => h
  case worker =>
    intro w _ _ _
    exact ⟨h.r_done, fun hm hres => let hc := h.r_clean hm hres; ⟨hc.1, flagsAfter_all_false hc.2.1, hc.2.2⟩,
      h.r_returned, h.r_cause, h.r_msecs⟩
  case announce =>
    intro w _ hk
    obtain ⟨hres, hms, hfl, hsk⟩ := hcl (by simp [hk]) (by simp [hk])
    exact .running hres (by simp) (by simp) ⟨hms, flagsAfter_all_false hfl, hsk⟩
  case spawn =>
    intro k κ s' hk hex
    obtain ⟨hres, hms, hfs⟩ := hcl (by simp [hk]) (by simp [hk])
    exact RInv_exit hex hres hms (fun _ => hfs) (by simp)
  case interrupt | popStart | join =>
    intros
    have hm := ‹s.mpc = _›
    have hex := ‹Exit i _ _ _›
    obtain ⟨hres, hms, hfs⟩ := hcl (by simp [hm]) (by simp [hm])
    exact RInv_exit hex hres hms (fun _ => hfs) (hunf rfl rfl)
  case popLast | popStatus =>
    intro _ _ hg
    intros
    obtain ⟨hres, hrest⟩ := hcl (by simp [hg]) (by simp [hg])
    exact .running hres (by simp) (by simp) hrest
  case fwd =>
    intro e κ s' hf hκ hex
    obtain ⟨hres, hms, hfl, hsk⟩ := hcl (by simp [hf]) (by simp [hf])
    refine RInv_exit hex hres hms (fun hn => ⟨hfl, fun p hp => ?_⟩) (hunf rfl rfl)
    rcases List.mem_append.mp hp with hp | hp
    · exact hsk p hp
    · rw [List.mem_singleton.mp hp]; exact hκ hn
  case abortStep =>
    intro ha _ _
    exact .aborting (h.result_none (by simp [ha])) ha (h.r_cause _ (Or.inr ⟨ha, rfl⟩)) (h.r_msecs (Or.inl ha))
  case abortEnd =>
    intro ha _ _
    exact .ended (.raised s.pending) rfl rfl (fun hc => by cases hc)
      (fun c hc => by cases hc; exact ⟨h.r_cause _ (Or.inr ⟨ha, rfl⟩), h.r_msecs (Or.inl ha)⟩)

theorem RInv_init (i : SInput) : RInv i (initC i) := by
  obtain ⟨κ, hex⟩ := initC_exit i
  exact RInv_exit hex rfl rfl (fun _ => ⟨by simp [preC], by simp [preC]⟩) (fun _ => by simp [preC, unfinished])

def statusesOf (l : List Item) : List SEv := l.filterMap fun | .status e => some e | _ => none

/-- the events of worker `w` delivered so far - by worker index: the route codes, which are all the caller sees (`Spec.C13.sinkOf`),
are put on by `traceOf` -/
def sinkOf (w : Nat) (sink : List (SEv × Bool)) : List SEv := (sink.filter fun p => p.1.w == w).map (·.1)

/-- the event of `w` that main has taken out of the queue and not yet forwarded -/
def hand (s : CSt) (w : Nat) : List SEv :=
  match s.mpc with
  | .fwd e => if e.w = w then [e] else []
  | _ => []

/-- the events worker `w` emits, by worker index (none in the suite flavour); in the stream flavour `Spec.C13.wEvents` is this list under
`w`'s route code -/
def eventsOf (i : SInput) (w : Nat) : List SEv :=
  match i.workers[w]? with
  | some wk => statusesOf (stepItems (segSteps (progOf i w wk).segs))
  | none => []

/-- delivery: what the caller's result has of `w`, what main holds and what is still to come (`todoItems`) are `w`'s events -/
structure SInv (i : SInput) (s : CSt) : Prop where
  acct : ∀ w, w < i.workers.length → sinkOf w s.sink ++ hand s w ++ statusesOf (todoItems s w) = eventsOf i w
  sink_owner : ∀ p ∈ s.sink, p.1.w < s.nsp
  fwd_owner : ∀ e, s.mpc = .fwd e → e.w < s.nsp

theorem statusesOf_append (a b : List Item) : statusesOf (a ++ b) = statusesOf a ++ statusesOf b :=
  List.filterMap_append

theorem statusesOf_map_status (l : List SEv) : statusesOf (l.map Item.status) = l := by
  induction l with
  | nil => rfl
  | cons a l ih => simpa [statusesOf] using ih

theorem eventsOf_stream (i : SInput) (hf : i.flavour = .stream) {w : Nat} (hw : w < i.workers.length) :
    eventsOf i w = streamEvents w i.tb i.workers[w] := by
  rw [eventsOf, List.getElem?_eq_getElem hw]
  simp only [progOf, hf]
  rw [items_stream]
  exact (statusesOf_append _ [_]).trans (by rw [statusesOf_map_status]; exact List.append_nil _)

theorem hand_nil {s : CSt} (h : ∀ e, s.mpc ≠ .fwd e) (w : Nat) : hand s w = [] := by
  unfold hand; split
  · rename_i e he; exact absurd he (h e)
  · rfl

theorem SInv.transfer {i : SInput} {s s' : CSt} (h : SInv i s) (hs : ∀ e, s.mpc ≠ .fwd e) (hnsp : s.nsp ≤ s'.nsp)
    (hpc : ∀ w, s'.base.pcs[w + 1]? = s.base.pcs[w + 1]? := by exact fun _ => rfl) (hs' : ∀ e, s'.mpc ≠ .fwd e := by simp)
    (hsink : s'.sink = s.sink := by rfl) (hq : s'.base.queue = s.base.queue := by rfl) : SInv i s' := by
  refine ⟨fun w hw => ?_, fun p hp => Nat.lt_of_lt_of_le (h.sink_owner p (hsink ▸ hp)) hnsp, fun e he => absurd he (hs' e)⟩
  rw [hsink, hand_nil hs', todoItems_congr (hpc w) hq, ← hand_nil hs w]
  exact h.acct w hw

theorem SInv_exit {i : SInput} {b s' : CSt} {κ : Option Cause} (hex : Exit i b κ s') (h : SInv i { b with mpc := .done }) :
    SInv i s' := by
  cases hex with
  | park =>
    refine h.transfer (by simp) (Nat.le_refl _) (hs' := ?_)
    rcases parkPc_cases i b.nsp with ⟨hp, _⟩ | ⟨hp, _⟩ <;> simp [hp]
  | get | returned | flagged | raised => exact h.transfer (by simp) (Nat.le_refl _)
  | abort => exact h.transfer (by simp) (Nat.le_refl _) (fun w => by simp)

/-- `hh`: if the item taken is an event it is now in main's hand, otherwise nothing is -/
theorem SInv_pop {i : SInput} {s s' : CSt} {x : Item} {q : List Item} (h : SInv i s) (hg : s.mpc = .get)
    (hq : s.base.queue = x :: q) (hh : ∀ w, hand s' w = statusesOf (if x.owner = w then [x] else []))
    (hf : ∀ e, s'.mpc = .fwd e → e.w < s'.nsp) (hq' : s'.base.queue = q := by rfl) (hpc : s'.base.pcs = s.base.pcs := by rfl)
    (hsink : s'.sink = s.sink := by rfl) (hnsp : s'.nsp = s.nsp := by rfl) : SInv i s' := by
  refine ⟨fun w hw => ?_, hsink ▸ hnsp ▸ h.sink_owner, hf⟩
  have := h.acct w hw
  rw [hand_nil (by simp [hg]), todoItems_pop hq hq' hpc w, statusesOf_append, List.append_nil] at this
  rw [hsink, hh, List.append_assoc]
  exact this

theorem sinkOf_append (w : Nat) (a b : List (SEv × Bool)) : sinkOf w (a ++ b) = sinkOf w a ++ sinkOf w b := by
  simp [sinkOf]

theorem SInv_stepC {i : SInput} {s : CSt} (h : SInv i s) (hq : QInv i s) (t : Nat) : SInv i (stepC i s t) := by
  -- a step of any thread `t'` leaves what is still to be delivered as it is
  have hstep : ∀ (t' : Nat) (fl : List Bool) (m : MainPc), (∀ w, hand { s with mpc := m } w = hand s w) → (∀ e, m = .fwd e → s.mpc = .fwd e) →
      SInv i { s with base := stepThread s.base t', flags := fl, mpc := m } := fun t' fl m hh hf =>
    ⟨fun w hw => by rw [todoItems_step rfl (hq.put_owner t')]; exact hh w ▸ h.acct w hw, h.sink_owner, fun e he => h.fwd_owner e (hf e he)⟩
  apply stepC_cases hq t
  case idle => exact fun _ => h
  case worker => exact fun _ _ _ _ => hstep _ _ _ (fun _ => rfl) (fun _ he => he)
  case announce =>
    intro w _ hk
    exact hstep _ _ _ (fun w => by rw [hand_nil (by simp), hand_nil (by simp [hk])]) (by simp)
  case spawn =>
    intro k κ s' hk hex
    exact SInv_exit hex (h.transfer (by simp [hk]) (by rw [(hq.mpc_spawn k hk).1]; exact Nat.le_succ _))
  case interrupt =>
    intro s' hg hex
    exact SInv_exit hex (h.transfer (by simp [hg]) (Nat.le_refl _))
  case popLast =>
    intro x q hg hqq hx
    refine SInv_pop h hg hqq (fun w => ?_) (by simp)
    rw [hand_nil (by simp)]
    cases x with
    | fin _ | stopRun _ => split <;> rfl
    | startRun _ | status _ => cases hx
  case popStart =>
    intro w q s' hg hqq hex
    refine SInv_exit hex (SInv_pop h hg hqq (fun w' => ?_) (by simp))
    rw [hand_nil (by simp)]; split <;> rfl
  case popStatus =>
    intro e q hg hqq
    refine SInv_pop h hg hqq (fun w => ?_) (fun e' he' => ?_)
    · show (if e.w = w then [e] else []) = statusesOf (if e.w = w then [.status e] else [])
      split <;> rfl
    · cases he'
      exact (hq.qowner _ (hqq ▸ List.mem_cons_self)).resolve_right (by simp [hg])
  case join =>
    intro w s' hw hex
    exact SInv_exit hex (h.transfer (by simp [hw]) (Nat.le_refl _))
  case fwd =>
    intro e κ s' hf _ hex
    -- the forwarded event moves from main's hand into the sink
    refine SInv_exit hex ⟨fun w hw => ?_, fun p hp => ?_, by simp⟩
    · have := h.acct w hw
      rw [hand, hf] at this
      rw [hand_nil (by simp), List.append_nil]
      show sinkOf w (s.sink ++ [(e, i.mfaults.contains s.nstatus)]) ++ statusesOf (todoItems s w) = _
      rw [sinkOf_append, ← this]
      by_cases hwx : e.w = w <;> simp [sinkOf, hwx]
    · rcases List.mem_append.mp hp with hp | hp
      · exact h.sink_owner p hp
      · rw [List.mem_singleton.mp hp]; exact h.fwd_owner e hf
  case abortStep => exact fun _ _ _ => hstep 0 _ _ (fun _ => rfl) (fun _ he => he)
  case abortEnd =>
    intro ha _ _
    exact (hstep 0 s.flags s.mpc (fun _ => rfl) (fun _ he => he)).transfer (by simp [ha]) (Nat.le_refl _)

theorem SInv_init (i : SInput) : SInv i (initC i) := by
  obtain ⟨κ, hex⟩ := initC_exit i
  refine SInv_exit hex (⟨fun w hw => ?_, fun p hp => (by cases hp), by simp [preC]⟩ : SInv i (preC i))
  rw [todoItems_pre i hw, eventsOf, List.getElem?_eq_getElem hw]
  rfl

def Item.isStartRun : Item → Bool
  | .startRun _ => true
  | _ => false

/-- `tail_clean`: a worker's `startTestRun` item, if still there, is the very next step of its item list.
`clean`: the item list of a worker that is started, or that main is just about to start, no longer contains a
`startTestRun` item (main has put it) - so no step of a started worker clears a stop flag.
`abort_suite`: only the suite flavour has an abort path of `stop()` sections (the stream flavour sets the flags and raises at once).
`stream_msecs`: the stream flavour never enters the semaphore. -/
structure FInv (i : SInput) (s : CSt) : Prop where
  f_len : s.flags.length = i.workers.length
  tail_clean : ∀ w, w < i.workers.length → ∀ x ∈ stepItems (wpc s w).tail, x.isStartRun = false
  clean : ∀ w, w < i.workers.length → (w < s.nsp ∨ s.mpc = .spawn w ∨ i.flavour = .suite) →
    ∀ x ∈ stepItems (wpc s w), x.isStartRun = false
  abort_suite : s.mpc = .abort → i.flavour = .suite
  f_set : ∀ c, s.result = some (.raised c) → i.flavour = .stream → ∀ w ∈ s.reg, s.flags[w]? = some true
  stream_msecs : i.flavour = .stream → s.msecs = []

theorem msecs_stops {i : SInput} {s : CSt} (hr : RInv i s) (hf : FInv i s) : ∀ sec ∈ s.msecs, ∃ r, sec = [(Call.ctl .stop, r)] := by
  have hnil : s.msecs = [] → ∀ sec ∈ s.msecs, ∃ r, sec = [(Call.ctl .stop, r)] := fun h => h ▸ fun _ hs => by cases hs
  by_cases ha : s.mpc = .abort
  · rw [hr.r_msecs (Or.inl ha) (hf.abort_suite ha)]; exact stopSections_all _ _ _
  · cases hres : s.result with
    | none => exact hnil (hr.r_clean ha (Or.inl hres)).1
    | some r =>
      cases r with
      | returned => exact hnil (hr.r_clean ha (Or.inr hres)).1
      | raised c =>
        cases hfl : i.flavour with
        | suite => rw [hr.r_msecs (Or.inr ⟨c, hres⟩) hfl]; exact stopSections_all _ _ _
        | stream => exact hnil (hf.stream_msecs hfl)

theorem setFlags_keeps_true : ∀ (ws : List Nat) (f : List Bool) (w : Nat), f[w]? = some true → (setFlags f ws)[w]? = some true
  | [], _, _, h => h
  | v :: ws, f, w, h => by
      refine setFlags_keeps_true ws _ w ?_
      rw [List.getElem?_set]
      split
      · rename_i hvw; rw [hvw, if_pos (List.getElem_of_getElem? h).1]
      · exact h

theorem setFlags_get : ∀ (ws : List Nat) (f : List Bool) (w : Nat), w ∈ ws → w < f.length → (setFlags f ws)[w]? = some true
  | v :: ws, f, w, h, hl => by
      rcases List.mem_cons.mp h with rfl | h
      · exact setFlags_keeps_true ws _ _ (List.getElem?_set_self hl)
      · exact setFlags_get ws _ w h (by rwa [List.length_set])

theorem FInv.transfer {i : SInput} {s s' : CSt} (h : FInv i s) (hab : s'.mpc = .abort → i.flavour = .suite)
    (hprem : ∀ w, (w < s'.nsp ∨ s'.mpc = .spawn w) → (w < s.nsp ∨ s.mpc = .spawn w ∨ i.flavour = .suite))
    (hres : ∀ c, s'.result = some (.raised c) → i.flavour = .suite)
    (hpc : ∀ w, s'.base.pcs[w + 1]? = s.base.pcs[w + 1]? := by exact fun _ => rfl)
    (hms : i.flavour = .stream → s'.msecs = s.msecs := by exact fun _ => rfl) (hfl : s'.flags = s.flags := by rfl) : FInv i s' := by
  refine ⟨hfl ▸ h.f_len, fun w hw => wpc_congr (hpc w) ▸ h.tail_clean w hw, fun w hw hp => ?_, hab,
    fun c hc hs => (by rw [hres c hc] at hs; cases hs), fun hs => (hms hs).trans (h.stream_msecs hs)⟩
  rw [wpc_congr (hpc w)]
  exact h.clean w hw (hp.elim (fun h1 => hprem w (Or.inl h1)) fun h1 => h1.elim (fun h1 => hprem w (Or.inr h1)) fun h1 => Or.inr (Or.inr h1))

/-- `b` is `s` after main's bookkeeping: `hreg` for setting the flags of the registered, `hprem` says a worker started in `b` was
started or announced in `s` (so its `startTestRun` item is out) -/
theorem FInv_exit {i : SInput} {s b s' : CSt} {κ : Option Cause} (hex : Exit i b κ s') (h : FInv i s) (hres : b.result = none)
    (hreg : ∀ w ∈ b.reg, w < i.workers.length) (hprem : ∀ w, w < b.nsp → w < s.nsp ∨ s.mpc = .spawn w)
    (hfl : b.flags = s.flags := by rfl) (hpcs : b.base.pcs = s.base.pcs := by rfl)
    (hms : b.msecs = s.msecs := by rfl) : FInv i s' := by
  have hb : FInv i { b with mpc := .get } :=
    h.transfer (by simp) (fun w hw => (hprem w (hw.resolve_right (by simp))).imp_right Or.inl)
      (by simp [hres]) (fun _ => by rw [hpcs]) (fun _ => hms) hfl
  cases hex with
  | park =>
    rcases parkPc_cases i b.nsp with ⟨hp, _⟩ | ⟨hp, hf⟩ <;> rw [hp]
    · exact hb.transfer (by simp) (fun w hw => Or.inl (hw.resolve_right (by simp))) (by simp [hres])
    · exact hb.transfer (by simp) (fun _ _ => Or.inr (Or.inr hf)) (by simp [hres])
  | get => exact hb
  | returned => exact hb.transfer (by simp) (fun w hw => Or.inl (hw.resolve_right (by simp))) (by simp)
  | flagged c _ hf =>
    exact ⟨by simp [setFlags_length, hb.f_len], hb.tail_clean, fun w hw hp => hb.clean w hw (hp.imp_right fun hp => Or.inr (hp.resolve_left (by simp))), by simp,
      fun _ _ _ w hw => setFlags_get b.reg b.flags w hw (by rw [hb.f_len]; exact hreg w hw), hb.stream_msecs⟩
  | raised c _ hf => exact hb.transfer (by simp) (fun w hw => Or.inl (hw.resolve_right (by simp))) (fun _ _ => hf)
  | abort c _ hf =>
    exact hb.transfer (fun _ => hf) (fun _ _ => Or.inr (Or.inr hf)) (fun _ _ => hf) (fun w => by simp) (fun hs => by rw [hf] at hs; cases hs)

theorem flagsAfter_length (s : CSt) (t : Nat) : (flagsAfter s t).length = s.flags.length := by
  unfold flagsAfter; split <;> simp

theorem flagsAfter_eq_of_clean {s : CSt} {w : Nat} (h : ∀ x ∈ stepItems (wpc s w), x.isStartRun = false) :
    flagsAfter s (w + 1) = s.flags := by
  unfold flagsAfter
  split
  · rename_i w' tl hpc
    have := h (.startRun w') (by simp [wpc, hpc, stepItems_cons_put])
    cases this
  · rfl

/-- a step of worker `w`'s thread that leaves main at `m`: where it was, or at `spawn w` if main takes the step on `w`'s behalf
(`announce`).  That step may clear `w`'s flag, so `run()` must not have raised yet (`hfl`). -/
theorem FInv_thread {i : SInput} {s : CSt} (h : FInv i s) (w : Nat) (hwn : w < i.workers.length) (m : MainPc)
    (hsp : ∀ w', w' ≠ w → m = .spawn w' → s.mpc = .spawn w') (hab : m = .abort → s.mpc = .abort)
    (hfl : w < s.nsp ∨ s.result = none) :
    FInv i { s with base := stepThread s.base (w + 1), flags := flagsAfter s (w + 1), mpc := m } := by
  refine ⟨by simp [flagsAfter_length, h.f_len], fun w' hw' x hx => ?_, fun w' hw' hp => ?_, ?_, ?_, h.stream_msecs⟩
  · rcases stepThread_pc s.base (w + 1) (w' + 1) with he | ⟨_, a, he⟩
    · exact h.tail_clean w' hw' x (by rwa [wpc, he] at hx)
    · exact h.tail_clean w' hw' x (by rw [wpc, he]; exact stepItems_tail_subset x hx)
  · by_cases hww : w' = w
    · subst hww
      exact fun x hx => h.tail_clean w' hw' x (stepThread_items_self s.base (w' + 1) x hx)
    · rw [wpc_congr (stepThread_pcs_other s.base (mt Nat.succ.inj hww))]
      exact h.clean w' hw' (hp.imp_right fun hp => hp.imp_left (hsp w' hww))
  · exact fun hc => h.abort_suite (hab hc)
  · intro c hc hs
    rcases hfl with hlt | hres
    · show ∀ w0 ∈ s.reg, (flagsAfter s (w + 1))[w0]? = some true
      rw [flagsAfter_eq_of_clean (h.clean w hwn (Or.inl hlt))]
      exact h.f_set c hc hs
    · rw [show s.result = _ from hc] at hres; cases hres

theorem FInv_stepC {i : SInput} {s : CSt} (h : FInv i s) (hq : QInv i s) (hr : RInv i s) (t : Nat) : FInv i (stepC i s t) := by
  have hreg : ∀ w ∈ s.reg, w < i.workers.length := fun w hw => hq.nsp_lt ((hq.reg_iff w).mp hw).1
  have hres : s.mpc ≠ .done → s.result = none := hr.result_none
  apply stepC_cases hq t
  case idle => exact fun _ => h
  case worker => exact fun w hw hlt _ => FInv_thread h w hw _ (fun _ _ hc => hc) id (Or.inl hlt)
  case announce =>
    exact fun w hw hk => FInv_thread h w hw _ (fun _ hne hc => absurd (MainPc.spawn.inj hc).symm hne) (by simp)
      (Or.inr (hres (by simp [hk])))
  case spawn =>
    intro k κ s' hk hex
    obtain ⟨hk1, hk2⟩ := hq.mpc_spawn k hk
    refine FInv_exit hex h (hres (by simp [hk])) (fun w hw => ?_) (fun w hw => ?_)
    · rcases List.mem_append.mp hw with hw | hw
      · exact hreg w hw
      · rw [List.mem_singleton.mp hw]; exact Nat.lt_of_lt_of_le hk2 (spawnCount_le i)
    · rcases Nat.lt_succ_iff_lt_or_eq.mp hw with hw | rfl
      · exact Or.inl (hk1 ▸ hw)
      · exact Or.inr hk
  case interrupt | popStart | join | fwd =>
    intros
    have hm := ‹s.mpc = _›
    have hex := ‹Exit i _ _ _›
    exact FInv_exit hex h (hres (by simp [hm])) hreg (fun _ => Or.inl)
  case popLast | popStatus =>
    intro _ _ hg
    intros
    exact h.transfer (by simp) (fun w hw => Or.inl (hw.resolve_right (by simp))) (by simp [hres (by simp [hg])])
  -- a step of main inside its `stop()` sections, the last one or not: this is the suite flavour, and no worker is touched
  case abortStep | abortEnd =>
    intro ha _ _
    have hsu := h.abort_suite ha
    exact h.transfer (fun _ => hsu) (fun _ _ => Or.inr (Or.inr hsu)) (fun _ _ => hsu)
      (fun w => stepThread_pcs_other s.base (Nat.succ_ne_zero w))

theorem FInv_init (i : SInput) : FInv i (initC i) := by
  obtain ⟨κ, hex⟩ := initC_exit i
  refine FInv_exit (s := preC i) hex ⟨by simp [preC], fun w hw x hx => ?_, fun w hw hp x hx => ?_, by simp [preC], by simp [preC], fun _ => rfl⟩
    rfl (fun w hw => by cases hw) (fun w hw => absurd hw (Nat.not_lt_zero _))
  · rw [wpc_pre i hw] at hx
    cases hf : i.flavour with
    | suite =>
      have := stepItems_tail_subset x hx
      rw [progOf, hf, items_suite, List.mem_singleton] at this
      rw [this]; rfl
    | stream =>
      rw [progOf, hf] at hx
      have : stepItems (segSteps (streamProg w i.tb i.workers[w]).segs).tail = _ := (List.cons.inj (items_stream w i.tb i.workers[w])).2
      rw [this] at hx
      rcases List.mem_append.mp hx with hx | hx
      · obtain ⟨e, _, rfl⟩ := List.mem_map.mp hx; rfl
      · rw [List.mem_singleton.mp hx]; rfl
  · have hf : i.flavour = .suite := by simpa [preC] using hp
    rw [wpc_pre i hw, progOf, hf, items_suite, List.mem_singleton] at hx
    rw [hx]; rfl

/-- `QInv` is kept by a
step on its own; each of the others given `QInv` of the same state (`stepC_cases` needs it), `FInv` also given `RInv`, none given another. -/
structure CInv (i : SInput) (z : CSt) : Prop where
  q : QInv i z
  b : BI i z
  r : RInv i z
  s : SInv i z
  f : FInv i z

theorem CInv_init (i : SInput) : CInv i (initC i) := ⟨QInv_init i, BI_init i, RInv_init i, SInv_init i, FInv_init i⟩

theorem CInv_stepC {i : SInput} {z : CSt} (h : CInv i z) (t : Nat) : CInv i (stepC i z t) :=
  ⟨QInv_stepC h.q t, BI_stepC h.b h.q t, RInv_stepC h.r h.q t, SInv_stepC h.s h.q t, FInv_stepC h.f h.q h.r t⟩

theorem CInv_runC {i : SInput} (sched : List Nat) {s : CSt} (h : CInv i s) : CInv i (runC i s sched) :=
  Sched.run_keeps (P := CInv i) (fun _ t h => CInv_stepC h t) sched h

theorem QInv_runC {i : SInput} (sched : List Nat) : ∀ {s : CSt}, QInv i s → QInv i (runC i s sched) :=
  Sched.run_keeps (P := QInv i) (fun _ t h => QInv_stepC h t) sched

theorem BI_runC {i : SInput} (sched : List Nat) : ∀ {s : CSt}, BI i s → QInv i s → BI i (runC i s sched) := fun hb hq =>
  (Sched.run_keeps (P := fun s => BI i s ∧ QInv i s) (fun _ t h => ⟨BI_stepC h.1 h.2 t, QInv_stepC h.2 t⟩) sched ⟨hb, hq⟩).1

theorem SInv_runC {i : SInput} (sched : List Nat) : ∀ {s : CSt}, SInv i s → QInv i s → SInv i (runC i s sched) := fun hs hq =>
  (Sched.run_keeps (P := fun s => SInv i s ∧ QInv i s) (fun _ t h => ⟨SInv_stepC h.1 h.2 t, QInv_stepC h.2 t⟩) sched ⟨hs, hq⟩).1

theorem FInv_runC {i : SInput} (sched : List Nat) : ∀ {s : CSt}, FInv i s → QInv i s → RInv i s → FInv i (runC i s sched) :=
  fun hf hq hr =>
  (Sched.run_keeps (P := fun s => FInv i s ∧ QInv i s ∧ RInv i s)
    (fun _ t h => ⟨FInv_stepC h.1 h.2.1 h.2.2 t, QInv_stepC h.2.1 t, RInv_stepC h.2.2 h.2.1 t⟩) sched ⟨hf, hq, hr⟩).1

/-- the threads' share of the measure: three per remaining micro-step (a step of a worker may add an item to the queue), two
per queued item (taking it out may make main forward it) -/
def basePot (b : St) : Nat := 3 * remaining b + 2 * b.queue.length

/-- main's share.  A registered worker counts 9: if main enters the `except:` clause it is given three micro-steps per registered worker
(`acquire · stop() · release`, `stopSections_steps`), each of which weighs 3 in `basePot`.  A sub-suite not yet asked for counts 11: the 9
it will count once registered and one for each of the transitions `announce`, `spawn` that start it.  The small constants order
main's places between two changes of `reg`: `announce k` leads to `spawn k` (4 > 3), `spawn k` to the next `announce` or to `get`
(11 + 3 > 9 + 4), `join` and `fwd` back to `get` (3 > 2), and `get` reaches them only by taking an item out of the queue, which
`basePot` pays for with 2. -/
def mainPot (i : SInput) (s : CSt) : Nat :=
  match s.mpc with
  | .announce k => 11 * (spawnCount i - k) + 9 * s.reg.length + 4
  | .spawn k => 11 * (spawnCount i - k) + 9 * s.reg.length + 3
  | .get => 9 * s.reg.length + 2
  | .join _ => 9 * s.reg.length + 3
  | .fwd _ => 9 * s.reg.length + 3
  | .abort => 0
  | .done => 0

def pot (i : SInput) (s : CSt) : Nat := 3 * remaining s.base + 2 * s.base.queue.length + mainPot i s

theorem pot_eq (i : SInput) (s : CSt) : pot i s = basePot s.base + mainPot i s := rfl

theorem basePot_step_lt {b : St} {t : Nat} (he : enabled b t = true) : basePot (stepThread b t) < basePot b := by
  have h1 := remaining_step he
  have h2 := stepThread_queue_le b t
  unfold basePot; omega

theorem basePot_step_le (b : St) (t : Nat) : basePot (stepThread b t) ≤ basePot b := by
  cases he : enabled b t with
  | true => exact Nat.le_of_lt (basePot_step_lt he)
  | false => rw [stepThread_of_not_enabled he]; exact Nat.le_refl _

theorem basePot_pop {b : St} {x : Item} {q : List Item} (h : b.queue = x :: q) : basePot { b with queue := q } + 2 = basePot b := by
  simp only [basePot, h, List.length_cons, remaining]; omega

theorem stopSections_steps (mf : List Nat) : ∀ (n k : Nat), (progSteps (stopSections mf k n)).length ≤ 3 * n
  | 0, _ => Nat.le_refl _
  | n + 1, k => by
      simp only [stopSections]
      split
      · simp [progSteps, secSteps]; omega
      · have := stopSections_steps mf n (k + 1)
        rw [progSteps_cons, List.length_append]
        simp [secSteps]; omega

/-- after `Exit` main weighs at most what its next place weighs (`mainPot`): nothing once it has raised, else `announce` or `get` -/
theorem pot_exit {i : SInput} {b s' : CSt} {κ : Option Cause} (hex : Exit i b κ s') (h0 : b.base.pcs[0]? = some []) :
    pot i s' ≤ basePot b.base + 9 * b.reg.length +
      (match κ with
        | some _ => 0
        | none => if b.nsp < spawnCount i then 11 * (spawnCount i - b.nsp) + 4 else 2) := by
  cases hex with
  | park hlt => rcases parkPc_cases i b.nsp with ⟨hp, _⟩ | ⟨hp, _⟩ <;> simp only [pot_eq, mainPot, hp, if_pos hlt] <;> omega
  | get _ hall => simp only [pot_eq, mainPot, hall, Nat.lt_irrefl, if_false]; omega
  | returned | flagged | raised => exact Nat.le_trans (Nat.le_add_right _ _) (Nat.le_add_right _ _)
  | abort =>
    simp only [pot_eq, mainPot, basePot]
    have hrem : remaining { b.base with pcs := b.base.pcs.set 0 (progSteps (stopSections i.mfaults 0 b.reg.length)) } =
        remaining b.base + (progSteps (stopSections i.mfaults 0 b.reg.length)).length := Sched.sum_map_set List.length _ h0
    rw [hrem]
    have := stopSections_steps i.mfaults b.reg.length 0
    omega

theorem pot_step_lt {i : SInput} {s : CSt} (hq : QInv i s) (hb : BI i s) {t : Nat} (he : enabledC i s t = true) :
    pot i (stepC i s t) < pot i s := by
  have h0 : s.mpc ≠ .abort → s.base.pcs[0]? = some [] := hb.main_idle
  have hall : inLoop s → ¬ s.nsp < spawnCount i := fun hl => (hq.mpc_loop hl).1 ▸ Nat.lt_irrefl _
  rw [pot_eq i s]
  apply stepC_cases hq t (P := fun s' => pot i s' < _)
  case idle => exact fun hne => by rw [he] at hne; cases hne
  case worker => exact fun w _ _ hen => Nat.add_lt_add_right (basePot_step_lt hen) _
  case announce =>
    intro w _ hk
    have := basePot_step_le s.base (w + 1)
    simp only [pot_eq, mainPot, hk]; omega
  case spawn =>
    intro k κ s' hk hex
    have := pot_exit hex (h0 (by simp [hk]))
    simp only [List.length_append, List.length_singleton] at this
    simp only [mainPot, hk]
    -- `spawnCount i - k` is one more than `spawnCount i - (k + 1)`, and only that matters
    rw [← Nat.sub_add_cancel (Nat.sub_pos_of_lt (hq.mpc_spawn k hk).2), Nat.sub_sub]
    generalize spawnCount i - (k + 1) = d at this ⊢
    cases κ with
    | none => simp only at this; split at this <;> omega
    | some _ => simp only at this; omega
  case interrupt =>
    intro s' hg hex
    have := pot_exit hex (h0 (by simp [hg]))
    simp only [mainPot, hg] at this ⊢; omega
  case popLast =>
    intro x q hg hqq _
    have := basePot_pop hqq
    have hle := List.length_erase_le (a := x.owner) (l := s.reg)
    simp only [pot_eq, mainPot, hg]; omega
  case popStart =>
    intro w q s' hg hqq hex
    have := pot_exit hex (h0 (by simp [hg]))
    have := basePot_pop hqq
    simp only [if_neg (hall (.get hg)), mainPot, hg] at *; omega
  case popStatus =>
    intro e q hg hqq
    have := basePot_pop hqq
    simp only [pot_eq, mainPot, hg]; omega
  case join =>
    intro w s' hw hex
    have := pot_exit hex (h0 (by simp [hw]))
    simp only [if_neg (hall (.join hw)), mainPot, hw] at this ⊢; omega
  case fwd =>
    intro e κ s' hf _ hex
    have := pot_exit hex (h0 (by simp [hf]))
    simp only [if_neg (hall (.fwd hf)), mainPot, hf] at this ⊢
    cases κ <;> simp only at this <;> omega
  case abortStep | abortEnd =>
    intro ha hen _
    have := basePot_step_lt hen
    simp only [pot_eq, mainPot, ha, finishMain_base, finishMain_mpc]; omega

theorem workerDone_of_unfinished_nil {s : CSt} (hu : unfinished s = []) {w : Nat} (hw : w < s.nsp) : workerDone s w = true := by
  have := List.filter_eq_nil_iff.mp hu w (List.mem_range.mpr hw)
  simpa using this

theorem exists_enabledC {i : SInput} {s : CSt} (hq : QInv i s) (hb : BI i s) (hnf : finishedC s = false) :
    ∃ t, t < s.base.pcs.length ∧ enabledC i s t = true := by
  obtain ⟨c, cu, td, r, hb⟩ := hb
  have hlen : 0 < s.base.pcs.length := by rw [hq.n_pcs]; exact Nat.succ_pos _
  cases hsem : s.base.sem with
  | some k =>
    -- the holder's next step is a call or the release, and the holder is a thread that may run
    obtain ⟨hk, hen, _, _, hpc, _⟩ := hb.inv.holder hsem
    have hklt : k < s.base.pcs.length := by rw [hb.inv.len]; exact hk
    by_cases hk0 : k = 0
    · subst hk0
      -- main has steps only inside its abort path
      have hab : s.mpc = .abort := Decidable.by_contra fun hc => by
        rw [hb.main_idle hc] at hpc; cases hpc
      exact ⟨0, hklt, by simp [enabledC, mainEnabled, hab, hen]⟩
    · rcases (hb.holder k hsem).resolve_left hk0 with h1 | h1
      · exact ⟨k, hklt, by simp [enabledC, hk0, h1, hen]⟩
      · exact ⟨0, hlen, by simp [enabledC, mainEnabled, h1]⟩
  | none =>
    have hv : s.base.semv = 1 := by simp [hb.inv.cnt.1, hsem]
    by_cases hu : unfinished s = []
    · -- every started worker is finished: main is not done, and what it waits for is there
      have hnd : s.mpc ≠ .done := fun hc => by simp [finishedC, hc, hu] at hnf
      refine ⟨0, hlen, ?_⟩
      unfold enabledC mainEnabled
      rw [if_pos rfl]
      split
      · rfl
      · rfl
      · rename_i hg
        obtain ⟨w, hw⟩ := List.exists_mem_of_ne_nil _ (hq.mpc_get hg)
        obtain ⟨hw1, hw2⟩ := (hq.reg_iff w).mp hw
        have hwpc : wpc s w = [] := (hq.wpc_nil_iff (hq.nsp_lt hw1)).mpr (workerDone_of_unfinished_nil hu hw1)
        have hqne : s.base.queue ≠ [] := fun hc => hw2 (by simp [todoItems, projQ, hc, hwpc, stepItems])
        simp [hqne]
      · rename_i w hw
        exact workerDone_of_unfinished_nil hu (hq.mpc_join w hw)
      · rfl
      · rename_i ha
        exact enabled_of_steps hv hlen fun hc => hb.abort_busy ha (by rw [hc]; rfl)
      · rename_i hd; exact absurd hd hnd
    · -- some started worker still has steps; the semaphore is free, so it can take one
      obtain ⟨w, hw⟩ := List.exists_mem_of_ne_nil _ hu
      obtain ⟨hw1, hw2⟩ := List.mem_filter.mp hw
      have hw1 := List.mem_range.mp hw1
      have hwn : w + 1 < s.base.pcs.length := by rw [hq.n_pcs]; exact Nat.succ_lt_succ (hq.nsp_lt hw1)
      have := enabled_of_steps hv hwn (by simpa [workerDone] using hw2)
      exact ⟨w + 1, hwn, by simp [enabledC, hw1, this]⟩

theorem Exit.base_eq {i : SInput} {b s' : CSt} {κ : Option Cause} (hex : Exit i b κ s') (hreg : b.reg = []) : s'.base = b.base := by
  cases hex <;> first | rfl | contradiction

/-- at the start the queue is empty and nobody is registered: `pot` is `3 * remaining` and main's share, at most
`11 * spawnCount i + 4`, which `fuelC` rounds up to `12 * n + 8` -/
theorem pot_init_le (i : SInput) : pot i (initC i) ≤ fuelC i := by
  obtain ⟨κ, hex⟩ := initC_exit i
  have := pot_exit hex rfl
  have hs := spawnCount_le i
  rw [fuelC, hex.base_eq rfl]
  simp only [preC, List.length_nil, basePot] at this ⊢
  cases κ with
  | none => by_cases hc : 0 < spawnCount i <;> simp only [hc, if_true, if_false] at this <;> omega
  | some _ => simp only at this; omega

/-- from any state of the invariants: after any schedule, the lowest-enabled-first loop with fuel for `pot` ends with everything over -/
theorem runC_drainC_ends {i : SInput} {z : CSt} (hz : CInv i z) (sched : List Nat) {fuel : Nat} (hf : pot i z ≤ fuel) :
    CInv i (drainC i fuel (runC i z sched)) ∧ finishedC (drainC i fuel (runC i z sched)) = true :=
  Sched.run_drain_ends (d := drainC i) (width := fun s => s.base.pcs.length) (P := CInv i) (fun _ => rfl) (fun _ _ => rfl)
    (fun _ t h => CInv_stepC h t) (fun _ _ h he => pot_step_lt h.q h.b he) (fun _ _ => stepC_of_not_enabled)
    (fun _ h hnf => exists_enabledC h.q h.b hnf) sched hz hf

theorem finalC_ends (i : SInput) : CInv i (finalC i) ∧ finishedC (finalC i) = true :=
  runC_drainC_ends (CInv_init i) i.sched (pot_init_le i)

theorem CInv_final (i : SInput) : CInv i (finalC i) := (finalC_ends i).1

theorem finalC_finished (i : SInput) : finishedC (finalC i) = true := (finalC_ends i).2

theorem QInv_final (i : SInput) : QInv i (finalC i) := (CInv_final i).q
theorem BI_final (i : SInput) : BI i (finalC i) := (CInv_final i).b
theorem RInv_final (i : SInput) : RInv i (finalC i) := (CInv_final i).r
theorem SInv_final (i : SInput) : SInv i (finalC i) := (CInv_final i).s
theorem FInv_final (i : SInput) : FInv i (finalC i) := (CInv_final i).f

theorem msecs_stream_nil (i : SInput) (hf : i.flavour = .stream) : (finalC i).msecs = [] :=
  (FInv_final i).stream_msecs hf

end TTV.Conc
