import TTV.Model.Result
/-! Where the texts sit in the rendering `_details_to_str` makes of a details dict: it ends with the formatted text
attachments and the special one, joined by newlines (for `C08_details_text`). -/
namespace TTV.Lemmas.DetailsStr
open TTV.Result

theorem mem_joinNl_infix {x : Text} : ∀ {l : List Text}, x ∈ l → x <:+: joinNl l
  | [y], h => List.mem_singleton.mp h ▸ List.infix_rfl
  | y :: z :: l, h => by
      rcases List.mem_cons.mp h with rfl | h
      · exact (List.prefix_append _ _).isInfix
      · exact (mem_joinNl_infix h).trans ((List.suffix_cons nl _).isInfix.trans (List.suffix_append _ _).isInfix)

theorem infix_formatText (name t : Text) : t <:+: formatText name t := by
  unfold formatText
  split
  · exact ⟨name ++ ": {{{\n".toList, "\n}}}\n".toList, by simp⟩
  · exact ⟨name ++ ": {{{".toList, "}}}".toList, by simp⟩

theorem infix_detailsToStr (details : Details) (special : Option Text) (x : Text)
    (h : x ∈ textAtts special (sortDetails details) ∨ specialContent special (sortDetails details) = some x) :
    x <:+: detailsToStr details special := by
  unfold detailsToStr
  refine List.IsInfix.trans (mem_joinNl_infix ?_) (List.suffix_append _ _).isInfix
  rcases h with h | h
  · split <;> split <;> simp [h]
  · rw [h]; simp

theorem specialLine_eq {special : Option Text} {p : Text × Content} {y : Text} (h : specialLine special p = some y) :
    some p.1 = special ∧ ∃ u, textOf p.2 = some u ∧ y = u ++ [nl] := by
  unfold specialLine at h
  split at h
  · cases h
  · split at h
    · exact ⟨‹_›, _, ‹_›, (Option.some.inj h).symm⟩
    · cases h
  · cases h

end TTV.Lemmas.DetailsStr
