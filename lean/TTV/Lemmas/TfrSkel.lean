import TTV.Model.TfrSkel
/-! The reference skeletons of the methods of `ThreadsafeForwardingResult` that use the semaphore mean the hand-written block
semantics `Conc.stepOp` (proved once and for all; `Props/C12` only compares the generated terms with the reference terms;
for the forwarder-local methods both sides compute to the same state, see `C12_src_local`).

`stepOp` makes the calls of a block with `Conc.emit`; the interpreter makes them one `act` at a time.  `attempt` is
`emit` on interpreter states, and `interp_act_call` moves one `act` of a skeleton into its list of calls: a block of
the skeleton is read off without ever asking which call raises. -/
namespace TTV.TfrSkel
open TTV.Conc

theorem interp_raised (f : List Nat) (a : Args) (k : Skel) {s : ISt} (h : s.raised = true) : interp f a k s = s := by
  cases k <;> simp [interp, h]

theorem interp_act (f : List Nat) (a : Args) (x : Act) (k : Skel) {s : ISt} (h : s.raised = false) :
    interp f a (.act x k) s = interp f a k (doAct f a x s) := by
  simp [interp, h]

theorem interp_locked (f : List Nat) (a : Args) (body k : Skel) {s : ISt} (h : s.raised = false) :
    interp f a (.act .acquire (.tryFinally body (.act .release .done) k)) s =
      let s1 := interp f a body { s with steps := s.steps ++ [.acq] }
      interp f a k { s1 with steps := s1.steps ++ [.rel] } := by
  simp [interp, doAct, h]

theorem emit_append (f : List Nat) (ds : List Call) : ∀ (cs : List Call) (n : Nat),
    emit f n (cs ++ ds) =
      if (emit f n cs).2.2 then emit f n cs
      else ((emit f n cs).1 ++ (emit f (emit f n cs).2.1 ds).1, (emit f (emit f n cs).2.1 ds).2)
  | [], n => by simp [emit]
  | c :: cs, n => by
      by_cases h : n ∈ f
      · simp [emit, h]
      · have ih := emit_append f ds cs (n + 1)
        simp only [List.cons_append, emit, List.contains_eq_mem, h, decide_false, Bool.false_eq_true, if_false, ih]
        split <;> rfl

def attempt (f : List Nat) (cs : List Call) (s : ISt) : ISt :=
  { s with loc := { s.loc with n := (emit f s.loc.n cs).2.1 }, steps := s.steps ++ callSteps (emit f s.loc.n cs).1,
           raised := (emit f s.loc.n cs).2.2 }

theorem attempt_nil (f : List Nat) {s : ISt} (h : s.raised = false) : attempt f [] s = s := by
  cases s; simp_all [attempt, emit, callSteps]

theorem call_eq_attempt (f : List Nat) (c : Call) (s : ISt) : call f c s = attempt f [c] s := by
  by_cases h : s.loc.n ∈ f <;> simp [call, attempt, emit, callSteps, h]

theorem attempt_append (f : List Nat) (cs ds : List Call) (s : ISt) :
    attempt f (cs ++ ds) s = if (attempt f cs s).raised then attempt f cs s else attempt f ds (attempt f cs s) := by
  cases h : (emit f s.loc.n cs).2.2 <;> simp [attempt, emit_append, h, callSteps]

theorem interp_act_call {f : List Nat} {a : Args} {x : Act} {c : Call} {k : Skel} {cs : List Call} {s : ISt}
    (hx : doAct f a x (attempt f cs s) = call f c (attempt f cs s)) :
    interp f a (.act x k) (attempt f cs s) = interp f a k (attempt f (cs ++ [c]) s) := by
  rw [attempt_append]
  cases h : (attempt f cs s).raised
  · rw [interp_act f a x k h, hx, call_eq_attempt]; rfl
  · rw [interp_raised f a _ h, if_pos rfl, interp_raised f a _ h]

/-- `if <tags buffered>: <call>` after a run of calls is one more call of the run, or none.  `sk` is `.ifAnyGlobal (.act x .done) k` or
`.ifAnyTest (.act x .done) k` and `b` the test it makes; `hsk` is the defining equation of `interp` for either and holds by `rfl`. -/
theorem interp_opt_call {f : List Nat} {a : Args} {sk : Skel} {x : Act} {c : Call} {b : Bool} {k : Skel} {cs : List Call} {s : ISt}
    (hsk : interp f a sk (attempt f cs s) = if (attempt f cs s).raised then attempt f cs s
      else interp f a k (if b then interp f a (.act x .done) (attempt f cs s) else attempt f cs s))
    (hx : doAct f a x (attempt f cs s) = call f c (attempt f cs s)) :
    interp f a sk (attempt f cs s) = interp f a k (attempt f (cs ++ if b then [c] else []) s) := by
  rw [hsk]
  cases h : (attempt f cs s).raised
  · cases b
    · simp
    · rw [if_neg nofun, if_pos rfl, if_pos rfl, interp_act_call hx, interp]
  · rw [if_pos rfl, attempt_append, if_pos h, interp_raised f a _ h]

theorem interp_refAddResult (f : List Nat) (l : Loc) (k : Kind) (id : TId) :
    interp f { kind := k, id := id } refAddResult { loc := l } =
      { loc := (stepOp f l (.outcome k id)).loc, steps := secSteps ((stepOp f l (.outcome k id)).sec.getD []),
        raised := (stepOp f l (.outcome k id)).raised, bad := false } := by
  -- the calls before the outcome are `attempt`ed: the run of calls grows to `preCalls l id`
  have pre : ∀ body : Skel,
      interp f { kind := k, id := id }
        (.act .callTimeStart <| .act .callStartTest <| .act .callTimeNow <|
         .ifAnyGlobal (.act .callTagsGlobal .done) <| .ifAnyTest (.act .callTagsTest .done) body)
        { loc := l, steps := [.acq] }
      = interp f { kind := k, id := id } body (attempt f (preCalls l id) { loc := l, steps := [.acq] }) := by
    intro body
    rw [← attempt_nil f (s := { loc := l, steps := [.acq] }) rfl,
      interp_act_call (c := .time l.start) rfl, interp_act_call (c := .startTest id) rfl, interp_act_call (c := .time l.nowT) rfl,
      interp_opt_call (b := anyTags l.gtags) (c := .tags l.gtags.1 l.gtags.2) rfl rfl,
      interp_opt_call (b := anyTags l.ttags) (c := .tags l.ttags.1 l.ttags.2) rfl rfl]
    rfl
  rw [refAddResult, interp_locked f _ _ _ rfl]
  simp only [List.nil_append, pre, attempt, stepOp]
  generalize emit f l.n (preCalls l id) = e
  obtain ⟨sec, n, r⟩ := e
  cases r
  · simp only [interp, doAct, call, secSteps, callSteps, Bool.false_eq_true, if_false, Bool.or_eq_true]
    -- the one question for the fault plan: did the outcome or `stopTest` raise (then `_test_start` is not reset)
    split <;> simp [*]
  · simp [interp, secSteps, callSteps]

theorem interp_refCtl (f : List Nat) (l : Loc) (a : Args) (c : Ctl) :
    interp f a (refCtl c) { loc := l } =
      { loc := { l with n := l.n + 1 }, steps := secSteps [(.ctl c, f.contains l.n)], raised := f.contains l.n, bad := false } := by
  rw [refCtl, interp_locked f _ _ _ rfl]
  simp [interp, doAct, call, secSteps]

theorem interp_ctl (f : List Nat) (l : Loc) (a : Args) (c : Ctl) :
    interp f a (if c = .startTestRun then refStartTestRun else refCtl c) { loc := l } =
      { loc := (stepOp f l (.ctl c)).loc, steps := secSteps ((stepOp f l (.ctl c)).sec.getD []),
        raised := (stepOp f l (.ctl c)).raised, bad := false } := by
  cases c
  case startTestRun =>
    simp only [if_true, refStartTestRun, interp_act f a _ _ (s := { loc := _ }) rfl, doAct]
    exact interp_refCtl f _ a _
  all_goals exact interp_refCtl f l a _

/-- the local operations have no section and do not raise in the model: what the right-hand sides `{ loc := … }` of `C12_src_local`
say of their skeletons through the defaults `steps := []`, `raised := false` -/
theorem stepOp_local (f : List Nat) (l : Loc) :
    (∀ id, (stepOp f l (.startTest id)).sec = none ∧ (stepOp f l (.startTest id)).raised = false)
    ∧ (∀ id, (stepOp f l (.stopTest id)).sec = none ∧ (stepOp f l (.stopTest id)).raised = false)
    ∧ (∀ a b, (stepOp f l (.tags a b)).sec = none ∧ (stepOp f l (.tags a b)).raised = false)
    ∧ (∀ t, (stepOp f l (.time t)).sec = none ∧ (stepOp f l (.time t)).raised = false) := by
  simp [stepOp]

end TTV.TfrSkel
