import TTV.Lemmas.AsyncLoop
/-! The invariant of the callback chain through its suspensions (`CInv`: suspended on the Deferred of a stage, `Susp`, or over,
`Fin`): the stages that ran are a prefix of the spec's path, each started when its predecessor was over, and the accounting
(`Book`) agrees with their side effects.  Between two suspensions the chain executes synchronously; `Running` is what holds then.
From `Running` every stage ends in `CInv` (`runStage_cinv`); the firing of the pending Deferred resumes a suspended chain in `Running`,
so it ends in `CInv` again (`resume_cinv`); the other queued calls leave the chain alone: every queued call keeps `CInv`
(`cinv_pop`).  Then the joint invariant of the loop, `LInv` = `Inv1` and `CInv`, and what it means for the run, by what the spinner
recorded (`ChainSem`, `cinv_meaning`). -/
namespace TTV.Props.C14
open TTV.Reactor TTV.AsyncRun TTV.Spec.C14

def sidesOf (pre : List (SName × Stage)) : List Side := (pre.map (·.2.sides)).flatten
def allSyncL (pre : List (SName × Stage)) : Bool := pre.all fun x => isSync x.2.beh

theorem sidesOf_snoc (pre : List (SName × Stage)) (n : SName) (st : Stage) :
    sidesOf (pre ++ [(n, st)]) = sidesOf pre ++ st.sides := by
  simp [sidesOf]

theorem allSyncL_snoc (pre : List (SName × Stage)) (n : SName) (st : Stage) :
    allSyncL (pre ++ [(n, st)]) = (allSyncL pre && isSync st.beh) := by
  simp [allSyncL]

theorem exists_mem_snoc {α : Type} (l : List α) (a : α) (P : α → Prop) :
    (∃ x ∈ l ++ [a], P x) ↔ (∃ x ∈ l, P x) ∨ P a := by
  simp [or_and_right, exists_or]

theorem seqOk_overAt_append : ∀ (pre fut : List (SName × Stage)) (log log' : List (SName × Nat × Nat)) (e0 : Option Nat),
    pre.length = log.length →
    seqOk (pre ++ fut) (log ++ log') e0 = (seqOk pre log e0 && seqOk fut log' (overAt e0 pre log)) ∧
    overAt e0 (pre ++ fut) (log ++ log') = overAt (overAt e0 pre log) fut log'
  | [], _, [], _, _, _ => by simp [seqOk, overAt]
  | [], _, _ :: _, _, _, hl => by simp at hl
  | _ :: _, _, [], _, _, hl => by simp at hl
  | (n1, s1) :: pre, fut, (n1', t1, o1) :: log, log', e0, hl => by
      have ih := seqOk_overAt_append pre fut log log' ((delayOf s1.beh).map (t1 + ·)) (by simpa using hl)
      cases e0 with
      | none => simp [seqOk, overAt, ih.2]
      | some e1 => simp only [List.cons_append, seqOk, overAt, ih.1, ih.2, Bool.and_assoc, and_self]

theorem seqOk_overAt_snoc (pre : List (SName × Stage)) (log : List (SName × Nat × Nat)) (e0 : Option Nat) (t o : Nat)
    (n : SName) (st : Stage) (hl : pre.length = log.length) (hs : seqOk pre log e0 = true) (hov : overAt e0 pre log = some t) :
    seqOk (pre ++ [(n, st)]) (log ++ [(n, t, o)]) e0 = true ∧
    overAt e0 (pre ++ [(n, st)]) (log ++ [(n, t, o)]) = (delayOf st.beh).map (t + ·) := by
  have := seqOk_overAt_append pre [(n, st)] log [(n, t, o)] e0 hl
  rw [hs, hov] at this
  simpa [seqOk, overAt] using this

theorem seqOk_overAt_prefix (pre fut : List (SName × Stage)) (log : List (SName × Nat × Nat)) (e0 : Option Nat)
    (hl : pre.length = log.length) :
    seqOk (pre ++ fut) log e0 = seqOk pre log e0 ∧ overAt e0 (pre ++ fut) log = overAt e0 pre log := by
  cases fut with
  | nil => simp
  | cons x fut => simpa [seqOk, overAt] using seqOk_overAt_append pre (x :: fut) log [] e0 hl

theorem expand_fuel : ∀ (n m next : Nat) (stack : List (Nat × Stage)), stackSize stack < n → stackSize stack < m →
    expand n next stack = expand m next stack
  | 0, _, _, _, h, _ => by omega
  | _, 0, _, _, _, h => by omega
  | n + 1, m + 1, next, [], _, _ => rfl
  | n + 1, m + 1, next, (i, c) :: rest, hn, hm => by
      simp only [expand]
      rw [expand_fuel n m _ _ (stackSize_pop_push _ hn) (stackSize_pop_push _ hm)]

/-- the stages to come when the cleanups are about to run -/
def futC (next : Nat) (stack : List (Nat × Stage)) : List (SName × Stage) := expand (stackSize stack + 1) next stack
def futT (p : Prog) (next : Nat) (stack : List (Nat × Stage)) : List (SName × Stage) :=
  (SName.tearDown, p.tearDown) :: futC (next + p.tearDown.cleanups.length) ((number next p.tearDown.cleanups).reverse ++ stack)
def futB (p : Prog) (next : Nat) (stack : List (Nat × Stage)) : List (SName × Stage) :=
  (SName.body, p.body) :: futT p (next + p.body.cleanups.length) ((number next p.body.cleanups).reverse ++ stack)

/-- the stages to come when the chain waits at `pos`, from the two other fields of the chain that matter (`future_eq`) -/
def futureAt (p : Prog) (pos : Pos) (next : Nat) (stack : List (Nat × Stage)) : List (SName × Stage) :=
  match pos with
  | .setUp => if behOk p.setUp.beh then futB p next stack else futC next stack
  | .body => futT p next stack
  | .tearDown | .cleanup => futC next stack
  | _ => []

theorem path_eq (p : Prog) :
    path p = (SName.setUp, p.setUp) :: futureAt p .setUp (0 + p.setUp.cleanups.length) ((number 0 p.setUp.cleanups).reverse ++ []) := by
  simp only [path, futureAt, futB, futT, futC, Nat.zero_add, List.append_nil]

def cleanupsOf (c : Chain) : List (SName × Stage) := expand (stackSize c.stack + 1) c.nextCleanup c.stack

def future (p : Prog) (c : Chain) : List (SName × Stage) :=
  match c.pos with
  | .setUp =>
    if behOk p.setUp.beh then
      (SName.body, p.body) :: (SName.tearDown, p.tearDown) ::
        cleanupsOf (Chain.register p.tearDown.cleanups (Chain.register p.body.cleanups c))
    else cleanupsOf c
  | .body => (SName.tearDown, p.tearDown) :: cleanupsOf (Chain.register p.tearDown.cleanups c)
  | .tearDown | .cleanup => cleanupsOf c
  | _ => []

theorem future_eq (p : Prog) (c : Chain) : future p c = futureAt p c.pos c.nextCleanup c.stack := by
  simp only [future, futureAt, futB, futT, futC, cleanupsOf, register_stack, register_nextCleanup]

/-- the stage-firing calls in the queue: when they are due and how the Deferred fires -/
def sdOf (q : List (DCall (QAct CAct))) : List (Nat × Option Exc) :=
  q.filterMap fun c => match c.act with
    | .user _ (.stageDone r) => some (c.time, r)
    | _ => none

theorem sdOf_insert (c : DCall (QAct CAct)) (q : List (DCall (QAct CAct))) (h : sdOf q = []) :
    sdOf (Reactor.insert c q) = sdOf [c] := by
  have hp : (sdOf (Reactor.insert c q)).Perm (sdOf [c] ++ sdOf q) := by
    unfold sdOf
    rw [← List.filterMap_append]
    exact (insert_perm c q).filterMap _
  rw [h, List.append_nil] at hp
  have hl : (sdOf [c]).length ≤ 1 := List.length_filterMap_le _ [c]
  generalize sdOf [c] = l at hp hl
  match l, hl with
  | [], _ => exact hp.eq_nil
  | [x], _ => exact List.perm_singleton.mp hp

theorem sdOf_filter (q : List (DCall (QAct CAct))) : sdOf (q.filter fun c => !c.act.isTimeout) = sdOf q := by
  induction q with
  | nil => rfl
  | cons c rest ih =>
    rcases c with ⟨t, a⟩
    cases a with
    | timeout => simpa [List.filter_cons, QAct.isTimeout, sdOf] using ih
    | user l a => simp only [List.filter_cons, QAct.isTimeout, Bool.not_false, if_true, sdOf, List.filterMap_cons] at ih ⊢; rw [ih]

theorem mem_sdOf {q : List (DCall (QAct CAct))} {t : Nat} {r : Option Exc} (h : (t, r) ∈ sdOf q) :
    ∃ c ∈ q, c.time = t := by
  simp only [sdOf, List.mem_filterMap] at h
  obtain ⟨c, hc, hm⟩ := h
  refine ⟨c, hc, ?_⟩
  split at hm
  · injection hm with hm; injection hm with hm _
  · cases hm

theorem sdOf_eq_nil {q : List (DCall (QAct CAct))} : sdOf q = [] ↔ ∀ c ∈ q, isSD c = false := by
  unfold sdOf
  rw [List.filterMap_eq_nil_iff]
  refine forall₂_congr fun c _ => ?_
  rcases c with ⟨t, a⟩
  cases a with
  | timeout => simp [isSD]
  | user l a => cases a <;> simp [isSD]

def resOf : Beh → Option Exc
  | .failD _ k => some k
  | _ => none

/-- the runner's books agree with the stages `pre` that ran -/
structure Book (pre : List (SName × Stage)) (c : Chain) : Prop where
  forced : c.forced = (sidesOf pre).contains .expect
  logged : c.logged = loggedLeft (sidesOf pre)
  -- only whether it is 0 matters to the outcome: `account` adds that many plain errors
  dropped : c.dropped = 0 ↔ (sidesOf pre).contains .dropfailed = false
  -- whatever appends to `_exceptions` marks `fails` with it (`Chain.caught`, `Chain.finish`: `fails.append` beside `_got_user_exception`)
  excs : c.excs ≠ [] ↔ c.fails = true
  obs : ∀ e ∈ c.stages, e.2.2 = c.observers.length
  kiMain : ∀ x ∈ pre, isMain x.1 = true → x.2.beh = .raise .ki → Exc.ki ∈ c.excs
  -- `lastExc`: the exception of a cleanup is only remembered until `Chain.finish` appends the last one to `excs`
  kiSome : (Exc.ki ∈ c.excs ∨ c.lastExc = some .ki) → ∃ x ∈ pre, hasKI x.2.beh = true

/-- in time, as a proposition about the stages that ran and the log -/
def InTimeP (p : Prog) (pre : List (SName × Stage)) (log : List (SName × Nat × Nat)) : Prop :=
  ∃ over, overAt (some 0) pre log = some over ∧
    ((allSyncL pre = true ∧ over = 0) ∨ (over < p.timeout ∧ ∀ s ∈ p.stops, over ≤ s))

/-- the chain is executing (between two suspensions): the stages `pre` of the path have run and are over now, `fut` are to come -/
structure Running (p : Prog) (w : W) (pre fut : List (SName × Stage)) : Prop where
  pathEq : path p = pre ++ fut
  len : pre.length = w.u.stages.length
  seq : seqOk pre w.u.stages (some 0) = true
  over : overAt (some 0) pre w.u.stages = some w.now
  noSD : sdOf w.calls = []
  book : Book pre w.u
  failsOk : (w.u.fails = true ∨ w.u.lastExc.isSome = true) ↔ ∃ x ∈ pre, behOk x.2.beh = false
  unrecorded : w.sp.success = none
  /-- in time (`InTimeP`, with `now` as the instant at which `pre` is over): the chain has not left the instant 0 at which it
  started, or a Deferred fired strictly before the timeout and no stop request came earlier -/
  early : w.sp.tcall = .pending → (allSyncL pre = true ∧ w.now = 0) ∨ (w.now < p.timeout ∧ ∀ s ∈ p.stops, w.now ≤ s)
  /-- not pending means fired: the timeout call is never cancelled before the chain ends -/
  late : w.sp.tcall ≠ .pending → allSyncL pre = false ∧ p.timeout ≤ w.now

def isPending : Pos → Bool
  | .setUp | .body | .tearDown | .cleanup => true
  | _ => false

/-- the chain waits for the Deferred of the stage `(n, st)`, the last that ran: the one stage-firing call in the queue is the one that will fire
it, at the instant the log gives (none if it never fires); what is to come is `future p w.u`.  That `st` is `p.setUp` when the chain waits
at `.setUp` is there for `afterSetUp_cinv` alone: `afterSetUp` branches on the result `r`, the path on `behOk p.setUp.beh`. -/
structure Susp (p : Prog) (w : W) : Prop where
  ex : ∃ (pre : List (SName × Stage)) (n : SName) (st : Stage),
    path p = (pre ++ [(n, st)]) ++ future p w.u ∧
    (pre ++ [(n, st)]).length = w.u.stages.length ∧
    seqOk (pre ++ [(n, st)]) w.u.stages (some 0) = true ∧
    isSync st.beh = false ∧ isPending w.u.pos = true ∧ (w.u.pos = .setUp → st = p.setUp) ∧
    sdOf w.calls = (match overAt (some 0) (pre ++ [(n, st)]) w.u.stages with
      | some over => [(over, resOf st.beh)]
      | none => []) ∧
    -- from which `resume_cinv` knows, when the call fires, that `st` is not `.never`
    (delayOf st.beh = none → overAt (some 0) (pre ++ [(n, st)]) w.u.stages = none) ∧
    Book (pre ++ [(n, st)]) w.u ∧
    ((w.u.fails = true ∨ w.u.lastExc.isSome = true) ↔ ∃ x ∈ pre, behOk x.2.beh = false) ∧
    w.sp.success = none

/-- the chain is over: the whole path ran; a recorded success is the chain's verdict, in time -/
structure Fin (p : Prog) (w : W) : Prop where
  ex : ∃ pre : List (SName × Stage),
    path p = pre ∧ pre.length = w.u.stages.length ∧ seqOk pre w.u.stages (some 0) = true ∧
    sdOf w.calls = [] ∧ Book pre w.u ∧ w.u.pos = .done ∧
    (w.u.fails = true ↔ (∃ x ∈ pre, behOk x.2.beh = false) ∨ w.u.forced = true) ∧
    (∀ b, w.sp.success = some b → b = (if w.u.fails then 0 else 1) ∧ InTimeP p pre w.u.stages) ∧
    (w.sp.success = none →
      -- the chain ended when `Spinner.run` had already left `reactor.run()`: nothing was recorded
      (w.sp.tcall = .pending ∧ w.u.over = true) ∨
      -- or the timeout had fired before
      (allSyncL pre = false ∧ ∃ over, overAt (some 0) pre w.u.stages = some over ∧ p.timeout ≤ over))

def CInv (p : Prog) (w : W) : Prop := Susp p w ∨ Fin p w

theorem sides_world (sides : List Side) (w : W) :
    (sides.foldl (fun w s => doSide s w) w).now = w.now ∧ (sides.foldl (fun w s => doSide s w) w).sp = w.sp ∧
    (sdOf w.calls = [] → sdOf (sides.foldl (fun w s => doSide s w) w).calls = []) := by
  induction sides generalizing w with
  | nil => exact ⟨rfl, rfl, id⟩
  | cons s rest ih =>
    obtain ⟨hnow, hsp, hsd⟩ := ih (doSide s w)
    simp only [List.foldl_cons]
    rw [hnow, hsp]
    cases s with
    | junk d => exact ⟨rfl, rfl, fun h => hsd (sdOf_insert _ _ h)⟩
    | _ => exact ⟨rfl, rfl, hsd⟩

theorem launch_world (n : SName) (st : Stage) (w : W) :
    (launch n st w).now = w.now ∧ (launch n st w).sp = w.sp ∧
    (sdOf w.calls = [] → sdOf (launch n st w).calls =
      if isSync st.beh then [] else ((delayOf st.beh).map fun d => (w.now + d, resOf st.beh)).toList) := by
  obtain ⟨hnow, hsp, hsd⟩ := sides_world st.sides (updU (Chain.log n w.now w.running) w)
  simp only [launch]
  cases st.beh with
  | fire d | failD d k => exact ⟨hnow, hsp, fun h => by rw [schedule_calls, hnow, sdOf_insert _ _ (hsd h)]; rfl⟩
  | _ => exact ⟨hnow, hsp, hsd⟩

def logStep (n : Nat) (s : Side) : Nat :=
  match s with
  | .logerr => n + 1
  | .flush => 0
  | _ => n

theorem loggedLeft_eq (sides : List Side) : loggedLeft sides = sides.foldl logStep 0 := by
  unfold loggedLeft
  congr 1

theorem sidesC_book (sides : List Side) (c : Chain) :
    (sides.foldl (fun c s => Chain.side s c) c).forced = (c.forced || sides.contains .expect) ∧
    (sides.foldl (fun c s => Chain.side s c) c).logged = sides.foldl logStep c.logged ∧
    ((sides.foldl (fun c s => Chain.side s c) c).dropped = 0 ↔ (c.dropped = 0 ∧ sides.contains .dropfailed = false)) := by
  induction sides generalizing c with
  | nil => simp
  | cons s rest ih =>
    obtain ⟨hforced, hlogged, hdropped⟩ := ih (Chain.side s c)
    simp only [List.foldl_cons]
    rw [hforced, hlogged, hdropped]
    cases s <;> simp [Chain.side, logStep] <;> omega

/-- the fields `Book` and `Running` read, as `Keeps` has those the invariants of the loop read -/
structure Frame (g : Chain → Chain) : Prop where
  stages : ∀ c, (g c).stages = c.stages
  forced : ∀ c, (g c).forced = c.forced
  logged : ∀ c, (g c).logged = c.logged
  dropped : ∀ c, (g c).dropped = c.dropped
  excs : ∀ c, (g c).excs = c.excs
  fails : ∀ c, (g c).fails = c.fails
  lastExc : ∀ c, (g c).lastExc = c.lastExc
  observers : ∀ c, (g c).observers = c.observers

theorem frame_register (cs : List Stage) : Frame (Chain.register cs) :=
  ⟨fun _ => by rw [register_eq], fun _ => by rw [register_eq], fun _ => by rw [register_eq], fun _ => by rw [register_eq],
   fun _ => by rw [register_eq], fun _ => by rw [register_eq], fun _ => by rw [register_eq], fun _ => by rw [register_eq]⟩

theorem frame_stack (rest : List (Nat × Stage)) : Frame (fun u => { u with stack := rest }) :=
  ⟨fun _ => rfl, fun _ => rfl, fun _ => rfl, fun _ => rfl, fun _ => rfl, fun _ => rfl, fun _ => rfl, fun _ => rfl⟩

/-- What noting the result `r` of a completed stage may change; `main`: of a main stage, whose `KeyboardInterrupt` goes into `excs` at
once (`Book.kiMain`).  `runStage_cinv` knows the continuation `after` only as a variable, and each continuation notes in its own way
(`Chain.noteMain`, `Chain.noteCleanup`): so the lemmas `*_cinv` ask for `Running` after ANY such `f` (`∀ f, NoteOK r _ f → …`). -/
structure NoteOK (r : Option Exc) (main : Bool) (f : Chain → Chain) : Prop where
  stages : ∀ c, (f c).stages = c.stages
  forced : ∀ c, (f c).forced = c.forced
  logged : ∀ c, (f c).logged = c.logged
  dropped : ∀ c, (f c).dropped = c.dropped
  observers : ∀ c, (f c).observers = c.observers
  excs : ∀ c, (c.excs ≠ [] ↔ c.fails = true) → ((f c).excs ≠ [] ↔ (f c).fails = true)
  fails : ∀ c, ((f c).fails = true ∨ (f c).lastExc.isSome = true) ↔
    (c.fails = true ∨ c.lastExc.isSome = true ∨ r.isSome = true)
  mono : ∀ c e, e ∈ c.excs → e ∈ (f c).excs
  kiMain : main = true → r = some .ki → ∀ c, Exc.ki ∈ (f c).excs
  kiSome : ∀ c, (Exc.ki ∈ (f c).excs ∨ (f c).lastExc = some .ki) → (Exc.ki ∈ c.excs ∨ c.lastExc = some .ki ∨ r = some .ki)

theorem Frame.noteOK {g : Chain → Chain} (hg : Frame g) (main : Bool) : NoteOK none main g :=
  ⟨hg.stages, hg.forced, hg.logged, hg.dropped, hg.observers, fun c h => by rw [hg.excs, hg.fails]; exact h,
    fun c => by rw [hg.fails, hg.lastExc]; simp, fun c e h => by rw [hg.excs]; exact h, nofun,
    fun c h => by rw [hg.excs, hg.lastExc] at h; exact h.imp_right Or.inl⟩

theorem noteOK_id (main : Bool) : NoteOK none main id :=
  Frame.noteOK ⟨fun _ => rfl, fun _ => rfl, fun _ => rfl, fun _ => rfl, fun _ => rfl, fun _ => rfl, fun _ => rfl, fun _ => rfl⟩ main

theorem noteOK_main (r : Option Exc) : NoteOK r true (Chain.noteMain r) := by
  cases r with
  | none => exact noteOK_id true
  | some k =>
    refine ⟨fun _ => rfl, fun _ => rfl, fun _ => rfl, fun _ => rfl, fun _ => rfl, fun c _ => ?_, fun c => ?_,
      fun c e h => ?_, fun _ h c => ?_, fun c h => ?_⟩
    · simp [Chain.noteMain, Chain.caught]
    · simp [Chain.noteMain, Chain.caught]
    · simp [Chain.noteMain, Chain.caught, h]
    · injection h with h; subst h; simp [Chain.noteMain, Chain.caught]
    · simp only [Chain.noteMain, Chain.caught, List.mem_append, List.mem_singleton] at h
      rcases h with (h | h) | h
      · exact Or.inl h
      · exact Or.inr (Or.inr (by rw [h]))
      · exact Or.inr (Or.inl h)

theorem noteOK_cleanup (r : Option Exc) : NoteOK r false (Chain.noteCleanup r) := by
  cases r with
  | none => exact noteOK_id false
  | some k =>
    refine ⟨fun _ => rfl, fun _ => rfl, fun _ => rfl, fun _ => rfl, fun _ => rfl, fun c h => ?_, fun c => ?_,
      fun c e h => h, (fun h => by cases h), fun c h => h.imp_right Or.inr⟩
    · simpa [Chain.noteCleanup] using h
    · simp [Chain.noteCleanup]

theorem ki_note {pre : List (SName × Stage)} {c : Chain} {r : Option Exc} {main : Bool} {f : Chain → Chain}
    (hf : NoteOK r main f)
    (hsome : (Exc.ki ∈ c.excs ∨ c.lastExc = some .ki ∨ r = some .ki) → ∃ x ∈ pre, hasKI x.2.beh = true)
    (hmain : ∀ x ∈ pre, isMain x.1 = true → x.2.beh = .raise .ki → Exc.ki ∈ c.excs ∨ (main = true ∧ r = some .ki)) :
    (∀ x ∈ pre, isMain x.1 = true → x.2.beh = .raise .ki → Exc.ki ∈ (f c).excs) ∧
    ((Exc.ki ∈ (f c).excs ∨ (f c).lastExc = some .ki) → ∃ x ∈ pre, hasKI x.2.beh = true) :=
  ⟨fun x hx h1 h2 => (hmain x hx h1 h2).elim (hf.mono c _) fun h => hf.kiMain h.1 h.2 c, fun h => hsome (hf.kiSome c h)⟩

theorem book_note {pre : List (SName × Stage)} {c : Chain} {r : Option Exc} {main : Bool} {f : Chain → Chain}
    (hf : NoteOK r main f) (h : Book pre c) (hr : r = some .ki → ∃ x ∈ pre, hasKI x.2.beh = true) : Book pre (f c) := by
  obtain ⟨k1, k2⟩ := ki_note (pre := pre) (c := c) hf
    (fun hk => hk.elim (fun hk => h.kiSome (Or.inl hk)) fun hk => hk.elim (fun hk => h.kiSome (Or.inr hk)) hr)
    (fun x hx h1 h2 => Or.inl (h.kiMain x hx h1 h2))
  exact ⟨by rw [hf.forced]; exact h.forced, by rw [hf.logged]; exact h.logged, by rw [hf.dropped]; exact h.dropped,
   hf.excs c h.excs, by rw [hf.stages, hf.observers]; exact h.obs, k1, k2⟩

theorem book_frame {pre : List (SName × Stage)} {c : Chain} {g : Chain → Chain} (hg : Frame g) (h : Book pre c) :
    Book pre (g c) := book_note (hg.noteOK false) h nofun

theorem running_frame {p : Prog} {w : W} {pre fut : List (SName × Stage)} {g : Chain → Chain} (hg : Frame g)
    (h : Running p w pre fut) : Running p (updU g w) pre fut :=
  ⟨h.pathEq, by simpa [hg.stages] using h.len, by simpa [hg.stages] using h.seq, by simpa [hg.stages] using h.over,
   h.noSD, book_frame hg h.book, by simpa [hg.fails, hg.lastExc] using h.failsOk, h.unrecorded, h.early, h.late⟩

theorem book_launch {pre : List (SName × Stage)} {c : Chain} (n : SName) (st : Stage) (t : Nat) (b : Bool) (h : Book pre c)
    {r : Option Exc} {main : Bool} {f : Chain → Chain} (hf : NoteOK r main f) (hr : r = some .ki → hasKI st.beh = true)
    (hnew : isMain n = true → st.beh = .raise .ki → main = true ∧ r = some .ki) :
    Book (pre ++ [(n, st)]) (f (st.sides.foldl (fun c s => Chain.side s c) (Chain.log n t b c))) := by
  obtain ⟨b1, b2, b3⟩ := sidesC_book st.sides (Chain.log n t b c)
  have hc := sidesC_frame st.sides (Chain.log n t b c)
  generalize st.sides.foldl (fun c s => Chain.side s c) (Chain.log n t b c) = c' at b1 b2 b3 hc ⊢
  have he : c'.excs = c.excs := by rw [hc]; rfl
  have hl : c'.lastExc = c.lastExc := by rw [hc]; rfl
  obtain ⟨k1, k2⟩ := ki_note (pre := pre ++ [(n, st)]) (c := c') hf
    (by rw [he, hl, ← or_assoc, exists_mem_snoc]; exact Or.imp h.kiSome hr)
    (by
      rw [he]
      intro x hx h1 h2
      rcases List.mem_append.mp hx with hx | hx
      · exact Or.inl (h.kiMain x hx h1 h2)
      · rw [List.mem_singleton.mp hx] at h1 h2
        exact Or.inr (hnew h1 h2))
  refine ⟨?_, ?_, ?_, hf.excs _ (by rw [hc]; exact h.excs), ?_, k1, k2⟩
  · rw [hf.forced, b1, sidesOf_snoc, List.contains_append]
    simp [Chain.log, h.forced]
  · rw [hf.logged, b2, sidesOf_snoc, loggedLeft_eq, List.foldl_append, ← loggedLeft_eq]
    simp [Chain.log, h.logged]
  · rw [hf.dropped, b3, sidesOf_snoc, List.contains_append]
    simp only [Chain.log, Bool.or_eq_false_iff]
    rw [h.dropped]
  · rw [hf.stages, hf.observers, hc]
    intro e he
    rcases List.mem_append.mp he with he | he
    · exact h.obs e he
    · rw [List.mem_singleton.mp he]; rfl

theorem failsOk_note {pre : List (SName × Stage)} {n : SName} {st : Stage} {c : Chain} {r : Option Exc} {main : Bool}
    {f : Chain → Chain} (hf : NoteOK r main f)
    (h : (c.fails = true ∨ c.lastExc.isSome = true) ↔ ∃ x ∈ pre, behOk x.2.beh = false)
    (hr : r.isSome = true ↔ behOk st.beh = false) :
    ((f c).fails = true ∨ (f c).lastExc.isSome = true) ↔ ∃ x ∈ pre ++ [(n, st)], behOk x.2.beh = false := by
  rw [hf.fails, ← or_assoc, h, hr, exists_mem_snoc]

theorem statusOf_completed {b : Beh} {r : Option Exc} (hs : statusOf b = .completed r) :
    isSync b = true ∧ delayOf b = some 0 ∧ (r.isSome = true ↔ behOk b = false) ∧ (∀ k, b = .raise k ↔ r = some k) := by
  cases b <;> simp [statusOf] at hs <;> subst hs <;> simp [isSync, delayOf, behOk]

theorem launch_completed {p : Prog} {w : W} {pre fut : List (SName × Stage)} {n : SName} {st : Stage}
    (h : Running p w pre ((n, st) :: fut)) (r : Option Exc) (hs : statusOf st.beh = .completed r)
    (f : Chain → Chain) (hf : NoteOK r (isMain n) f) :
    Running p (updU f (launch n st w)) (pre ++ [(n, st)]) fut := by
  have hstages := launch_stages n st w
  obtain ⟨hnow, hsp, hsd⟩ := launch_world n st w
  obtain ⟨hsync, hdelay, hrok, hraise⟩ := statusOf_completed hs
  have hsnoc := seqOk_overAt_snoc pre w.u.stages (some 0) w.now w.u.observers.length n st h.len h.seq h.over
  refine ⟨by simp [h.pathEq], ?_, ?_, ?_, ?_, ?_, ?_, ?_, ?_, ?_⟩
  · simp [hf.stages, hstages, h.len]
  · simp only [updU_u, hf.stages, hstages]; exact hsnoc.1
  · simp only [updU_u, hf.stages, hstages, updU_now, hnow]
    rw [hsnoc.2, hdelay]; simp
  · rw [updU_calls, hsd h.noSD, if_pos hsync]
  · rw [updU_u, launch_u]
    exact book_launch n st _ _ h.book hf (fun hk => by rw [(hraise .ki).mpr hk]; rfl)
      fun h1 h2 => ⟨h1, (hraise .ki).mp h2⟩
  · exact failsOk_note hf (by rw [launch_frame]; exact h.failsOk) hrok
  · simp only [updU_sp, hsp]; exact h.unrecorded
  · simp only [updU_sp, hsp, updU_now, hnow, allSyncL_snoc, hsync, Bool.and_true]; exact h.early
  · simp only [updU_sp, hsp, updU_now, hnow, allSyncL_snoc, hsync, Bool.and_true]; exact h.late

theorem launch_pending {p : Prog} {w : W} {pre fut : List (SName × Stage)} {n : SName} {st : Stage} {q : Pos}
    (h : Running p w pre ((n, st) :: fut)) (hs : statusOf st.beh = .pending) (hq : isPending q = true)
    (hsu : q = .setUp → st = p.setUp) (hfut : future p (updU (fun u => { u with pos := q }) (launch n st w)).u = fut) :
    Susp p (updU (fun u => { u with pos := q }) (launch n st w)) := by
  have hstages := launch_stages n st w
  obtain ⟨_, hsp, hsd⟩ := launch_world n st w
  have hsnoc := seqOk_overAt_snoc pre w.u.stages (some 0) w.now w.u.observers.length n st h.len h.seq h.over
  have hb := book_launch n st w.now w.running h.book (noteOK_id false) nofun fun _ h2 => by rw [h2] at hs; cases hs
  rw [← launch_u] at hb
  have hasync : isSync st.beh = false := by cases hb' : st.beh <;> simp [statusOf, hb'] at hs <;> rfl
  refine ⟨pre, n, st, by rw [hfut]; simp [h.pathEq], by simp [hstages, h.len], by simp only [updU_u, hstages]; exact hsnoc.1,
    hasync, hq, hsu, ?_, ?_, { hb with },
    by rw [updU_u, launch_frame]; exact h.failsOk, by rw [updU_sp, hsp]; exact h.unrecorded⟩
  · simp only [updU_calls, updU_u, hstages]
    rw [hsnoc.2, hsd h.noSD, hasync]
    cases delayOf st.beh <;> rfl
  · intro hd
    simp only [updU_u, hstages]
    rw [hsnoc.2, hd]; rfl

theorem book_finish {pre : List (SName × Stage)} {c : Chain} (h : Book pre c) : Book pre c.finish := by
  rw [finish_eq]
  refine ⟨h.forced, h.logged, h.dropped, ?_, h.obs, fun x hx h1 h2 => ?_, fun hk => h.kiSome ?_⟩
  · have := h.excs
    dsimp only
    cases c.lastExc <;> cases c.forced <;> simp_all
  · simp [h.kiMain x hx h1 h2]
  · rcases hk with hk | hk
    · simp only [List.mem_append, Option.mem_toList] at hk
      rcases hk with (hk | hk) | hk
      · exact Or.inl hk
      · exact Or.inr hk
      · split at hk <;> simp at hk
    · exact Or.inr hk

theorem finishChain_fin {p : Prog} {w : W} {pre : List (SName × Stage)} (h : Running p w pre []) : Fin p (finishChain w) := by
  have hu : (finishChain w).u = w.u.finish := finishChain_u w
  have hst : w.u.finish.stages = w.u.stages := by rw [finish_eq]
  have hfails : w.u.finish.fails = true ↔ (∃ x ∈ pre, behOk x.2.beh = false) ∨ w.u.finish.forced = true := by
    rw [← h.failsOk, finish_eq]
    simp only [Bool.or_eq_true]
  have hlate : w.sp.tcall ≠ .pending →
      allSyncL pre = false ∧ ∃ over, overAt (some 0) pre w.u.finish.stages = some over ∧ p.timeout ≤ over :=
    fun hp => ⟨(h.late hp).1, w.now, by rw [hst]; exact h.over, (h.late hp).2⟩
  -- whether or not the run is over, only the queue and the spinner's record remain to be looked at
  have fin := fun hsd hrec hnone => (⟨pre, by simpa using h.pathEq, by rw [hu, hst]; exact h.len, by rw [hu, hst]; exact h.seq, hsd,
    by rw [hu]; exact book_finish h.book, by rw [hu]; rfl, by rw [hu]; exact hfails, hrec, hnone⟩ : Fin p (finishChain w))
  cases hov : w.u.over with
  | true =>
    -- the run is over: the final Deferred fires into dead callbacks
    have hw : finishChain w = updU Chain.finish w := finishChain_over hov
    refine fin (by rw [hw]; exact h.noSD) ?_ ?_
    · intro b hb; rw [hw, updU_sp, h.unrecorded] at hb; cases hb
    · intro _
      by_cases hp : w.sp.tcall = .pending
      · exact Or.inl ⟨by rw [hw]; exact hp, by rw [hu, finish_over]; exact hov⟩
      · rw [hu]; exact Or.inr (hlate hp)
  | false =>
    have hw := finishChain_not_over hov
    have hcalls : sdOf (finishChain w).calls = [] := by
      rw [hw, deliver_calls]
      split
      · rw [sdOf_filter]; exact h.noSD
      · exact h.noSD
    have hrec : w.sp.tcall = .pending → (finishChain w).sp.success = some (if w.u.finish.fails then 0 else 1) := by
      intro hp; rw [hw]; exact deliver_success _ _ hp
    have hnot : w.sp.tcall ≠ .pending → (finishChain w).sp.success = none := by
      intro hp; rw [hw, deliver_of_not_pending (updU Chain.finish w) _ hp]; simpa using h.unrecorded
    refine fin hcalls ?_ ?_
    · intro b hb
      by_cases hp : w.sp.tcall = .pending
      · rw [hrec hp] at hb
        injection hb with hb
        exact ⟨by rw [hu, ← hb], by rw [hu, hst]; exact ⟨w.now, h.over, h.early hp⟩⟩
      · rw [hnot hp] at hb; cases hb
    · intro hn
      by_cases hp : w.sp.tcall = .pending
      · rw [hrec hp] at hn; cases hn
      · rw [hu]; exact Or.inr (hlate hp)

theorem runStage_cinv {p : Prog} {w : W} {pre fut : List (SName × Stage)} {n : SName} {st : Stage} {q : Pos}
    {after : Option Exc → W → W} (h : Running p w pre ((n, st) :: fut)) (hq : isPending q = true) (hsu : q = .setUp → st = p.setUp)
    (hfut : futureAt p q (w.u.nextCleanup + st.cleanups.length) ((number w.u.nextCleanup st.cleanups).reverse ++ w.u.stack) = fut)
    (hafter : ∀ r (w' : W), w'.u.nextCleanup = w.u.nextCleanup + st.cleanups.length →
      w'.u.stack = (number w.u.nextCleanup st.cleanups).reverse ++ w.u.stack → statusOf st.beh = .completed r →
      (∀ f, NoteOK r (isMain n) f → Running p (updU f w') (pre ++ [(n, st)]) fut) → CInv p (after r w')) :
    CInv p (runStage n st q after w) := by
  have h' := running_frame (frame_register st.cleanups) h
  have hst := launch_stack n st (updU (Chain.register st.cleanups) w)
  have hnx := launch_nextCleanup n st (updU (Chain.register st.cleanups) w)
  rw [updU_u, register_stack] at hst
  rw [updU_u, register_nextCleanup] at hnx
  unfold runStage
  cases hs : statusOf st.beh with
  | completed r =>
    exact hafter r _ hnx hst hs (fun f hf => launch_completed h' r hs f hf)
  | pending =>
    refine Or.inl (launch_pending h' hs hq hsu ?_)
    rw [future_eq]; simp only [updU_u, hst, hnx]; exact hfut

theorem runCleanups_cinv {p : Prog} : ∀ (n : Nat) (w : W) (pre : List (SName × Stage)), stackSize w.u.stack < n →
    Running p w pre (expand n w.u.nextCleanup w.u.stack) → CInv p (runCleanups n w)
  | 0, _, _, hn, _ => by omega
  | n + 1, w, pre, hn, h => by
      cases hst : w.u.stack with
      | nil =>
        rw [hst] at h
        simp only [runCleanups, hst]
        exact Or.inr (finishChain_fin h)
      | cons ic rest =>
        obtain ⟨i, c⟩ := ic
        rw [hst] at h hn
        rw [runCleanups_cons hst]
        have hfuel := stackSize_pop_push w.u.nextCleanup hn
        refine runStage_cinv (q := .cleanup) (running_frame (frame_stack rest) h) rfl nofun
          (expand_fuel _ n _ _ (Nat.lt_succ_self _) hfuel) fun r w' hnx hst' _ hrun => ?_
        refine runCleanups_cinv n _ (pre ++ [(.cleanup i, c)]) ?_ ?_
        · rw [updU_u, noteCleanup_stack, hst']; exact hfuel
        · rw [updU_u, noteCleanup_stack, noteCleanup_nextCleanup, hst', hnx]
          exact hrun _ (noteOK_cleanup r)

theorem cleanUp_cinv {p : Prog} {w : W} {pre : List (SName × Stage)} (h : Running p w pre (futC w.u.nextCleanup w.u.stack)) :
    CInv p (cleanUp w) := runCleanups_cinv _ _ _ (Nat.lt_succ_self _) h

theorem afterCleanup_cinv {p : Prog} {w : W} {pre : List (SName × Stage)} (r : Option Exc)
    (h : ∀ f, NoteOK r false f → Running p (updU f w) pre (futC w.u.nextCleanup w.u.stack)) : CInv p (afterCleanup r w) :=
  cleanUp_cinv (by rw [updU_u, noteCleanup_stack, noteCleanup_nextCleanup]; exact h _ (noteOK_cleanup r))

theorem afterTearDown_cinv {p : Prog} {w : W} {pre : List (SName × Stage)} (r : Option Exc)
    (h : ∀ f, NoteOK r true f → Running p (updU f w) pre (futC w.u.nextCleanup w.u.stack)) : CInv p (afterTearDown r w) :=
  cleanUp_cinv (by rw [updU_u, noteMain_stack, noteMain_nextCleanup]; exact h _ (noteOK_main r))

theorem startTearDown_cinv {p : Prog} {w : W} {pre : List (SName × Stage)}
    (h : Running p w pre (futT p w.u.nextCleanup w.u.stack)) : CInv p (startTearDown p w) :=
  startTearDown_eq p ▸ runStage_cinv (q := .tearDown) h rfl nofun rfl fun r _ hnx hst _ hrun => afterTearDown_cinv r (by rw [hnx, hst]; exact hrun)

theorem afterBody_cinv {p : Prog} {w : W} {pre : List (SName × Stage)} (r : Option Exc)
    (h : ∀ f, NoteOK r true f → Running p (updU f w) pre (futT p w.u.nextCleanup w.u.stack)) : CInv p (afterBody p r w) :=
  startTearDown_cinv (by rw [updU_u, noteMain_stack, noteMain_nextCleanup]; exact h _ (noteOK_main r))

theorem startBody_cinv {p : Prog} {w : W} {pre : List (SName × Stage)}
    (h : Running p w pre (futB p w.u.nextCleanup w.u.stack)) : CInv p (startBody p w) :=
  startBody_eq p ▸ runStage_cinv (q := .body) h rfl nofun rfl fun r _ hnx hst _ hrun => afterBody_cinv r (by rw [hnx, hst]; exact hrun)

theorem afterSetUp_cinv {p : Prog} {w : W} {pre : List (SName × Stage)} (r : Option Exc)
    (hr : r.isSome = true ↔ behOk p.setUp.beh = false)
    (h : ∀ f, NoteOK r true f → Running p (updU f w) pre (futureAt p .setUp w.u.nextCleanup w.u.stack)) :
    CInv p (afterSetUp p r w) := by
  have := h _ (noteOK_main r)
  cases r with
  | some k =>
    rw [futureAt, if_neg (by simp [hr.mp rfl])] at this
    exact cleanUp_cinv this
  | none =>
    rw [futureAt, if_pos (by cases hb : behOk p.setUp.beh <;> simp_all)] at this
    exact startBody_cinv this

theorem startSetUp_cinv {p : Prog} {w : W} (h : Running p w [] (path p)) (hs : w.u.stack = []) (hn : w.u.nextCleanup = 0) :
    CInv p (startSetUp p w) := by
  rw [path_eq, ← hs, ← hn] at h
  rw [startSetUp_eq]
  exact runStage_cinv (q := .setUp) h rfl (fun _ => rfl) rfl fun r _ hnx hst hr hrun =>
    afterSetUp_cinv r (statusOf_completed hr).2.2.1 (by rw [hnx, hst]; exact hrun)

theorem resume_cinv {p : Prog} {w0 : W} (hs : Susp p w0) (hi : Inv1 p w0) (t l : Nat) (r : Option Exc)
    (rest : List (DCall (QAct CAct))) (hc : w0.calls = ⟨t, .user l (.stageDone r)⟩ :: rest) (hdue : t ≤ w0.now) :
    CInv p (resume p r (logEvent (.user l) { w0 with calls := rest })) := by
  obtain ⟨pre, n, st, hpath, hlen, hseq, hasync, hpos, hsu, hsd, hnever, hbook, hfails, hunrec⟩ := hs.ex
  have hnow : t = w0.now := hi.due_now hdue (hc ▸ List.mem_cons_self)
  -- the fired call is the one the chain waits for
  rw [hc, show sdOf (⟨t, .user l (.stageDone r)⟩ :: rest) = (t, r) :: sdOf rest from rfl] at hsd
  cases hov : overAt (some 0) (pre ++ [(n, st)]) w0.u.stages with
  | none => rw [hov] at hsd; cases hsd
  | some over =>
    rw [hov] at hsd
    simp only [List.cons.injEq, Prod.mk.injEq] at hsd
    obtain ⟨⟨hto, hres⟩, hrest⟩ := hsd
    have hdelay : delayOf st.beh ≠ none := fun hd => by rw [hnever hd] at hov; cases hov
    have hrok : r.isSome = true ↔ behOk st.beh = false := by
      rw [hres]
      cases hb : st.beh <;> simp [hb, isSync, delayOf] at hasync hdelay <;> simp [resOf, behOk]
    have hrki : r = some .ki → ∃ x ∈ pre ++ [(n, st)], hasKI x.2.beh = true := by
      intro hk
      refine ⟨(n, st), by simp, ?_⟩
      rw [hres] at hk
      cases hb : st.beh <;> simp [hb, resOf] at hk
      subst hk; rfl
    have hs0 := hi.sorted; rw [hc] at hs0
    have key : ∀ (main : Bool) f, NoteOK r main f →
        Running p (updU f (logEvent (.user l) { w0 with calls := rest })) (pre ++ [(n, st)]) (future p w0.u) := by
      intro main f hf
      refine ⟨hpath, by simp [hf.stages, hlen], by simp [hf.stages, hseq], by simp [hf.stages, hov, ← hnow, hto], hrest,
        book_note hf hbook hrki, failsOk_note hf hfails hrok, hunrec, ?_, ?_⟩
      · -- in time: the timeout call is still queued, behind the stage-firing call that has just fired, hence due strictly later
        -- (`SortedQ`); and a stop request is still queued, so not due before now, or has run at this very instant (`Inv1.stops`)
        intro hp
        obtain ⟨x, hx, hxt, hxT⟩ := hi.timeout_mem hp
        rw [hc] at hx
        rcases List.mem_cons.mp hx with rfl | hx
        · cases hxt
        · have := (List.rel_of_pairwise_cons hs0 hx).2.1 rfl hxt
          refine Or.inr ⟨by show w0.now < _; simp at this; omega, fun s hs' => ?_⟩
          rcases hi.stops s hs' with h1 | h1
          · exact hi.ge _ h1
          · exact Nat.le_of_eq h1.2.symm
      · intro hp
        refine ⟨by rw [allSyncL_snoc, hasync, Bool.and_false], ?_⟩
        cases htc : w0.sp.tcall with
        | pending => exact absurd htc hp
        | unset => exact absurd htc hi.nounset
        | called => exact (hi.called htc).1
        | cancelled =>
          have := (hi.cancelled htc).1
          rw [hunrec] at this; cases this
    have hfu := future_eq p w0.u
    simp only [resume, logEvent_u]
    cases hpos' : w0.u.pos <;> rw [hpos'] at hpos hfu <;> simp only []
    · cases hpos
    · exact afterSetUp_cinv r (hsu hpos' ▸ hrok) fun f hf => hfu ▸ key _ f hf
    · exact afterBody_cinv r fun f hf => hfu ▸ key _ f hf
    · exact afterTearDown_cinv r fun f hf => hfu ▸ key _ f hf
    · exact afterCleanup_cinv r fun f hf => hfu ▸ key _ f hf
    · cases hpos

/-- what `CInv` reads of the world -/
theorem cinv_congr {p : Prog} {w w' : W} {k j : Nat} {o : Bool} (h : CInv p w)
    (hu : w'.u = { w.u with realStops := k, iter := j, over := o }) (ho : w.u.over = true → o = true)
    (hsd : sdOf w'.calls = sdOf w.calls) (hsucc : w'.sp.success = w.sp.success)
    (htc : w.u.over = true → w.sp.tcall = .pending → w'.sp.tcall = .pending) : CInv p w' := by
  cases w'
  subst hu
  have hb : ∀ pre, Book pre w.u → Book pre { w.u with realStops := k, iter := j, over := o } :=
    fun pre hb => { hb with }
  have hfut : future p { w.u with realStops := k, iter := j, over := o } = future p w.u := by rw [future_eq, future_eq]
  rcases h with h | h
  · obtain ⟨pre, n, st, hpath, hlen, hseq, hasync, hpos, hsu, hcall, hnever, hbook, hfails, hunrec⟩ := h.ex
    exact Or.inl ⟨pre, n, st, hfut ▸ hpath, hlen, hseq, hasync, hpos, hsu, hsd ▸ hcall, hnever, hb _ hbook, hfails,
      hsucc ▸ hunrec⟩
  · obtain ⟨pre, hpath, hlen, hseq, hnoSD, hbook, hpos, hfails, hrec, hnone⟩ := h.ex
    refine Or.inr ⟨pre, hpath, hlen, hseq, hsd ▸ hnoSD, hb _ hbook, hpos, hfails, fun b hb' => hrec b (hsucc ▸ hb'),
      fun hn => ?_⟩
    exact (hnone (hsucc ▸ hn)).imp (fun g => ⟨htc g.2 g.1, ho g.2⟩) id

theorem realStops_self (c : Chain) : c = { c with realStops := c.realStops } := rfl

/-- once `Spinner.run` has left the loop with its timeout call still pending (an interrupt), the clock stands still before the
timeout instant: the timeout call does not become due in `_clean`'s iterations -/
def Early (p : Prog) (w : W) : Prop := w.u.over = true → w.sp.tcall = .pending → w.now < p.timeout

theorem cinv_pop {p : Prog} {w : W} (h : CInv p w) (hi : Inv1 p w) (hearly : Early p w)
    (c : DCall (QAct CAct)) (rest : List (DCall (QAct CAct)))
    (hc : w.calls = c :: rest) (hdue : c.time ≤ w.now) : CInv p (execCall (exec p) c { w with calls := rest }) := by
  rcases c with ⟨t, q⟩
  cases q with
  | timeout =>
    -- the timeout call is due: the run is not one that ended early
    have hm : ⟨t, .timeout⟩ ∈ w.calls := hc ▸ List.mem_cons_self
    have hT : p.timeout = w.now := (hi.ttime _ hm rfl).symm.trans (hi.due_now hdue hm)
    refine cinv_congr h (execTimeout_u _) id ?_ (by simp [execCall]) ?_
    · simp only [execCall, execTimeout_calls, hc]; rfl
    · intro ho hp; have := hearly ho hp; omega
  | user l a =>
    cases a with
    | noop =>
      refine cinv_congr h rfl id ?_ rfl fun _ => id
      simp only [execCall, exec, logEvent_calls, hc]; rfl
    | stop =>
      show CInv p (exec p l .stop (logEvent (.user l) { w with calls := rest }))
      rw [exec_stop]
      refine cinv_congr h rfl id ?_ rfl fun _ => id
      simp only [logEvent_calls, hc]; rfl
    | stageDone r =>
      rcases h with h | h
      · exact resume_cinv h hi t l r rest hc hdue
      · obtain ⟨_, _, _, _, hnoSD, _⟩ := h.ex
        rw [hc] at hnoSD
        cases hnoSD

def LInv (p : Prog) (w : W) : Prop := Inv1 p w ∧ CInv p w

theorem linv_pop {p : Prog} (w : W) (c : DCall (QAct CAct)) (rest : List (DCall (QAct CAct))) (h : LInv p w) (hearly : Early p w)
    (hc : w.calls = c :: rest) (hd : c.time ≤ w.now) : LInv p (execCall (exec p) c { w with calls := rest }) :=
  ⟨inv1_pop h.1 c rest hc hd, cinv_pop h.2 h.1 hearly c rest hc hd⟩

theorem linv_nextIter {p : Prog} (w : W) (h : LInv p w) : LInv p (nextIter w) :=
  ⟨inv1_nextIter h.1, cinv_congr h.2 rfl id rfl rfl fun _ => id⟩

/-- the loop of `reactor.run()` keeps `LInv` (the run is not over while it runs, so `Early` holds for an empty reason) -/
theorem linv_spin {p : Prog} (B n : Nat) (w : W) (h : LInv p w) (ho : w.u.over = false) : LInv p (spinB p B n w) :=
  (spinB_inv p B (fun w => LInv p w ∧ w.u.over = false)
    (fun w c rest h hc hd => ⟨linv_pop w c rest h.1 (fun ho => by rw [h.2] at ho; cases ho) hc hd, by
      rw [(pop_later p w c rest).over]; exact h.2⟩)
    (fun w h => ⟨linv_nextIter w h.1, h.2⟩)
    (fun w c rest h hc hcr => ⟨⟨inv1_adv h.1.1 c rest hc hcr,
      cinv_congr h.1.2 rfl id rfl rfl fun _ => id⟩, h.2⟩) n w ⟨h, ho⟩).1

/-- the invariants during `_clean`'s iterations: `LInv` and, as the clock stands still, `Early` -/
def LInvE (p : Prog) (w : W) : Prop := LInv p w ∧ (w.u.over = true → w.sp.tcall = .pending → w.now < p.timeout)

/-- what `LInv` means for a run that stops here -/
structure ChainSem (p : Prog) (w : W) (pre fut : List (SName × Stage)) : Prop where
  pathEq : path p = pre ++ fut
  len : pre.length = w.u.stages.length
  seq : seqOk pre w.u.stages (some 0) = true
  book : Book pre w.u
  recorded : ∀ b, w.sp.success = some b → fut = [] ∧ InTimeP p pre w.u.stages ∧ b = (if w.u.fails then 0 else 1) ∧
    (w.u.fails = true ↔ (∃ x ∈ pre, behOk x.2.beh = false) ∨ w.u.forced = true) ∧ sdOf w.calls = []
  /-- if the timeout has fired, an asynchronous stage was over, or is still to be over, no earlier than that -/
  timedOut : w.sp.tcall = .called →
    allSyncL pre = false ∧ ∀ over, overAt (some 0) pre w.u.stages = some over → p.timeout ≤ over

theorem cinv_meaning {p : Prog} {w : W} (hc : CInv p w) (hi : Inv1 p w) : ∃ pre fut, ChainSem p w pre fut := by
  rcases hc with hc | hc
  · obtain ⟨pre0, n, st, hpath, hlen, hseq, hasync, _, _, hcall, _, hbook, _, hunrec⟩ := hc.ex
    refine ⟨pre0 ++ [(n, st)], future p w.u, hpath, hlen, hseq, hbook, ?_, ?_⟩
    · intro b hb; rw [hunrec] at hb; cases hb
    · -- the Deferred the chain waits for is still to fire, after the timeout
      intro hcalled
      refine ⟨by rw [allSyncL_snoc, hasync]; simp, ?_⟩
      intro over ho
      rw [ho] at hcall
      obtain ⟨c, hc1, hc2⟩ := mem_sdOf (t := over) (r := resOf st.beh) (by rw [hcall]; simp)
      have := hi.ge c hc1
      have := (hi.called hcalled).1
      omega
  · obtain ⟨pre, hpath, hlen, hseq, hnoSD, hbook, _, hfails, hrec, hnone⟩ := hc.ex
    refine ⟨pre, [], by simpa using hpath, hlen, hseq, hbook, ?_, ?_⟩
    · intro b hb
      exact ⟨rfl, (hrec b hb).2, (hrec b hb).1, hfails, hnoSD⟩
    · intro hcalled
      rcases hnone (hi.called hcalled).2.2.1 with ⟨hp, _⟩ | ⟨hsync, over, ho, hle⟩
      · rw [hcalled] at hp; cases hp
      refine ⟨hsync, ?_⟩
      intro over' ho'
      rw [ho] at ho'; injection ho' with ho'; omega

end TTV.Props.C14
