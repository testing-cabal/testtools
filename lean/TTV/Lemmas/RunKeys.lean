import TTV.Lemmas.RunDetailsWalk
/-! `KeyPerm`: where the identities (`ckey`) of the stored contents come from, as a multiset equation kept step by step.
Neither `wf` nor the order of a run occurs here: that the identities are pairwise distinct is concluded from both in
`RunUnique` (`InvAll.keyInv`), and `nodup_contents` is what the clause `mismatch-fixture-details` makes of it. -/
namespace TTV.Run
open TTV.Spec.Run TTV.Spec.C05

/-- identity of a stored content: the content object it was made from / the failed expectation -/
def ckey : Content → Option (Nat × Nat)
  | .user u => some (0, u.id)
  | .frozen i _ => some (0, i)
  | .expectation m => some (1, m)
  | .tb _ => none
  | .reason _ => none

theorem ckey_freeze (k : Nat) (c : Content) : ckey (freeze k c) = ckey c := by
  rcases freeze_cases c with h | ⟨i, rfl⟩
  · rw [h]
  · rfl

theorem ckey_of_isUq (c : Content) (h : isUq c = true) : ∃ key, ckey c = some key := by
  cases c <;> simp_all [isUq, ckey]

def keysU (U : List (DName × Content)) : List (Nat × Nat) := U.filterMap fun x => ckey x.2
def keysA (A : List (DName × UC)) : List (Nat × Nat) := A.map fun x => (0, x.2.id)

def pendingKeys : List Cl → List (Nat × Nat)
  | [] => []
  | .gather _ ds :: r => dictKeys ds ++ pendingKeys r
  | .stage _ :: r => pendingKeys r
  | .unpatch _ _ :: r => pendingKeys r

def fixtureKeys : List Act → List (Nat × Nat)
  | [] => []
  | .useFixture _ ds _ :: as => dictKeys ds ++ fixtureKeys as
  | .cleanup _ :: as => fixtureKeys as
  | .addDetail _ _ :: as => fixtureKeys as
  | .expect _ _ :: as => fixtureKeys as
  | .patch _ _ :: as => fixtureKeys as

theorem keysU_append (a b : List (DName × Content)) : keysU (a ++ b) = keysU a ++ keysU b := by
  simp [keysU]
theorem keysA_append (a b : List (DName × UC)) : keysA (a ++ b) = keysA a ++ keysA b := by
  simp [keysA]

theorem keysU_dict_user (ds : List (DName × UC)) : keysU (ds.map fun x => (x.1, Content.user x.2)) = dictKeys ds := by
  simp [keysU, dictKeys, List.filterMap_map, Function.comp_def, ckey]

theorem keysU_gatherU (k : Nat) (ds : List (DName × UC)) : keysU (gatherU k ds) = dictKeys ds := by
  simp only [keysU, gatherU, dictKeys, List.filterMap_map, Function.comp_def, ckey_freeze]
  simp [ckey]

theorem count_actKeys (as : List Act) (a : Nat × Nat) :
    (actKeys as).count a = (keysA (plainOf as)).count a + (keysU (uqActs as)).count a + (fixtureKeys as).count a := by
  induction as with
  | nil => simp [actKeys, plainOf, uqActs, fixtureKeys, keysA, keysU]
  | cons x as ih =>
    cases x with
    | cleanup s => simpa [actKeys, plainOf, uqActs, fixtureKeys] using ih
    | patch k v => simpa [actKeys, plainOf, uqActs, fixtureKeys] using ih
    | addDetail n c =>
      simp only [actKeys, plainOf, uqActs, fixtureKeys, keysA, List.map_cons, List.count_cons] at ih ⊢
      omega
    | expect mid ds =>
      simp only [actKeys, plainOf, uqActs, fixtureKeys, keysU_append, keysU_dict_user, List.count_append] at ih ⊢
      have : keysU [(nmExpectation, Content.expectation mid)] = [(1, mid)] := rfl
      rw [this]; omega
    | useFixture f ds cu =>
      simp only [actKeys, plainOf, uqActs, fixtureKeys, List.count_append] at ih ⊢
      omega

theorem keys_term (k : Nat) (t : Term) : keysU (uqTerm k t) = termKeys t := by
  cases t with
  | assertFail e ds => exact keysU_dict_user ds
  | fixtureFail ds e ces se => exact keysU_gatherU k ds
  | _ => rfl

theorem pendingKeys_append (a b : List Cl) : pendingKeys (a ++ b) = pendingKeys a ++ pendingKeys b := by
  induction a with
  | nil => rfl
  | cons c a ih => cases c <;> simp [pendingKeys, ih]

theorem count_pendingKeys_pushes (as : List Act) (at_ : List (Nat × Nat)) (a : Nat × Nat) :
    (pendingKeys (pushes as at_)).count a = (fixtureKeys as).count a := by
  induction as generalizing at_ with
  | nil => rfl
  | cons x as ih =>
    cases x <;> simp only [pushes, pendingKeys_append, ih, fixtureKeys, pendingKeys, List.count_append,
      List.append_nil] <;> omega

/-- the identities of everything stored under unique names, attached by plain `addDetail`, or waiting to be gathered are, as a
multiset, those the executed stages supply -/
def KeyPerm (s : RS) (A : List (DName × UC)) (U : List (DName × Content)) : Prop :=
  (keysU U ++ keysA A ++ pendingKeys s.stack).Perm (s.execd.flatMap stageKeys)

theorem KeyPerm.init {p : Program} {ff0 : Bool} : KeyPerm (initRS p ff0) [] [] :=
  List.Perm.nil

theorem KeyPerm.step {s : RS} {A : List (DName × UC)} {U : List (DName × Content)} (h : KeyPerm s A U) (st : Stage)
    (d : Bool) :
    KeyPerm (runStage st d s).1 (A ++ plainOf st.acts) (U ++ stageUq s.clock st) := by
  have hperm : (keysU (U ++ stageUq s.clock st) ++ keysA (A ++ plainOf st.acts) ++
      pendingKeys (runStage st d s).1.stack).Perm ((keysU U ++ keysA A ++ pendingKeys s.stack) ++ stageKeys st) := by
    rw [List.perm_iff_count]
    intro a
    have h1 := count_actKeys st.acts a
    have h2 := count_pendingKeys_pushes st.acts s.attrs a
    simp only [runStage_stack_pushes, pendingKeys_append, stageUq, keysU_append, keysA_append, List.count_append, keys_term,
      stageKeys]
    omega
  unfold KeyPerm
  rw [(runStage_effect st d s).execd, List.flatMap_append]
  simpa using hperm.trans (h.append_right _)

theorem KeyPerm.stepCl {s : RS} {A : List (DName × UC)} {U : List (DName × Content)} (h : KeyPerm s A U) (c : Cl)
    (rest : List Cl) (hs : s.stack = c :: rest) :
    KeyPerm (runCl c { s with stack := rest }) (A ++ clPlain c) (U ++ clUq s.clock c) := by
  unfold KeyPerm at h
  rw [hs] at h
  cases c with
  | stage st =>
    exact KeyPerm.step (s := { s with stack := rest }) h st false
  | gather f ds =>
    refine List.Perm.trans ?_ h
    rw [List.perm_iff_count]
    intro a
    simp only [runCl, clUq, clPlain, keysU_append, keysU_gatherU, List.append_nil, pendingKeys, List.count_append]
    omega
  | unpatch a o => simpa [KeyPerm, runCl, clPlain, clUq, pendingKeys] using h

theorem KeyPerm.forced {s : RS} {A : List (DName × UC)} {U : List (DName × Content)} (h : KeyPerm s A U) :
    KeyPerm (got s forcedFailure) A U := by
  unfold KeyPerm; rw [got_stack, got_execd]; exact h

structure KeyInv (s : RS) (A : List (DName × UC)) (U : List (DName × Content)) : Prop where
  nodup  : (keysU U ++ keysA A ++ pendingKeys s.stack).Nodup
  origin : ∀ k ∈ keysU U ++ keysA A ++ pendingKeys s.stack, ∃ st ∈ s.execd, k ∈ stageKeys st

theorem KeyInv.of_perm {s : RS} {A : List (DName × UC)} {U : List (DName × Content)} (h : KeyPerm s A U)
    (hnd : (s.execd.flatMap stageKeys).Nodup) : KeyInv s A U :=
  ⟨h.nodup_iff.mpr hnd, fun k hk => by simpa only [List.mem_flatMap] using h.mem_iff.mp hk⟩

theorem nodup_contents (k : Nat) : ∀ (U : List (DName × Content)), (∀ x ∈ U, isUq x.2 = true) → (keysU U).Nodup →
    (U.map fun x => freeze k x.2).Nodup
  | [], _, _ => by simp
  | x :: xs, hU, hk => by
    obtain ⟨key, hkey⟩ := ckey_of_isUq x.2 (hU x List.mem_cons_self)
    simp only [keysU, List.filterMap_cons, hkey, List.nodup_cons] at hk
    simp only [List.map_cons, List.nodup_cons]
    refine ⟨?_, nodup_contents k xs (fun y hy => hU y (List.mem_cons_of_mem _ hy)) hk.2⟩
    intro hm
    obtain ⟨y, hy, he⟩ := List.mem_map.mp hm
    apply hk.1
    rw [List.mem_filterMap]
    refine ⟨y, hy, ?_⟩
    have := congrArg ckey he
    rw [ckey_freeze, ckey_freeze] at this
    rw [this, hkey]

end TTV.Run
