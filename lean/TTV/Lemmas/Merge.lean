import TTV.Spec.C13
import TTV.Lemmas.Sched
/-! Interleavings (`Spec.C13.mergeStates`): the breadth-first search of the executable specification finds exactly the
accounts of an observed list as an interleaving of streams (`Path`); with a single non-empty stream an interleaving is a
prefix; an interleaving of whole streams has, for every predicate, as many hits as the streams together. -/
namespace TTV.Merge
open TTV.Spec.C13

variable {α : Type} [BEq α] [LawfulBEq α]

/-- `Path l ss ss'`: consuming the observed list `l` event by event, each from the head of some stream of `ss` (streams are
consumed in their own order), leaves `ss'` -/
inductive Path : List α → List (List α) → List (List α) → Prop
  | nil (ss : List (List α)) : Path [] ss ss
  | cons {e : α} {l : List α} {ss ss' : List (List α)} (k : Nat) (x : α) (xs : List α) :
      ss[k]? = some (x :: xs) → (x == e) = true → Path l (ss.set k xs) ss' → Path (e :: l) ss ss'

theorem mem_addNew (x y : List (List α)) (l : List (List (List α))) : y ∈ addNew x l ↔ y = x ∨ y ∈ l := by
  unfold addNew
  split
  · rename_i h
    have hx : x ∈ l := by simpa using h
    constructor
    · intro hy; exact Or.inr hy
    · rintro (rfl | hy)
      · exact hx
      · exact hy
  · simp

theorem mem_dedupe (y : List (List α)) : ∀ l : List (List (List α)), y ∈ dedupe l ↔ y ∈ l
  | [] => by simp [dedupe]
  | x :: l => by
      have ih := mem_dedupe y l
      simp only [dedupe, List.foldr_cons] at ih ⊢
      rw [mem_addNew, ih]
      simp

omit [LawfulBEq α] in
theorem mem_takeHead (e : α) (ss st : List (List α)) :
    st ∈ takeHead e ss ↔ ∃ k x xs, ss[k]? = some (x :: xs) ∧ (x == e) = true ∧ st = ss.set k xs := by
  unfold takeHead
  simp only [List.mem_filterMap, List.mem_range]
  constructor
  · rintro ⟨k, _, h⟩
    split at h
    · rename_i x xs hk
      split at h
      · rename_i hxe
        exact ⟨k, x, xs, hk, hxe, by simpa using h.symm⟩
      · cases h
    · cases h
  · rintro ⟨k, x, xs, hk, hxe, rfl⟩
    exact ⟨k, (List.getElem_of_getElem? hk).1, by simp [hk, hxe]⟩

theorem mem_mergeStates_of_path : ∀ (l : List α) (sts : List (List (List α))) (st st' : List (List α)),
    st ∈ sts → Path l st st' → st' ∈ mergeStates l sts
  | [], sts, st, st', hm, hp => by cases hp; exact hm
  | e :: l, sts, st, st', hm, hp => by
      cases hp with
      | cons k x xs hk hxe hrest =>
        apply mem_mergeStates_of_path l _ (st.set k xs) st' _ hrest
        rw [mem_dedupe, List.mem_flatMap]
        exact ⟨st, hm, (mem_takeHead e st _).mpr ⟨k, x, xs, hk, hxe, rfl⟩⟩

theorem path_of_mem_mergeStates : ∀ (l : List α) (sts : List (List (List α))) (st' : List (List α)),
    st' ∈ mergeStates l sts → ∃ st ∈ sts, Path l st st'
  | [], sts, st', h => ⟨st', h, .nil _⟩
  | e :: l, sts, st', h => by
      obtain ⟨st1, h1, hp⟩ := path_of_mem_mergeStates l _ st' h
      rw [mem_dedupe, List.mem_flatMap] at h1
      obtain ⟨st, hst, h2⟩ := h1
      obtain ⟨k, x, xs, hk, hxe, rfl⟩ := (mem_takeHead e st st1).mp h2
      exact ⟨st, hst, .cons k x xs hk hxe hp⟩

theorem mem_mergeStates_single (l : List α) (ss st' : List (List α)) : st' ∈ mergeStates l [ss] ↔ Path l ss st' :=
  ⟨fun h => let ⟨_, hst, hp⟩ := path_of_mem_mergeStates l [ss] st' h; List.mem_singleton.mp hst ▸ hp,
    mem_mergeStates_of_path l [ss] ss st' (List.mem_singleton.mpr rfl)⟩

theorem isMergePrefix_iff (l : List α) (ss : List (List α)) : isMergePrefix l ss = true ↔ ∃ ss', Path l ss ss' := by
  simp only [isMergePrefix, Bool.not_eq_true', List.isEmpty_eq_false_iff_exists_mem, mem_mergeStates_single]

theorem isMerge_iff (l : List α) (ss : List (List α)) :
    isMerge l ss = true ↔ ∃ ss', Path l ss ss' ∧ ∀ s ∈ ss', s = [] := by
  simp only [isMerge, List.any_eq_true, List.all_eq_true, List.isEmpty_iff, mem_mergeStates_single]

/-- a list whose elements carry the index of a stream is an interleaving of its per-index sublists: consuming those with a
selected index (the others are dropped) from streams that start with these sublists leaves what came after them.  (For C13: the
list is main's sink, keyed by worker index; selected are the workers given one route code; `rest w` is what `w` has not had delivered.) -/
theorem path_of_keyed {γ : Type} (key : γ → Nat) (sel : Nat → Bool) (f : γ → α) (n : Nat) (rest : Nat → List α) :
    ∀ (L : List γ) (ss : List (List α)), ss.length = n → (∀ a ∈ L, key a < n) →
      (∀ w, w < n → ss[w]? = some (if sel w then (L.filter (key · == w)).map f ++ rest w else [])) →
      ∃ ss', Path ((L.filter fun a => sel (key a)).map f) ss ss' ∧ ss'.length = n ∧
        ∀ w, w < n → ss'[w]? = some (if sel w then rest w else [])
  | [], ss, hl, _, hs => ⟨ss, .nil _, hl, fun w hw => by simpa using hs w hw⟩
  | a :: L, ss, hl, ho, hs => by
      have hoL : ∀ q ∈ L, key q < n := fun q hq => ho q (List.mem_cons_of_mem _ hq)
      cases hsel : sel (key a) with
      | true =>
        have hw0 : key a < n := ho a List.mem_cons_self
        have h0 := hs (key a) hw0
        simp only [hsel, if_true, List.filter_cons, beq_self_eq_true, List.map_cons, List.cons_append] at h0
        obtain ⟨ss', hp, hl', hs'⟩ := path_of_keyed key sel f n rest L
          (ss.set (key a) ((L.filter (key · == key a)).map f ++ rest (key a))) (by simpa using hl) hoL (fun w hw => by
            by_cases hww : key a = w
            · subst hww; rw [List.getElem?_set_self (by omega)]; simp [hsel]
            · rw [List.getElem?_set_ne hww, hs w hw]
              have : (key a == w) = false := by simp [hww]
              simp [this])
        refine ⟨ss', ?_, hl', hs'⟩
        simp only [List.filter_cons, hsel, if_true, List.map_cons]
        exact .cons (key a) _ _ h0 (by simp) hp
      | false =>
        simp only [List.filter_cons, hsel]
        refine path_of_keyed key sel f n rest L ss hl hoL (fun w hw => ?_)
        rw [hs w hw]
        cases hr : sel w with
        | false => rfl
        | true =>
          have : (key a == w) = false := by simp; intro hc; rw [hc, hr] at hsel; cases hsel
          simp [this]

theorem set_of_getElem? {β : Type} {l : List β} {k : Nat} {x : β} (h : l[k]? = some x) : l.set k x = l := by
  obtain ⟨hk, rfl⟩ := List.getElem?_eq_some_iff.mp h
  exact List.set_getElem_self hk

theorem path_single {w : Nat} : ∀ (l : List α) (ss ss' : List (List α)) (s : List α), ss[w]? = some s →
    (∀ j s', j ≠ w → ss[j]? = some s' → s' = []) → Path l ss ss' → ∃ rest, s = l ++ rest ∧ ss' = ss.set w rest
  | [], ss, ss', s, hw, _, hp => by
      cases hp
      exact ⟨s, rfl, (set_of_getElem? hw).symm⟩
  | e :: l, ss, ss', s, hw, ho, hp => by
      cases hp with
      | cons k x xs hk hxe hrest =>
        have hkw : k = w := Decidable.by_contra fun hc => by cases ho k _ hc hk
        subst hkw
        obtain ⟨rest, h1, h2⟩ := path_single l (ss.set k xs) ss' xs (List.getElem?_set_self (List.getElem_of_getElem? hk).1)
          (fun j s' hj hs' => ho j s' hj (by rwa [List.getElem?_set_ne (Ne.symm hj)] at hs')) hrest
        exact ⟨rest, by rw [Option.some.inj (hw.symm.trans hk), h1, eq_of_beq hxe]; rfl, by rw [h2, List.set_set]⟩

theorem path_single_of_prefix {w : Nat} : ∀ (l rest : List α) (ss : List (List α)), ss[w]? = some (l ++ rest) →
    Path l ss (ss.set w rest)
  | [], rest, ss, hw => by
      rw [set_of_getElem? (x := rest) hw]; exact .nil _
  | e :: l, rest, ss, hw => by
      have := path_single_of_prefix l rest (ss.set w (l ++ rest)) (List.getElem?_set_self (List.getElem_of_getElem? hw).1)
      rw [List.set_set] at this
      exact .cons w e (l ++ rest) hw (by simp) this

theorem isMergePrefix_single {w : Nat} {ss : List (List α)} {s : List α} (hw : ss[w]? = some s)
    (ho : ∀ j s', j ≠ w → ss[j]? = some s' → s' = []) (l : List α) : isMergePrefix l ss = true ↔ ∃ rest, s = l ++ rest := by
  rw [isMergePrefix_iff]
  constructor
  · rintro ⟨ss', hp⟩
    obtain ⟨rest, h, _⟩ := path_single l ss ss' s hw ho hp
    exact ⟨rest, h⟩
  · rintro ⟨rest, rfl⟩
    exact ⟨_, path_single_of_prefix l rest ss hw⟩

theorem isMerge_single {w : Nat} {ss : List (List α)} {s : List α} (hw : ss[w]? = some s)
    (ho : ∀ j s', j ≠ w → ss[j]? = some s' → s' = []) (l : List α) : isMerge l ss = true ↔ s = l := by
  have hlt := (List.getElem_of_getElem? hw).1
  rw [isMerge_iff]
  constructor
  · rintro ⟨ss', hp, he⟩
    obtain ⟨rest, h, rfl⟩ := path_single l ss ss' s hw ho hp
    rw [h, he rest (List.mem_of_getElem? (List.getElem?_set_self hlt)), List.append_nil]
  · rintro rfl
    refine ⟨_, path_single_of_prefix s [] ss (by rwa [List.append_nil]), fun s' hs' => ?_⟩
    obtain ⟨j, hj, rfl⟩ := List.getElem_of_mem hs'
    by_cases hjw : j = w
    · subst hjw; rw [List.getElem_set_self]
    · exact ho j _ hjw (by rw [← List.getElem?_set_ne (Ne.symm hjw), List.getElem?_eq_getElem hj])

def total (p : α → Bool) (ss : List (List α)) : Nat := (ss.map (List.countP p)).sum

omit [BEq α] [LawfulBEq α] in
theorem total_set (p : α → Bool) (ss : List (List α)) (k : Nat) (x : α) (xs : List α) (hk : ss[k]? = some (x :: xs)) :
    total p ss = total p (ss.set k xs) + (if p x then 1 else 0) := by
  have := Sched.sum_map_set (List.countP p) xs hk
  rw [List.countP_cons] at this
  unfold total; omega

theorem path_count (p : α → Bool) : ∀ (l : List α) (ss ss' : List (List α)), Path l ss ss' →
    l.countP p + total p ss' = total p ss
  | [], ss, ss', hp => by cases hp; simp
  | e :: l, ss, ss', hp => by
      cases hp with
      | cons k x xs hk hxe hrest =>
        have hxe' : x = e := by simpa using hxe
        subst hxe'
        have ih := path_count p l _ ss' hrest
        rw [total_set p ss k x xs hk, List.countP_cons]
        omega

omit [BEq α] [LawfulBEq α] in
theorem total_empty (p : α → Bool) (ss : List (List α)) (h : ∀ s ∈ ss, s = []) : total p ss = 0 := by
  induction ss with
  | nil => rfl
  | cons s ss ih =>
    have hs : s = [] := h s (by simp)
    have := ih (fun s' hs' => h s' (by simp [hs']))
    simp only [total, List.map_cons, List.sum_cons] at this ⊢
    simp [hs, this]

end TTV.Merge
