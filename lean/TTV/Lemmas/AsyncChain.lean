import TTV.Model.AsyncRun
import TTV.Spec.C14
import TTV.Lemmas.Reactor
/-! The callback chain of `AsynchronousDeferredRunTest` (`TTV.AsyncRun`), one step at a time: `Reach`, what a step of the chain
can do to the world; `Adds` and `Leads`, bounds on what a step adds to the reactor's queue and leaves for the chain still to
schedule (`pot`, by which the loop of `Lemmas/AsyncLoop.lean` terminates).  In the namespace of `Props/C14.lean`. -/
namespace TTV.Props.C14
open TTV.Reactor TTV.AsyncRun TTV.Spec.C14

@[simp] theorem updU_u (f : Chain → Chain) (w : W) : (updU f w).u = f w.u := rfl
@[simp] theorem updU_calls (f : Chain → Chain) (w : W) : (updU f w).calls = w.calls := rfl
@[simp] theorem updU_now (f : Chain → Chain) (w : W) : (updU f w).now = w.now := rfl
@[simp] theorem updU_sp (f : Chain → Chain) (w : W) : (updU f w).sp = w.sp := rfl
@[simp] theorem updU_crashed (f : Chain → Chain) (w : W) : (updU f w).crashed = w.crashed := rfl
@[simp] theorem updU_stopPatched (f : Chain → Chain) (w : W) : (updU f w).stopPatched = w.stopPatched := rfl
@[simp] theorem updU_sels (f : Chain → Chain) (w : W) : (updU f w).sels = w.sels := rfl

theorem finish_eq (c : Chain) : c.finish =
    { c with excs := c.excs ++ c.lastExc.toList ++ (if c.forced then [.fail] else []),
             fails := c.fails || c.lastExc.isSome || c.forced, pos := .done } := by
  cases c with | mk _ _ _ _ _ lastExc forced => cases lastExc <;> cases forced <;> simp [Chain.finish]

theorem Chain.finish_pos (c : Chain) : c.finish.pos = .done := rfl

theorem finish_over (c : Chain) : c.finish.over = c.over := by rw [finish_eq]

theorem register_eq (cs : List Stage) (c : Chain) : Chain.register cs c =
    { c with stack := (number c.nextCleanup cs).reverse ++ c.stack, nextCleanup := c.nextCleanup + cs.length } := by
  induction cs generalizing c with
  | nil => rfl
  | cons s rest ih =>
    rw [Chain.register, List.foldl_cons, ← Chain.register, ih]
    simp [number, Nat.add_assoc, Nat.add_comm 1]

theorem register_stack (cs : List Stage) (c : Chain) :
    (Chain.register cs c).stack = (number c.nextCleanup cs).reverse ++ c.stack := by rw [register_eq]
theorem register_nextCleanup (cs : List Stage) (c : Chain) :
    (Chain.register cs c).nextCleanup = c.nextCleanup + cs.length := by rw [register_eq]
theorem register_pos (cs : List Stage) (c : Chain) : (Chain.register cs c).pos = c.pos := by rw [register_eq]

theorem noteMain_stack (r : Option Exc) (c : Chain) : (Chain.noteMain r c).stack = c.stack := by cases r <;> rfl
theorem noteMain_nextCleanup (r : Option Exc) (c : Chain) : (Chain.noteMain r c).nextCleanup = c.nextCleanup := by
  cases r <;> rfl
theorem noteCleanup_stack (r : Option Exc) (c : Chain) : (Chain.noteCleanup r c).stack = c.stack := by cases r <;> rfl
theorem noteCleanup_nextCleanup (r : Option Exc) (c : Chain) : (Chain.noteCleanup r c).nextCleanup = c.nextCleanup := by
  cases r <;> rfl

/-- the fields the invariants of the loop read (`inv1_reach`, `upd_later`).  Every update the chain makes is one, but the logging of a
stage. -/
def Keeps (f : Chain → Chain) : Prop :=
  ∀ c, (f c).observers = c.observers ∧ (f c).iter = c.iter ∧ (f c).stages = c.stages ∧ (f c).live = c.live ∧ (f c).over = c.over

theorem side_keeps (s : Side) : Keeps (Chain.side s) := fun c => by cases s <;> exact ⟨rfl, rfl, rfl, rfl, rfl⟩
theorem finish_keeps : Keeps Chain.finish := fun c => by rw [finish_eq]; exact ⟨rfl, rfl, rfl, rfl, rfl⟩
theorem noteMain_keeps (r : Option Exc) : Keeps (Chain.noteMain r) := fun c => by cases r <;> exact ⟨rfl, rfl, rfl, rfl, rfl⟩
theorem noteCleanup_keeps (r : Option Exc) : Keeps (Chain.noteCleanup r) := fun c => by cases r <;> exact ⟨rfl, rfl, rfl, rfl, rfl⟩
theorem register_keeps (cs : List Stage) : Keeps (Chain.register cs) := fun c => by
  rw [register_eq]; exact ⟨rfl, rfl, rfl, rfl, rfl⟩
theorem pos_keeps (q : Pos) : Keeps (fun u => { u with pos := q }) := fun _ => ⟨rfl, rfl, rfl, rfl, rfl⟩
theorem stack_keeps (rest : List (Nat × Stage)) : Keeps (fun u => { u with stack := rest }) := fun _ => ⟨rfl, rfl, rfl, rfl, rfl⟩
theorem register_observers (cs : List Stage) (c : Chain) : (Chain.register cs c).observers = c.observers :=
  (register_keeps cs c).1

/-- `Reach w w'`: the chain gets from `w` to `w'` by a sequence of its four primitive moves.  The side conditions of `sched` (no `stop`,
a time `≥ now`, the number of the iteration in progress) are those under which a scheduled call keeps the queue's invariant (`inv1_sched`) -/
inductive Reach : W → W → Prop
  | refl (w : W) : Reach w w
  | log {w w' : W} (n : SName) : Reach (updU (Chain.log n w.now w.running) w) w' → Reach w w'
  | upd {w w' : W} {f : Chain → Chain} (hf : Keeps f) : Reach (updU f w) w' → Reach w w'
  | sched {w w' : W} (d : Nat) (a : CAct) (ha : a ≠ .stop) :
      Reach (schedule (w.now + d) (.user w.u.iter a) w) w' → Reach w w'
  | deliv {w w' : W} (b : Nat) : Reach (deliver (.value b) w) w' → Reach w w'

theorem Reach.trans {w w1 w2 : W} (h1 : Reach w w1) (h2 : Reach w1 w2) : Reach w w2 := by
  induction h1 with
  | refl w => exact h2
  | log n _ ih => exact .log n (ih h2)
  | upd hf _ ih => exact .upd hf (ih h2)
  | sched d a ha _ ih => exact .sched d a ha (ih h2)
  | deliv b _ ih => exact .deliv b (ih h2)

theorem Reach.inv (P : W → Prop) (hlog : ∀ (w : W) (n : SName), P w → P (updU (Chain.log n w.now w.running) w))
    (hupd : ∀ (w : W) (f : Chain → Chain), Keeps f → P w → P (updU f w))
    (hs : ∀ (w : W) (d : Nat) (a : CAct), a ≠ CAct.stop → P w → P (schedule (w.now + d) (.user w.u.iter a) w))
    (hd : ∀ (w : W) (b : Nat), P w → P (deliver (.value b) w)) {w w' : W} (h : Reach w w') : P w → P w' := by
  induction h with
  | refl w => exact id
  | log n _ ih => exact fun hw => ih (hlog _ n hw)
  | upd hf _ ih => exact fun hw => ih (hupd _ _ hf hw)
  | sched d a ha _ ih => exact fun hw => ih (hs _ d a ha hw)
  | deliv b _ ih => exact fun hw => ih (hd _ b hw)

structure Adds (k : Nat) (w w' : W) : Prop where
  reach : Reach w w'
  le : w'.calls.length ≤ w.calls.length + k

/-- 1 also for a side effect that schedules nothing: `Stage.calls` budgets `sides.length` -/
theorem doSide_adds (s : Side) (w : W) : Adds 1 w (doSide s w) := by
  cases s with
  | junk d => exact ⟨.sched d .noop (by simp) (.refl _), by simp [doSide, insert_length]⟩
  | _ => exact ⟨.upd (side_keeps _) (.refl _), Nat.le_succ _⟩

theorem sides_adds : ∀ (sides : List Side) (w : W), Adds sides.length w (sides.foldl (fun w s => doSide s w) w)
  | [], w => ⟨.refl w, Nat.le_refl _⟩
  | s :: rest, w => by
      obtain ⟨r1, l1⟩ := doSide_adds s w
      obtain ⟨r2, l2⟩ := sides_adds rest (doSide s w)
      exact ⟨r1.trans r2, by simp only [List.foldl_cons, List.length_cons]; omega⟩

theorem launch_adds (n : SName) (st : Stage) (w : W) : Adds (st.sides.length + 1) w (launch n st w) := by
  obtain ⟨hr, hl⟩ := sides_adds st.sides (updU (Chain.log n w.now w.running) w)
  have hr := Reach.log n hr
  simp only [launch]
  cases st.beh with
  | fire d | failD d k =>
    exact ⟨hr.trans (.sched d _ (by simp) (.refl _)), by rw [schedule_calls, insert_length]; exact Nat.succ_le_succ hl⟩
  | _ => exact ⟨hr, Nat.le_succ_of_le hl⟩

theorem finishChain_over {w : W} (h : w.u.over = true) : finishChain w = updU Chain.finish w := by
  have : (updU Chain.finish w).u.over = true := (finish_over w.u).trans h
  simp only [finishChain, this, if_true]

theorem finishChain_not_over {w : W} (h : w.u.over = false) :
    finishChain w = deliver (.value (if w.u.finish.fails then 0 else 1)) (updU Chain.finish w) := by
  have : (updU Chain.finish w).u.over = false := (finish_over w.u).trans h
  simp only [finishChain, this, Bool.false_eq_true, if_false]
  rfl

theorem finishChain_u (w : W) : (finishChain w).u = Chain.finish w.u := by
  cases h : w.u.over with
  | true => rw [finishChain_over h]; rfl
  | false => rw [finishChain_not_over h]; simp

theorem finishChain_adds (w : W) : Adds 0 w (finishChain w) := by
  cases h : w.u.over with
  | true => rw [finishChain_over h]; exact ⟨.upd finish_keeps (.refl _), Nat.le_refl _⟩
  | false => rw [finishChain_not_over h]; exact ⟨.upd finish_keeps (.deliv _ (.refl _)), deliver_calls_le _ _⟩

theorem sides_u (sides : List Side) (w : W) :
    (sides.foldl (fun w s => doSide s w) w).u = sides.foldl (fun c s => Chain.side s c) w.u := by
  induction sides generalizing w with
  | nil => rfl
  | cons s rest ih => rw [List.foldl_cons, ih]; cases s <;> rfl

theorem sidesC_frame (sides : List Side) (c : Chain) :
    sides.foldl (fun c s => Chain.side s c) c =
      { c with forced := (sides.foldl (fun c s => Chain.side s c) c).forced,
               logged := (sides.foldl (fun c s => Chain.side s c) c).logged,
               dropped := (sides.foldl (fun c s => Chain.side s c) c).dropped } := by
  induction sides generalizing c with
  | nil => rfl
  | cons s rest ih => rw [List.foldl_cons, ih]; cases s <;> rfl

theorem launch_u (n : SName) (st : Stage) (w : W) :
    (launch n st w).u = st.sides.foldl (fun c s => Chain.side s c) (Chain.log n w.now w.running w.u) := by
  simp only [launch]
  cases st.beh <;> simp [sides_u]

theorem launch_frame (n : SName) (st : Stage) (w : W) :
    (launch n st w).u =
      { w.u with stages := w.u.stages ++ [(n, w.now, w.u.observers.length)], live := w.u.live ++ [w.running],
                 forced := (launch n st w).u.forced, logged := (launch n st w).u.logged,
                 dropped := (launch n st w).u.dropped } := by
  rw [launch_u, sidesC_frame]; rfl

theorem launch_stack (n : SName) (st : Stage) (w : W) : (launch n st w).u.stack = w.u.stack := by rw [launch_frame]
theorem launch_nextCleanup (n : SName) (st : Stage) (w : W) : (launch n st w).u.nextCleanup = w.u.nextCleanup := by
  rw [launch_frame]

theorem launch_stages (n : SName) (st : Stage) (w : W) :
    (launch n st w).u.stages = w.u.stages ++ [(n, w.now, w.u.observers.length)] := by rw [launch_frame]

/-- the one shape of `startSetUp`, `startBody`, `startTearDown` and the step of `runCleanups` -/
def runStage (n : SName) (st : Stage) (q : Pos) (after : Option Exc → W → W) (w : W) : W :=
  match statusOf st.beh with
  | .completed r => after r (launch n st (updU (Chain.register st.cleanups) w))
  | .pending => updU (fun u => { u with pos := q }) (launch n st (updU (Chain.register st.cleanups) w))

theorem startSetUp_eq (p : Prog) : startSetUp p = runStage .setUp p.setUp .setUp (afterSetUp p) := rfl
theorem startBody_eq (p : Prog) : startBody p = runStage .body p.body .body (afterBody p) := rfl
theorem startTearDown_eq (p : Prog) : startTearDown p = runStage .tearDown p.tearDown .tearDown afterTearDown := rfl
theorem runCleanups_cons {n : Nat} {w : W} {i : Nat} {c : Stage} {rest : List (Nat × Stage)} (h : w.u.stack = (i, c) :: rest) :
    runCleanups (n + 1) w = runStage (.cleanup i) c .cleanup (fun r w => runCleanups n (updU (Chain.noteCleanup r) w))
      (updU (fun u => { u with stack := rest }) w) := by
  simp only [runCleanups, h]; rfl

def stackCalls (stack : List (Nat × Stage)) : Nat := (stack.map fun ic => ic.2.calls).sum

theorem stage_calls_eq (st : Stage) : st.calls = st.sides.length + 1 + callsL st.cleanups := by
  cases st; simp [Stage.calls, Stage.sides, Stage.cleanups]

theorem stage_size_eq (st : Stage) : st.size = 1 + sizeL st.cleanups := by
  cases st; simp [Stage.size, Stage.cleanups]

theorem stackCalls_push (i : Nat) (cs : List Stage) (rest : List (Nat × Stage)) :
    stackCalls ((number i cs).reverse ++ rest) = callsL cs + stackCalls rest := by
  induction cs generalizing i rest with
  | nil => exact (Nat.zero_add _).symm
  | cons c cs ih =>
    rw [number, List.reverse_cons, List.append_assoc, ih]
    simp only [stackCalls, callsL, List.singleton_append, List.map_cons, List.sum_cons]
    omega

theorem stackSize_push (i : Nat) (cs : List Stage) (rest : List (Nat × Stage)) :
    stackSize ((number i cs).reverse ++ rest) = sizeL cs + stackSize rest := by
  induction cs generalizing i rest with
  | nil => exact (Nat.zero_add _).symm
  | cons c cs ih =>
    rw [number, List.reverse_cons, List.append_assoc, ih]
    simp only [stackSize, sizeL, List.singleton_append, List.map_cons, List.sum_cons]
    omega

/-- the stack once `c` has been popped and its cleanups pushed: one unit of fuel less suffices for it (`runCleanups`, `expand`) -/
theorem stackSize_pop_push {n i : Nat} (next : Nat) {c : Stage} {rest : List (Nat × Stage)}
    (hn : stackSize ((i, c) :: rest) < n + 1) : stackSize ((number next c.cleanups).reverse ++ rest) < n := by
  have hsz := stage_size_eq c
  have : stackSize ((i, c) :: rest) = c.size + stackSize rest := by simp [stackSize]
  rw [stackSize_push]; omega

/-- what the chain may still schedule, by where it waits -/
def rem (p : Prog) (c : Chain) : Nat :=
  match c.pos with
  | .setUp => p.body.calls + p.tearDown.calls + stackCalls c.stack
  | .body => p.tearDown.calls + stackCalls c.stack
  | .tearDown | .cleanup => stackCalls c.stack
  | _ => 0

/-- the measure by which the loop ends -/
def pot (p : Prog) (w : W) : Nat := w.calls.length + rem p w.u

/-- `K`, the budget of the main stages that are still to come after the step (`pos` changes during the step, so the bound is against the
stack and `K`, not against `rem p w.u`) -/
structure Leads (p : Prog) (K : Nat) (w w' : W) : Prop where
  reach : Reach w w'
  le : pot p w' ≤ w.calls.length + stackCalls w.u.stack + K

theorem runStage_leads (p : Prog) {n : SName} {st : Stage} {q : Pos} {after : Option Exc → W → W} {K : Nat} (w : W)
    (hq : ∀ c : Chain, rem p { c with pos := q } ≤ stackCalls c.stack + K)
    (hafter : ∀ r (w' : W), w'.u.stack = (number w.u.nextCleanup st.cleanups).reverse ++ w.u.stack → Leads p K w' (after r w')) :
    Leads p (st.calls + K) w (runStage n st q after w) := by
  obtain ⟨hl, hlen⟩ := launch_adds n st (updU (Chain.register st.cleanups) w)
  have hstack := (launch_stack n st (updU (Chain.register st.cleanups) w)).trans (register_stack st.cleanups w.u)
  have hst := stackCalls_push w.u.nextCleanup st.cleanups w.u.stack
  rw [← hstack] at hst
  have hc := stage_calls_eq st
  have hr : Reach w (launch n st (updU (Chain.register st.cleanups) w)) := .upd (register_keeps _) hl
  simp only [updU_calls] at hlen
  unfold runStage
  cases statusOf st.beh with
  | completed r =>
    obtain ⟨h1, h2⟩ := hafter r _ hstack
    exact ⟨hr.trans h1, by dsimp only; omega⟩
  | pending =>
    have h2 := hq (launch n st (updU (Chain.register st.cleanups) w)).u
    exact ⟨hr.trans (.upd (pos_keeps q) (.refl _)), by simp only [pot, updU_calls, updU_u]; omega⟩

theorem Leads.of_upd {p : Prog} {K : Nat} {w w' : W} {f : Chain → Chain} (hf : Keeps f) (hs : (f w.u).stack = w.u.stack)
    (h : Leads p K (updU f w) w') : Leads p K w w' := by
  have := h.le
  rw [updU_u, hs] at this
  exact ⟨.upd hf h.reach, this⟩

theorem runCleanups_leads (p : Prog) : ∀ (n : Nat) (w : W), stackSize w.u.stack < n → Leads p 0 w (runCleanups n w)
  | 0, _, h => by omega
  | n + 1, w, hn => by
      cases hst : w.u.stack with
      | nil =>
        obtain ⟨hr, hl⟩ := finishChain_adds w
        simp only [runCleanups, hst]
        exact ⟨hr, by simp only [pot, rem, finishChain_u, Chain.finish_pos]; omega⟩
      | cons ic rest =>
        obtain ⟨i, c⟩ := ic
        rw [runCleanups_cons hst]
        have h := runStage_leads p (n := .cleanup i) (st := c) (q := .cleanup) (K := 0) (updU (fun u => { u with stack := rest }) w)
          (after := fun r w => runCleanups n (updU (Chain.noteCleanup r) w)) (fun _ => Nat.le_refl _) (fun r w' hw' =>
            (runCleanups_leads p n (updU (Chain.noteCleanup r) w') (by
              rw [updU_u, noteCleanup_stack, hw']
              exact stackSize_pop_push _ (hst ▸ hn))).of_upd (noteCleanup_keeps r) (noteCleanup_stack r _))
        exact ⟨.upd (stack_keeps rest) h.reach, by have := h.le; simp [stackCalls, hst] at this ⊢; omega⟩

theorem cleanUp_leads (p : Prog) (w : W) : Leads p 0 w (cleanUp w) :=
  runCleanups_leads p _ w (Nat.lt_succ_self _)

theorem afterCleanup_leads (p : Prog) (r : Option Exc) (w : W) : Leads p 0 w (afterCleanup r w) :=
  (cleanUp_leads p _).of_upd (noteCleanup_keeps r) (noteCleanup_stack r _)

theorem afterTearDown_leads (p : Prog) (r : Option Exc) (w : W) : Leads p 0 w (afterTearDown r w) :=
  (cleanUp_leads p _).of_upd (noteMain_keeps r) (noteMain_stack r _)

theorem startTearDown_leads (p : Prog) (w : W) : Leads p p.tearDown.calls w (startTearDown p w) :=
  startTearDown_eq p ▸ runStage_leads p (K := 0) w (fun _ => Nat.le_refl _) (fun r w' _ => afterTearDown_leads p r w')

theorem afterBody_leads (p : Prog) (r : Option Exc) (w : W) : Leads p p.tearDown.calls w (afterBody p r w) :=
  (startTearDown_leads p _).of_upd (noteMain_keeps r) (noteMain_stack r _)

theorem startBody_leads (p : Prog) (w : W) : Leads p (p.body.calls + p.tearDown.calls) w (startBody p w) :=
  startBody_eq p ▸ runStage_leads p w (fun c => by simp only [rem]; omega) (fun r w' _ => afterBody_leads p r w')

theorem afterSetUp_leads (p : Prog) (r : Option Exc) (w : W) :
    Leads p (p.body.calls + p.tearDown.calls) w (afterSetUp p r w) := by
  cases r with
  | none => exact startBody_leads p w
  | some e =>
    -- `afterSetUp p (some e)` and `afterTearDown (some e)` are the same term: `Chain.caught e` is `Chain.noteMain (some e)`
    obtain ⟨hr, hl⟩ := afterTearDown_leads p (some e) w
    exact ⟨hr, Nat.le_trans hl (Nat.add_le_add_left (Nat.zero_le _) _)⟩

theorem startSetUp_leads (p : Prog) (w : W) :
    Leads p (p.setUp.calls + (p.body.calls + p.tearDown.calls)) w (startSetUp p w) :=
  startSetUp_eq p ▸ runStage_leads p w (fun c => by simp only [rem]; omega) (fun r w' _ => afterSetUp_leads p r w')

theorem resume_pot_le (p : Prog) (r : Option Exc) (w : W) : Reach w (resume p r w) ∧ pot p (resume p r w) ≤ pot p w := by
  show _ ∧ _ ≤ w.calls.length + rem p w.u
  cases hpos : w.u.pos <;> simp only [resume, rem, hpos]
  case setUp => exact ⟨(afterSetUp_leads p r w).reach, Nat.le_trans (afterSetUp_leads p r w).le (by omega)⟩
  case body => exact ⟨(afterBody_leads p r w).reach, Nat.le_trans (afterBody_leads p r w).le (by omega)⟩
  case tearDown => exact ⟨(afterTearDown_leads p r w).reach, (afterTearDown_leads p r w).le⟩
  case cleanup => exact ⟨(afterCleanup_leads p r w).reach, (afterCleanup_leads p r w).le⟩
  all_goals exact ⟨.refl w, by simp [pot, rem, hpos]⟩

end TTV.Props.C14
