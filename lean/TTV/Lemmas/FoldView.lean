import TTV.Model.Result
/-! The two steps shared by the invariants "every node of the graph has received the history, as seen through the
adapters above it" (`Reach` in C08, `TReach` in C17).  `π` reads a list of calls in the terms the property measures in
(`testEvs`, `tevs`). -/
namespace TTV.Lemmas.FoldView
open TTV.Result

variable {α : Type} (π : List Call → List α)

/-- Used at an adapter node of the recursion over the graph, where `f` is the adapter's step and `h1` comes from the
theorem itself for the adapter's target (which takes a list of calls for the one call `c`); at a leaf, with `R` a reading
of its log (`foldl_log` in C08). -/
theorem foldl_view {σ : Type} {f : σ → Call → σ} (happ : ∀ a b, π (a ++ b) = π a ++ π b)
    {R : σ → List α → Prop} (h1 : ∀ st e c, R st e → R (f st c) (e ++ π [c])) :
    ∀ cs st e, R st e → R (cs.foldl f st) (e ++ π cs)
  | [], _, e, h => by
      have hnil : π [] = [] := List.self_eq_append_right.mp (happ [] [])
      rwa [hnil, List.append_nil]
  | c :: cs, st, e, h => by
      have hc : π (c :: cs) = π [c] ++ π cs := happ [c] cs
      rw [hc, ← List.append_assoc]
      exact foldl_view happ h1 cs _ _ (h1 st e c h)

/-- The leaf case: hypothesis and conclusion are `LeafReach` of C08, `LeafT` of C17 spelled out. -/
theorem run_view (happ : ∀ a b, π (a ++ b) = π a ++ π b) (s : Shape) : ∀ (cs : List Call) (st : St s) (e : List α),
    (∃ cs0, st = run s (init s) cs0 ∧ π cs0 = e) →
    ∃ cs1, cs.foldl (step s) st = run s (init s) cs1 ∧ π cs1 = e ++ π cs
  | cs, _, _, ⟨cs0, rfl, rfl⟩ => ⟨cs0 ++ cs, (List.foldl_append ..).symm, happ cs0 cs⟩

end TTV.Lemmas.FoldView
