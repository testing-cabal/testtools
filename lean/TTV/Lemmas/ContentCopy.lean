import TTV.Model.Content
import TTV.Spec.C16
/-! Lemmas for C16: `_copy_content` histories.  Along a history the copies the model holds are the snapshots the specification
replays (`copyRun_snapshots`); clause `snapshot` is that invariant started with no copies. -/
namespace TTV.Lemmas.ContentCopy
open TTV.Content TTV.Spec.C16

theorem copyRun_length : ∀ (ops : List CopyOp) (s : CopySt), (copyRun s ops).length = ops.length
  | [], _ => rfl
  | op :: ops, s => by simp [copyRun, copyRun_length ops]

/-- `S` = all snapshots of the whole history -/
theorem copyRun_snapshots : ∀ (ops : List CopyOp) (cur : List Bytes) (copies S : List (List Bytes)),
    S = copies ++ snapshots cur ops →
    (zip4 ops (curAt cur ops) (copiesBefore copies.length ops) (copyRun ⟨cur, copies⟩ ops)).all
      (fun q => obsOk S q.1 q.2.1 q.2.2.1 q.2.2.2) = true
  | [], _, _, _, _ => rfl
  | .set cs :: ops, _, copies, S, hS => copyRun_snapshots ops cs copies S hS
  | .copy :: ops, cur, copies, S, hS => by
    have := copyRun_snapshots ops cur (copies ++ [cur]) S (by rw [hS, List.append_assoc]; rfl)
    rw [List.length_append] at this
    exact this
  | .readOrig :: ops, cur, copies, S, hS =>
    Bool.and_eq_true_iff.2 ⟨beq_self_eq_true (some cur), copyRun_snapshots ops cur copies S hS⟩
  | .readCopy k :: ops, cur, copies, S, hS => by
    refine Bool.and_eq_true_iff.2 ⟨?_, copyRun_snapshots ops cur copies S hS⟩
    show (if k < copies.length then (copies[k]? == S[k]? && (0 == 0)) else copies[k]?.isNone) = true
    by_cases hk : k < copies.length
    · rw [if_pos hk, hS, List.getElem?_append_left hk]; simp
    · rw [if_neg hk, List.getElem?_eq_none (Nat.le_of_not_lt hk)]; rfl

theorem model_snapshot (init : List Bytes) (ops : List CopyOp) :
    cSnapshot (.copy init ops) (.copy (copyRun ⟨init, []⟩ ops)) = true := by
  simp only [cSnapshot, copyRun_length, beq_self_eq_true, Bool.true_and]
  exact copyRun_snapshots ops init [] _ (by simp)

end TTV.Lemmas.ContentCopy
