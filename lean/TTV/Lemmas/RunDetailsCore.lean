import TTV.Lemmas.RunDetailsWalk
import TTV.Lemmas.RunInv
/-! The details invariant `InvD` of a run state: kept by stages, by popped cleanups and by the forced failure.  `wf` enters
here, as "no name that user code supplies is `reason`": for the stage being run (`namesOk_of_wf`) and for the fixture
details it leaves on the stack (`GatherOk`). -/
namespace TTV.Run
open TTV.Spec.Run TTV.Spec.C05

/-- tracebacks a stage reports besides those of the exceptions it hands to the runner: the assertion
behind `expectFailure`, the failure caught by the expectedFailure decorator -/
def extraTbs (p : Program) (st : Stage) : List Exc := tbTerm st.term ++ decoTb (decoOf p st) st.term

theorem mem_dictsOf_expect (st : Stage) (mid : Nat) (ds : List (DName × UC)) (h : Act.expect mid ds ∈ st.acts) :
    ds ∈ dictsOf st :=
  List.mem_append_left _ (List.mem_filterMap.mpr ⟨_, h, rfl⟩)

theorem mem_dictsOf_fixture (st : Stage) (f : Nat) (ds : List (DName × UC)) (cu : Stage)
    (h : Act.useFixture f ds cu ∈ st.acts) : ds ∈ dictsOf st :=
  List.mem_append_left _ (List.mem_filterMap.mpr ⟨_, h, rfl⟩)

theorem mem_dictsOf_term (st : Stage) (x : DName × UC) (h : x ∈ termDict st.term) : ∃ ds ∈ dictsOf st, x ∈ ds := by
  unfold dictsOf
  cases ht : st.term <;> rw [ht] at h <;> simp [termDict] at h
  · exact ⟨_, List.mem_append_right _ (by simp), h⟩
  · exact ⟨_, List.mem_append_right _ (by simp), h⟩

theorem mem_userNames_of_dict {st : Stage} {ds : List (DName × UC)} {x : DName × UC} (hds : ds ∈ dictsOf st)
    (hx : x ∈ ds) : x.1 ∈ userNames st :=
  List.mem_append_right _ (List.mem_flatMap.mpr ⟨ds, hds, List.mem_map_of_mem hx⟩)

theorem namesOk_of_wf (p : Program) (hwf : wf p = true) (st : Stage) (hst : st ∈ allStages p) : NamesOk st := by
  have hn := wf_names p hwf st hst
  refine ⟨fun n h => hn n (List.mem_append_left _ h),
    fun mid ds hm x hx => hn _ (mem_userNames_of_dict (mem_dictsOf_expect st mid ds hm) hx), fun x hx => ?_⟩
  obtain ⟨ds, hds, hxd⟩ := mem_dictsOf_term st x hx
  exact hn _ (mem_userNames_of_dict hds hxd)

/-- `InvD.tperm` over a step: `T` lists the tracebacks in the order they were reported, a stage's extra ones (`extra'`) before
those of its exceptions (`excs'`); the right side keeps the two kinds apart -/
theorem perm_shuffle {α : Type} {T excs extra extra' excs' : List α} (h : T.Perm (excs ++ extra)) :
    (T ++ (extra' ++ excs')).Perm ((excs ++ excs') ++ (extra ++ extra')) := by
  have h1 : (T ++ (extra' ++ excs')).Perm ((excs ++ extra) ++ (extra' ++ excs')) := h.append_right _
  refine h1.trans ?_
  simp only [List.append_assoc]
  apply List.Perm.append_left
  rw [← List.append_assoc]
  exact List.perm_append_comm

/-- no detail waiting on the stack to be gathered is named `reason`: `JS.onGather` needs that when the entry is popped; `wf`
gives it when the stage that uses the fixture pushes the entry (`InvD.step`) -/
def GatherOk (s : RS) : Prop := ∀ f ds, Cl.gather f ds ∈ s.stack → ∀ x ∈ ds, x.1 ≠ nmReason

/-- `J` with its ghosts tied to the run: `T` is, as a multiset, the tracebacks due for what was recorded and executed so far, `A`
the plain `addDetail`s of the executed stages.  `tperm` is a permutation and no equation because `T` has the tracebacks in
the order of the dict, stage by stage (`stageTbs`), while the right side groups them as the spec's `requiredTbs` does:
those of the recorded exceptions, then the extra ones. -/
structure InvD (p : Program) (s : RS) (T : List Exc) (A : List (DName × UC)) (U : List (DName × Content)) : Prop where
  js     : JS s T A U
  tperm  : T.Perm (tbFilter s.excs ++ s.execd.flatMap (extraTbs p))
  adds   : A = s.execd.flatMap fun st => plainOf st.acts
  gather : GatherOk s
  clock  : s.clock = s.execd.length

theorem InvD.init {p : Program} {ff0 : Bool} : InvD p (initRS p ff0) [] [] [] :=
  ⟨J.init, .nil, rfl, nofun, rfl⟩

theorem stageTbs_eq (p : Program) (st : Stage) :
    stageTbs (decoOf p st) st = extraTbs p st ++ tbFilter (stageExcs p st) := by
  simp [stageTbs, extraTbs, excsD_decoOf]

theorem InvD.step {p : Program} {s : RS} {T : List Exc} {A : List (DName × UC)} {U : List (DName × Content)}
    (hwf : wf p = true) (h : InvD p s T A U) (st : Stage) (hst : st ∈ allStages p) :
    InvD p (runStage st (decoOf p st) s).1 (T ++ stageTbs (decoOf p st) st) (A ++ plainOf st.acts)
      (U ++ stageUq s.clock st) := by
  have e := runStage_effect st (decoOf p st) s
  refine ⟨JS.onStage st _ h.js (namesOk_of_wf p hwf st hst), ?_, ?_, ?_, ?_⟩
  · rw [e.excs, e.execd, stageTbs_eq, excsD_decoOf, tbFilter_append, List.flatMap_append]
    simp only [List.flatMap_cons, List.flatMap_nil, List.append_nil]
    exact perm_shuffle h.tperm
  · rw [e.execd, h.adds]; simp
  · intro f ds hm x hx
    rw [runStage_stack_pushes, List.mem_append] at hm
    rcases hm.imp_left (gather_mem_pushes _ _) with ⟨cu, hc⟩ | hc
    · exact wf_names p hwf st hst _ (mem_userNames_of_dict (mem_dictsOf_fixture st f ds cu hc) hx)
    · exact h.gather f ds hc x hx
  · rw [e.clock, e.execd, h.clock]; simp

theorem InvD.pop {p : Program} {s : RS} {T : List Exc} {A : List (DName × UC)} {U : List (DName × Content)}
    (h : InvD p s T A U) (c : Cl) (rest : List Cl) (hs : s.stack = c :: rest) : InvD p { s with stack := rest } T A U :=
  { h with
    js := h.js.frame rfl rfl rfl
    gather := fun f ds hm => h.gather f ds (by rw [hs]; exact List.mem_cons_of_mem _ hm) }

theorem InvD.stepCl {p : Program} {ff0 : Bool} {s : RS} {T : List Exc} {A : List (DName × UC)} {U : List (DName × Content)}
    (hwf : wf p = true) (hinv : Inv p ff0 s) (h : InvD p s T A U) (c : Cl) (rest : List Cl) (hs : s.stack = c :: rest) :
    InvD p (runCl c { s with stack := rest }) (T ++ clTbs c) (A ++ clPlain c) (U ++ clUq s.clock c) := by
  have h0 := h.pop c rest hs
  cases c with
  | stage st =>
    have hn : st ∈ nested p := hinv.stackIn st (by rw [hs]; exact List.mem_cons_self)
    have hd := decoOf_nested p hwf st hn
    have := h0.step hwf st (nested_sub_all p st hn)
    rw [hd] at this
    simp only [runCl, clTbs, clPlain, clUq]
    -- `runCl` also notes the stage in `ran`, of which `InvD` reads nothing
    exact { this with js := this.js.frame rfl rfl rfl }
  | gather f ds =>
    simpa only [clTbs, clPlain, clUq, List.append_nil] using
      ({ h0 with js := h0.js.onGather f ds (h.gather f ds (by rw [hs]; exact List.mem_cons_self)) } :
        InvD p (runCl (.gather f ds) { s with stack := rest }) T A (U ++ gatherU s.clock ds))
  | unpatch a o =>
    simpa only [clTbs, clPlain, clUq, List.append_nil] using
      ({ h0 with js := h0.js.frame rfl rfl rfl } : InvD p (runCl (.unpatch a o) { s with stack := rest }) T A U)

theorem InvD.forced {p : Program} {s : RS} {T : List Exc} {A : List (DName × UC)} {U : List (DName × Content)}
    (h : InvD p s T A U) : InvD p (got s forcedFailure) (T ++ tbFilter [forcedFailure]) A U := by
  refine ⟨h.js.onGot _, ?_, ?_, ?_, ?_⟩
  · rw [got_excs, got_execd, tbFilter_append]
    have := perm_shuffle (extra' := []) (excs' := tbFilter [forcedFailure]) h.tperm
    simpa using this
  · rw [got_execd]; exact h.adds
  · intro f ds hm; rw [got_stack] at hm; exact h.gather f ds hm
  · rw [got_clock, got_execd]; exact h.clock

end TTV.Run
