import TTV.Model.Result
import TTV.Spec.C17
import TTV.Lemmas.TagSet
/-! The tag-relevant alphabet of calls `TEv`; the notions of `Spec.C17` read on it, each with the lemma that says so; the
views of a history through the adapters; and one fact about the two that buffer (`view_shows`): the target of a
`ThreadsafeForwardingResult` sees, at every outcome, the tags current in the reporter (`tfr_shows`), and so does what lies
behind the stream pipeline `ExtendedToStreamDecorator` → `StreamToExtendedDecorator` → `PlaceHolder.run` (`e2s_shows`). -/
namespace TTV.Lemmas.TagViews
open TTV.Result TTV.Lemmas.TagSet

/-- what matters for tags; of an outcome, only which test -/
inductive TEv | run | stopRun | start (t : Nat) | stop (t : Nat) | tags (n g : TagSet) | out (t : Nat)
deriving DecidableEq, Repr

def tev : Call → Option TEv
  | .startTestRun => some .run
  | .startTest t => some (.start t)
  | .stopTest t => some (.stop t)
  | .tags n g => some (.tags n g)
  | .add _ t _ => some (.out t)
  | .stopTestRun => some .stopRun
  | _ => none

def tevs (h : List Call) : List TEv := h.filterMap tev

theorem tev_run : tev .startTestRun = some .run := rfl
theorem tev_stopRun : tev .stopTestRun = some .stopRun := rfl
theorem tev_start (t : Nat) : tev (.startTest t) = some (.start t) := rfl
theorem tev_stop (t : Nat) : tev (.stopTest t) = some (.stop t) := rfl
theorem tev_tags (n g : TagSet) : tev (.tags n g) = some (.tags n g) := rfl
theorem tev_add (k : Kind) (t : Nat) (a : Arg) : tev (.add k t a) = some (.out t) := rfl
theorem tev_time (d : TimeV) : tev (.time d) = none := rfl
theorem tev_stopc : tev .stop = none := rfl
theorem tev_done : tev .done = none := rfl
theorem tev_progress : tev .progress = none := rfl
theorem tev_setFailfast (b : Bool) : tev (.setFailfast b) = none := rfl

@[simp] theorem tevs_nil : tevs [] = [] := rfl
@[simp] theorem tevs_c_run (cs : List Call) : tevs (.startTestRun :: cs) = .run :: tevs cs := rfl
@[simp] theorem tevs_c_stopRun (cs : List Call) : tevs (.stopTestRun :: cs) = .stopRun :: tevs cs := rfl
@[simp] theorem tevs_c_start (t : Nat) (cs : List Call) : tevs (.startTest t :: cs) = .start t :: tevs cs := rfl
@[simp] theorem tevs_c_stop (t : Nat) (cs : List Call) : tevs (.stopTest t :: cs) = .stop t :: tevs cs := rfl
@[simp] theorem tevs_c_tags (n g : TagSet) (cs : List Call) : tevs (.tags n g :: cs) = .tags n g :: tevs cs := rfl
@[simp] theorem tevs_c_add (k : Kind) (t : Nat) (a : Arg) (cs : List Call) : tevs (.add k t a :: cs) = .out t :: tevs cs := rfl
@[simp] theorem tevs_c_time (d : TimeV) (cs : List Call) : tevs (.time d :: cs) = tevs cs := rfl
@[simp] theorem tevs_c_stopc (cs : List Call) : tevs (.stop :: cs) = tevs cs := rfl
@[simp] theorem tevs_c_done (cs : List Call) : tevs (.done :: cs) = tevs cs := rfl
@[simp] theorem tevs_c_progress (cs : List Call) : tevs (.progress :: cs) = tevs cs := rfl
@[simp] theorem tevs_c_setFailfast (b : Bool) (cs : List Call) : tevs (.setFailfast b :: cs) = tevs cs := rfl

theorem tevs_append (a b : List Call) : tevs (a ++ b) = tevs a ++ tevs b := List.filterMap_append

theorem tevs_cons (c : Call) (cs : List Call) : tevs (c :: cs) = tevs [c] ++ tevs cs := tevs_append [c] cs

theorem tevs_single (c : Call) : tevs [c] = (tev c).toList := by cases c <;> rfl

theorem tevs_stops (k : Nat) : tevs (List.replicate k Call.stop) = [] :=
  List.filterMap_eq_nil_iff.2 fun _ h => by rw [List.eq_of_mem_replicate h]; rfl

theorem tevs_head : ∀ (h : List Call), h.head? = some .startTestRun → (tevs h).head? = some .run
  | _ :: _, hr => by cases Option.some.inj hr; rfl

/-- the stack-of-sets semantics `Spec.C17.refStep` on the small alphabet (`Props.C17.stepT_tev`) -/
def stepT (ctx : TagCtx) : TEv → TagCtx
  | .run => {}
  | .start _ => ctx.push
  | .stop _ => ctx.pop
  | .tags n g => ctx.change n g
  | .out _ => ctx
  | .stopRun => ctx

def seenT : TagCtx → List TEv → List (Nat × TagSet)
  | _, [] => []
  | ctx, .out t :: e => (t, ctx.cur) :: seenT ctx e
  | ctx, x :: e => seenT (stepT ctx x) e

theorem seenT_cons (ctx : TagCtx) (x : TEv) (e : List TEv) : seenT ctx (x :: e) = seenT ctx [x] ++ seenT (stepT ctx x) e := by
  cases x <;> rfl

theorem refSeen_tevs : ∀ (h : List Call) (ctx : TagCtx), Spec.C17.refSeen ctx h = seenT ctx (tevs h)
  | [], _ => rfl
  | c :: h, ctx => by
      have ih := refSeen_tevs h
      cases c <;> simp [Spec.C17.refSeen, seenT, Spec.C17.refStep, stepT, ih]

/-- the outcomes, as a result without tags records them -/
def outsT (e : List TEv) : List (Nat × TagSet) := e.filterMap fun | .out t => some (t, 0) | _ => none

theorem untagged_tevs (h : List Call) : Spec.C17.untagged h = outsT (tevs h) := by
  unfold Spec.C17.untagged outsT tevs
  rw [List.filterMap_filterMap]
  congr 1; funext c; cases c <;> rfl

theorem outsT_seenT : ∀ (e : List TEv) (ctx : TagCtx), outsT e = (seenT ctx e).map fun p => (p.1, 0)
  | [], _ => rfl
  | x :: e, ctx => by cases x <;> simp [outsT, seenT] <;> exact outsT_seenT e _

/-! ### `Spec.C17.wfTag` (the phases are those of its docstring) and `Call.tagsDisjoint` -/
def wfT : Nat → Nat → List TEv → Bool
  | p, _, [] => p == 0
  | p, cur, x :: e =>
    match x with
    | .start t => p == 0 && wfT 1 t e
    | .out t => ((p == 1 || p == 2) && t == cur && wfT 2 t e) || (p == 0 && wfT 3 t e)
    | .stop t => (p == 2 || p == 3) && t == cur && wfT 0 0 e
    | .run => p == 0 && wfT p cur e
    | .stopRun => p == 0 && wfT p cur e
    | .tags _ _ => p != 3 && wfT p cur e

theorem wfTag_tevs : ∀ (h : List Call) (p cur : Nat), Spec.C17.wfTag p cur h = wfT p cur (tevs h)
  | [], _, _ => rfl
  | c :: h, p, cur => by
      have ih := wfTag_tevs h
      cases c <;> simp [Spec.C17.wfTag, wfT, ih]

/-- what one event does to the phase and the open test of `wfT` -/
inductive WfStep : Nat → Nat → TEv → Nat → Nat → Prop
  | run {cur} : WfStep 0 cur .run 0 cur
  | stopRun {cur} : WfStep 0 cur .stopRun 0 cur
  | start {cur t} : WfStep 0 cur (.start t) 1 t
  | out {p t} : p = 1 ∨ p = 2 → WfStep p t (.out t) 2 t
  | lone {cur t} : WfStep 0 cur (.out t) 3 t
  | stop {p t} : p = 2 ∨ p = 3 → WfStep p t (.stop t) 0 0
  | tags {p cur n g} : p ≠ 3 → WfStep p cur (.tags n g) p cur

theorem wfT_cons {p cur : Nat} {x : TEv} {e : List TEv} (h : wfT p cur (x :: e) = true) :
    ∃ p' cur', WfStep p cur x p' cur' ∧ wfT p' cur' e = true := by
  cases x <;> simp only [wfT, Bool.and_eq_true, Bool.or_eq_true, beq_iff_eq, bne_iff_ne] at h
  · obtain ⟨rfl, h⟩ := h; exact ⟨_, _, .run, h⟩
  · obtain ⟨rfl, h⟩ := h; exact ⟨_, _, .stopRun, h⟩
  · obtain ⟨rfl, h⟩ := h; exact ⟨_, _, .start, h⟩
  · obtain ⟨⟨hp, rfl⟩, h⟩ := h; exact ⟨_, _, .stop hp, h⟩
  · exact ⟨_, _, .tags h.1, h.2⟩
  · rcases h with ⟨⟨hp, rfl⟩, h⟩ | ⟨rfl, h⟩
    · exact ⟨_, _, .out hp, h⟩
    · exact ⟨_, _, .lone, h⟩

def disjT : TEv → Bool
  | .tags n g => n &&& g == 0
  | _ => true

theorem disj_tevs (h : List Call) : h.all Spec.C17.Call.tagsDisjoint = (tevs h).all disjT := by
  unfold tevs
  rw [List.all_filterMap]
  exact List.all_congr rfl fun c => by cases c <;> rfl

/-- the events `b` lead from between tests and the empty context back to there, and show `l` on the way.  Each field
speaks of `b` followed by any `r`: that is what lets blocks be put one after the other (`append`), and for `seen` it says
that after `b` the context is empty again. -/
structure Shows (b : List TEv) (l : List (Nat × TagSet)) : Prop where
  seen : ∀ r, seenT {} (b ++ r) = l ++ seenT {} r
  wf : ∀ r, wfT 0 0 (b ++ r) = wfT 0 0 r
  disj : b.all disjT = true

theorem Shows.nil : Shows [] [] := ⟨fun _ => rfl, fun _ => rfl, rfl⟩

theorem Shows.append {b b' : List TEv} {l l' : List (Nat × TagSet)} (h : Shows b l) (h' : Shows b' l') :
    Shows (b ++ b') (l ++ l') :=
  ⟨fun r => by rw [List.append_assoc, h.seen, h'.seen, List.append_assoc],
   fun r => by rw [List.append_assoc, h.wf, h'.wf], by rw [List.all_append, h.disj, h'.disj]; rfl⟩

theorem Shows.run : Shows [.run] [] := ⟨fun _ => rfl, fun _ => rfl, rfl⟩

theorem Shows.stopRun : Shows [.stopRun] [] := ⟨fun _ => rfl, fun _ => rfl, rfl⟩

/-- A buffering adapter is transparent on a well-formed history: its state `a` stands for the reporter's context `abs a`,
and what it sends for one event shows the object below what that event shows at `abs a`.  `Inv`: what the state
satisfies in each phase of the history; `D`: what is asked of each event. -/
theorem view_shows {σ : Type} (next : σ → TEv → σ) (emit : σ → TEv → List TEv) {V : σ → List TEv → List TEv}
    (hnil : ∀ a, V a [] = []) (hcons : ∀ a x e, V a (x :: e) = emit a x ++ V (next a x) e)
    (abs : σ → TagCtx) (Inv : Nat → Nat → σ → Prop) (D : TEv → Bool)
    (hstep : ∀ {p cur x p' cur' a}, WfStep p cur x p' cur' → D x = true → Inv p cur a →
      Inv p' cur' (next a x) ∧ abs (next a x) = stepT (abs a) x ∧ Shows (emit a x) (seenT (abs a) [x])) :
    ∀ (e : List TEv) (p cur : Nat) (a : σ), Inv p cur a → wfT p cur e = true → e.all D = true →
      Shows (V a e) (seenT (abs a) e)
  | [], _, _, a, _, _, _ => by rw [hnil]; exact .nil
  | x :: e, p, cur, a, hi, hw, hd => by
      obtain ⟨p', cur', hs, hw⟩ := wfT_cons hw
      simp only [List.all_cons, Bool.and_eq_true] at hd
      obtain ⟨h1, h2, h3⟩ := hstep hs hd.1 hi
      rw [hcons, seenT_cons, ← h2]
      exact h3.append (view_shows next emit hnil hcons abs Inv D hstep e p' cur' _ h1 hw hd.2)

/-! ### the view through an `ExtendedToOriginalDecorator`: what the target has no method for is dropped -/
def etodVT (caps : Caps) (e : List TEv) : List TEv :=
  e.filter fun | .tags _ _ => caps.tags | .run => caps.startRun | .stopRun => caps.startRun | _ => true

theorem etodVT_append (caps : Caps) (a b : List TEv) : etodVT caps (a ++ b) = etodVT caps a ++ etodVT caps b :=
  List.filter_append ..

theorem etodVT_full (caps : Caps) (ht : caps.tags = true) (hr : caps.startRun = true) (e : List TEv) :
    etodVT caps e = e :=
  List.filter_eq_self.2 fun x _ => by cases x <;> first | rfl | exact ht | exact hr

theorem outsT_etodVT (caps : Caps) (e : List TEv) : outsT (etodVT caps e) = outsT e := by
  unfold outsT etodVT
  rw [List.filterMap_filter]
  congr 1; funext x
  cases x <;> first | rfl | exact ite_self _

/-! ### the view through a `Tagger` (`Spec.C17.taggerV`) -/
def taggerVT (n g : TagSet) (e : List TEv) : List TEv :=
  e.flatMap fun | .start t => [.start t, .tags n g] | x => [x]

theorem taggerV_tevs (n g : TagSet) : ∀ (h : List Call), tevs (Spec.C17.taggerV n g h) = taggerVT n g (tevs h)
  | [] => rfl
  | c :: h => by
      have ih := taggerV_tevs n g h
      cases c with
      | startTest t => exact congrArg (TEv.start t :: TEv.tags n g :: ·) ih
      | startTestRun | stopTestRun | stopTest t | tags n' g' | add k t a => exact congrArg (_ :: ·) ih
      | time d | stop | done | progress | setFailfast b => exact ih

theorem taggerVT_append (n g : TagSet) (a b : List TEv) : taggerVT n g (a ++ b) = taggerVT n g a ++ taggerVT n g b :=
  List.flatMap_append

theorem wfT_taggerVT (n g : TagSet) : ∀ (e : List TEv) (p cur : Nat), wfT p cur (taggerVT n g e) = wfT p cur e
  | [], _, _ => rfl
  | x :: e, p, cur => by
      have ih := wfT_taggerVT n g e
      simp only [taggerVT, List.flatMap_cons] at ih ⊢
      cases x <;> simp [wfT, ih]

theorem disj_taggerVT (n g : TagSet) (h : n &&& g = 0) (e : List TEv) (hd : e.all disjT = true) :
    (taggerVT n g e).all disjT = true := by
  unfold taggerVT
  rw [List.all_flatMap]
  exact (List.all_congr rfl fun x => by cases x <;> simp [disjT, h]).trans hd

theorem head_taggerVT (n g : TagSet) : ∀ (e : List TEv), e.head? = some .run → (taggerVT n g e).head? = some .run
  | _ :: _, h => by cases Option.some.inj h; rfl

/-- of a `ThreadsafeForwardingResult` (`TfrOwn`), what decides the tags it sends: whether a test is open, and the buffered
changes `_global_tags` (`g`) and `_test_tags` (`t`).  Its own `TestResult` and the timestamps are left out. -/
structure TfrAbs where
  inTest : Bool := false
  g : TagSet × TagSet := (0, 0)
  t : TagSet × TagSet := (0, 0)
deriving DecidableEq, Repr

def tfrNext (a : TfrAbs) : TEv → TfrAbs
  | .run => {}
  | .start _ => { a with inTest := true }
  | .stop _ => { a with inTest := false, t := (0, 0) }
  | .tags n g => if a.inTest then { a with t := mergeTags a.t (n, g) } else { a with g := mergeTags a.g (n, g) }
  | .out _ => a
  | .stopRun => a

def tagsIf (p : TagSet × TagSet) : List TEv := if anyTags p then [.tags p.1 p.2] else []

theorem tevs_tagsIf (p : TagSet × TagSet) : tevs (if anyTags p then [Call.tags p.1 p.2] else []) = tagsIf p := by
  unfold tagsIf; split <;> rfl

def tfrEmitT (a : TfrAbs) : TEv → List TEv
  | .run => [.run]
  | .stopRun => [.stopRun]
  | .out t => [.start t] ++ tagsIf a.g ++ tagsIf a.t ++ [.out t, .stop t]
  | _ => []

def tfrVT : TfrAbs → List TEv → List TEv
  | _, [] => []
  | a, x :: e => tfrEmitT a x ++ tfrVT (tfrNext a x) e

theorem seenT_tagsIf (ctx : TagCtx) (p : TagSet × TagSet) (e : List TEv) :
    seenT ctx (tagsIf p ++ e) = seenT (ctx.change p.1 p.2) e := by
  unfold tagsIf
  split
  · rfl
  · rename_i h
    have := anyTags_false (by simpa using h)
    simp [this, TagCtx.change, change_zero]

theorem wfT_tagsIf (q : TagSet × TagSet) {p : Nat} (hp : p ≠ 3) (cur : Nat) (e : List TEv) :
    wfT p cur (tagsIf q ++ e) = wfT p cur e := by
  unfold tagsIf; split <;> simp [wfT, hp]

theorem disj_tagsIf (p : TagSet × TagSet) (h : p.1 &&& p.2 = 0) : (tagsIf p).all disjT = true := by
  unfold tagsIf; split <;> simp [disjT, h]

theorem tfrVT_append (a : TfrAbs) (e e' : List TEv) :
    tfrVT a (e ++ e') = tfrVT a e ++ tfrVT (e.foldl tfrNext a) e' := by
  induction e generalizing a with
  | nil => rfl
  | cons x e ih => simp [tfrVT, ih]

theorem head_tfrVT (a : TfrAbs) : ∀ (e : List TEv), e.head? = some .run → (tfrVT a e).head? = some .run
  | _ :: _, h => by cases Option.some.inj h; rfl

/-- the reporter's context that the buffers of a `ThreadsafeForwardingResult` stand for: its run-level set is the global
buffer applied to the empty set, its current set the test's buffer applied on top (empty outside a test) -/
def tfrCtx (a : TfrAbs) : TagCtx :=
  { cur := TagSet.change (TagSet.change 0 a.g.1 a.g.2) a.t.1 a.t.2
    parents := if a.inTest then [TagSet.change 0 a.g.1 a.g.2] else [] }

/-- what the buffers satisfy inside a test that has been started (phases 1 and 2 of `wfT`) and outside one.  `dg`, `dt`: a
buffer is sent on as one `tags` call, which has to be disjoint in its turn (`Shows.disj`) for a buffering adapter further
down. -/
structure TfrInv (inTest : Bool) (a : TfrAbs) : Prop where
  ph : a.inTest = inTest
  dg : a.g.1 &&& a.g.2 = 0
  dt : a.t.1 &&& a.t.2 = 0
  idle : a.inTest = false → a.t = (0, 0)

theorem shows_tfrOut (a : TfrAbs) (t : Nat) (hg : a.g.1 &&& a.g.2 = 0) (ht : a.t.1 &&& a.t.2 = 0) :
    Shows (tfrEmitT a (.out t)) [(t, (tfrCtx a).cur)] :=
  ⟨fun r => by
      simp only [tfrEmitT, List.append_assoc, List.cons_append, List.nil_append, seenT, stepT, seenT_tagsIf]
      rfl,
   fun r => by simp [tfrEmitT, wfT, wfT_tagsIf],
   by simp [tfrEmitT, disjT, disj_tagsIf, hg, ht, List.all_append]⟩

theorem tfr_sim {p cur : Nat} {x : TEv} {p' cur' : Nat} {a : TfrAbs} (hs : WfStep p cur x p' cur') (hd : disjT x = true)
    (hi : TfrInv (p == 1 || p == 2) a) :
    TfrInv (p' == 1 || p' == 2) (tfrNext a x) ∧ tfrCtx (tfrNext a x) = stepT (tfrCtx a) x ∧
      Shows (tfrEmitT a x) (seenT (tfrCtx a) [x]) := by
  obtain ⟨i, g, t⟩ := a
  cases hs with
  | run => exact ⟨⟨rfl, Nat.zero_and 0, Nat.zero_and 0, fun _ => rfl⟩, show tfrCtx {} = {} by decide, .run⟩
  | stopRun => exact ⟨hi, rfl, .stopRun⟩
  | start =>
    -- the set pushed is the run-level one: the test's buffer is still empty
    obtain rfl : i = false := hi.ph
    obtain rfl : t = (0, 0) := hi.idle rfl
    exact ⟨⟨rfl, hi.dg, hi.dt, nofun⟩, by simp [tfrCtx, tfrNext, stepT, TagCtx.push, change_zero], .nil⟩
  | stop hp =>
    -- after a started test the enclosing set comes back, otherwise nothing had been pushed
    refine ⟨⟨rfl, hi.dg, Nat.zero_and 0, fun _ => rfl⟩, ?_, .nil⟩
    rcases hp with rfl | rfl
    · obtain rfl : i = true := hi.ph
      simp [tfrCtx, tfrNext, stepT, TagCtx.pop, change_zero]
    · obtain rfl : i = false := hi.ph
      obtain rfl : t = (0, 0) := hi.idle rfl
      simp [tfrCtx, tfrNext, stepT, TagCtx.pop, change_zero]
  | @tags _ _ n gone hp =>
    -- the change joins the buffer of the test, or outside a test (whose buffer is empty) the global one
    have hng : n &&& gone = 0 := by simpa [disjT] using hd
    refine ⟨?_, ?_, .nil⟩
    · cases i
      · exact ⟨hi.ph, merge_disjoint g n gone hi.dg, hi.dt, hi.idle⟩
      · exact ⟨hi.ph, hi.dg, merge_disjoint t n gone hi.dt, nofun⟩
    · cases i
      · obtain rfl : t = (0, 0) := hi.idle rfl
        simp [tfrCtx, tfrNext, stepT, TagCtx.change, change_zero, change_merge _ _ _ _ hng]
      · simp [tfrCtx, tfrNext, stepT, TagCtx.change, change_merge _ _ _ _ hng]
  | out hp =>
    -- the test's tag changes stay buffered: a further outcome of the test carries them too
    rcases hp with rfl | rfl <;> exact ⟨hi, rfl, shows_tfrOut _ _ hi.dg hi.dt⟩
  | lone => exact ⟨hi, rfl, shows_tfrOut _ _ hi.dg hi.dt⟩

theorem tfr_shows (e : List TEv) (p cur : Nat) (a : TfrAbs) (hi : TfrInv (p == 1 || p == 2) a) (hw : wfT p cur e = true)
    (hd : e.all disjT = true) : Shows (tfrVT a e) (seenT (tfrCtx a) e) :=
  view_shows tfrNext tfrEmitT (fun _ => rfl) (fun _ _ _ => rfl) tfrCtx (fun p _ a => TfrInv (p == 1 || p == 2) a) disjT tfr_sim
    e p cur a hi hw hd

/-! ### the stream pipeline `ExtendedToStreamDecorator` → `StreamToExtendedDecorator` → `PlaceHolder.run` -/
/-- of an `ExtendedToStreamDecorator` (`E2S`): `_started`, the decorator's own `TagContext`, and the tests in progress
without their timestamps -/
structure E2sAbs where
  started : Bool := false
  ctx : TagCtx := {}
  inprog : List Nat := []
deriving DecidableEq, Repr

/-- `if not self._started: self.startTestRun()` -/
def e2sAutoT (a : E2sAbs) : E2sAbs × List TEv := if a.started then (a, []) else ({ started := true }, [.run])

def e2sNextT (a : E2sAbs) : TEv → E2sAbs
  | .run => { started := true }
  | .start t =>
      let a := (e2sAutoT a).1
      { a with inprog := if a.inprog.contains t then a.inprog else a.inprog ++ [t], ctx := a.ctx.push }
  | .stop _ => { a with ctx := a.ctx.pop }
  | .tags n g => if a.started then { a with ctx := a.ctx.change n g } else a
  | .out t => let a := (e2sAutoT a).1; { a with inprog := a.inprog.filter (· != t) }
  | .stopRun => if a.started then { a with inprog := [] } else a

/-- what `PlaceHolder.run` replays for one finished test -/
def phBlock (t : Nat) (T : TagSet) : List TEv := [.tags T 0, .start t, .out t, .stop t, .tags 0 T]

def e2sEmitT (a : E2sAbs) : TEv → List TEv
  | .run => [.run]
  | .start _ => (e2sAutoT a).2
  | .out t => (e2sAutoT a).2 ++ phBlock t (e2sAutoT a).1.ctx.cur
  | .stopRun => if a.started then (a.inprog.reverse.flatMap fun t => phBlock t 0) ++ [.stopRun] else []
  | _ => []

def e2sVT : E2sAbs → List TEv → List TEv
  | _, [] => []
  | a, x :: e => e2sEmitT a x ++ e2sVT (e2sNextT a x) e

/-- the `test_tags` of the final status events -/
def sentT : E2sAbs → List TEv → List (Nat × TagSet)
  | _, [] => []
  | a, .out t :: e => (t, (e2sAutoT a).1.ctx.cur) :: sentT (e2sNextT a (.out t)) e
  | a, x :: e => sentT (e2sNextT a x) e

theorem e2sVT_append (a : E2sAbs) (e e' : List TEv) :
    e2sVT a (e ++ e') = e2sVT a e ++ e2sVT (e.foldl e2sNextT a) e' := by
  induction e generalizing a with
  | nil => rfl
  | cons x e ih => simp [e2sVT, ih]

theorem sentT_append (a : E2sAbs) (e e' : List TEv) :
    sentT a (e ++ e') = sentT a e ++ sentT (e.foldl e2sNextT a) e' := by
  induction e generalizing a with
  | nil => rfl
  | cons x e ih => cases x <;> simp [sentT, ih]

theorem e2sVT_head (a : E2sAbs) (e : List TEv) : (e2sVT a (.run :: e)).head? = some .run := rfl

theorem head_e2sVT (a : E2sAbs) : ∀ (e : List TEv), e.head? = some .run → (e2sVT a e).head? = some .run
  | _ :: e, h => by cases Option.some.inj h; exact e2sVT_head a e

theorem e2sNextT_ctx {a : E2sAbs} (x : TEv) (h : a.started = true) :
    (e2sNextT a x).started = true ∧ (e2sNextT a x).ctx = stepT a.ctx x := by
  cases x <;> simp [e2sNextT, e2sAutoT, h, stepT]

theorem sentT_started : ∀ (e : List TEv) (a : E2sAbs), a.started = true → sentT a e = seenT a.ctx e
  | [], _, _ => rfl
  | x :: e, a, h => by
      obtain ⟨h1, h2⟩ := e2sNextT_ctx (a := a) x h
      have ih := sentT_started e _ h1
      rw [h2] at ih
      cases x <;> simp [sentT, seenT, ih, e2sAutoT, h, stepT]

theorem shows_block (t : Nat) (T : TagSet) : Shows (phBlock t T) [(t, T)] :=
  ⟨fun r => by simp [phBlock, seenT, stepT, TagCtx.change, TagCtx.push, TagCtx.pop, change_from_zero, change_to_zero],
   fun r => by simp [phBlock, wfT], by simp [phBlock, disjT]⟩

/-- a started decorator holds the reporter's context, and the open test until it is reported.  One that has not been
started drops `tags` calls, and the `startTestRun` it makes up at the first test begins from the empty context: that is why
a history has to begin with `startTestRun` where a stream pipeline is in the graph. -/
structure E2sInv (p cur : Nat) (a : E2sAbs) : Prop where
  started : a.started = true
  inprog : a.inprog = if p == 1 then [cur] else []

theorem e2s_sim {p cur : Nat} {x : TEv} {p' cur' : Nat} {a : E2sAbs} (hs : WfStep p cur x p' cur')
    (hi : E2sInv p cur a) :
    E2sInv p' cur' (e2sNextT a x) ∧ (e2sNextT a x).ctx = stepT a.ctx x ∧ Shows (e2sEmitT a x) (seenT a.ctx [x]) := by
  obtain ⟨hst, hctx⟩ := e2sNextT_ctx x hi.started
  suffices (e2sNextT a x).inprog = (if p' == 1 then [cur'] else []) ∧ Shows (e2sEmitT a x) (seenT a.ctx [x]) from
    ⟨⟨hst, this.1⟩, hctx, this.2⟩
  obtain ⟨st, ctx, inp⟩ := a
  obtain ⟨rfl, rfl⟩ : st = true ∧ inp = _ := ⟨hi.started, hi.inprog⟩
  cases hs with
  | run => exact ⟨rfl, .run⟩
  | stopRun => exact ⟨rfl, .stopRun⟩
  | start => exact ⟨rfl, .nil⟩
  | out hp =>
    -- the outcome closes the open test, if there is one, and it is this one
    refine ⟨?_, shows_block _ _⟩
    rcases hp with rfl | rfl <;> simp [e2sNextT, e2sAutoT]
  | lone => exact ⟨rfl, shows_block _ _⟩
  | stop hp => rcases hp with rfl | rfl <;> exact ⟨rfl, .nil⟩
  | tags hp => exact ⟨rfl, .nil⟩

theorem e2s_shows (e : List TEv) (p cur : Nat) (a : E2sAbs) (hi : E2sInv p cur a) (hw : wfT p cur e = true) :
    Shows (e2sVT a e) (seenT a.ctx e) :=
  view_shows e2sNextT e2sEmitT (fun _ => rfl) (fun _ _ _ => rfl) (·.ctx)
    E2sInv (fun _ => true) (fun hs _ hi => e2s_sim hs hi) e p cur a hi hw (List.all_eq_true.2 fun _ _ => rfl)

end TTV.Lemmas.TagViews
