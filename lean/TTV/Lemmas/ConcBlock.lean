import TTV.Model.Conc
import TTV.Spec.C12
import TTV.Lemmas.Conc
/-! The blocks of a `ThreadsafeForwardingResult`, read against `Spec/C12`: on a flattened log the parser of the specification
recovers the closed sections (`parse_flat`) and `exclusiveFrom` passes; what one forwarder operation
emits, `emitThen` (the calls before the outcome, then the tail unless one of them raised), has the shape, the head and the outcome the
specification asks of a block (`stepOp_sec_cases`), hence so have the sections of any operation list, one test section per outcome
operation, also when a worker is cut short; a well-shaped block is
cut only where `CutOk` says.  Used by `Props/C12` and `Props/C13`. -/
namespace TTV.Props.C12
open TTV.Conc TTV.Spec.C12

theorem walk_calls (h : Nat) : ∀ (sec cur : Section) (rest : List Ev),
    walk (some (h, cur)) (sec.map (fun c => (h, EvK.call c.1 c.2)) ++ rest) = walk (some (h, cur ++ sec)) rest
  | [], cur, rest => by rw [List.map_nil, List.nil_append, List.append_nil]
  | c :: sec, cur, rest => by
      rw [List.map_cons, List.cons_append, walk, if_pos rfl, walk_calls h sec, List.append_assoc]; rfl

theorem walk_secEvents (p : Nat × Section) (rest : List Ev) : walk none (secEvents p ++ rest) = (walk none rest).map (p :: ·) := by
  rw [secEvents, List.cons_append, List.append_assoc, walk, walk_calls, List.singleton_append, walk, if_pos rfl]; rfl

theorem walk_flat : ∀ (closed : List (Nat × Section)) (rest : List Ev),
    walk none (flatLog closed ++ rest) = (walk none rest).map (closed ++ ·)
  | [], rest => by cases h : walk none rest <;> simp [flatLog_nil, h]
  | p :: closed, rest => by
      rw [flatLog_cons, List.append_assoc, walk_secEvents, walk_flat closed rest, Option.map_map]; rfl

theorem parse_flat (closed : List (Nat × Section)) : parse (flatLog closed) = some closed := by
  simpa [parse, walk] using walk_flat closed []

theorem secsOf_eq_ownedBy (i : Nat) (ps : List (Nat × Section)) : secsOf i ps = ownedBy i ps := rfl

theorem exclusive_calls (i : Nat) : ∀ (cs : Section) (rest : List Ev),
    exclusiveFrom [i] (cs.map (fun c => (i, EvK.call c.1 c.2)) ++ rest) = exclusiveFrom [i] rest
  | [], rest => rfl
  | c :: cs, rest => by simp [exclusiveFrom, exclusive_calls i cs rest]

theorem exclusive_secEvents (p : Nat × Section) (rest : List Ev) :
    exclusiveFrom [] (secEvents p ++ rest) = exclusiveFrom [] rest := by
  rw [secEvents, List.cons_append, List.append_assoc, exclusiveFrom, exclusive_calls]
  simp [exclusiveFrom]

theorem exclusive_flat_append : ∀ (closed : List (Nat × Section)) (rest : List Ev),
    exclusiveFrom [] (flatLog closed ++ rest) = exclusiveFrom [] rest
  | [], rest => rfl
  | p :: closed, rest => by
      rw [flatLog_cons, List.append_assoc, exclusive_secEvents, exclusive_flat_append closed rest]

theorem exclusive_flat (closed : List (Nat × Section)) : exclusiveFrom [] (flatLog closed) = true := by
  simpa [exclusiveFrom] using exclusive_flat_append closed []

def emitThen (f : List Nat) (tail : Section) (n : Nat) (cs : List Call) : Section :=
  (emit f n cs).1 ++ if (emit f n cs).2.2 then [] else tail

theorem emitThen_nil (f : List Nat) (tail : Section) (n : Nat) : emitThen f tail n [] = tail := by
  simp [emitThen, emit]

theorem emitThen_raise {f : List Nat} {n : Nat} (h : f.contains n = true) (tail : Section) (c : Call) (cs : List Call) :
    emitThen f tail n (c :: cs) = [(c, true)] := by
  simp only [emitThen, emit, h, if_true, List.append_nil]

theorem emitThen_pass {f : List Nat} {n : Nat} (h : f.contains n = false) (tail : Section) (c : Call) (cs : List Call) :
    emitThen f tail n (c :: cs) = (c, false) :: emitThen f tail (n + 1) cs := by
  simp only [emitThen, emit, h, Bool.false_eq_true, if_false, List.cons_append]

/-- the outcome and `stopTest` raise if the fault plan has their indices: the two after the last call made before them -/
theorem stepOp_outcome_sec (f : List Nat) (l : Loc) (k : Kind) (id : TId) :
    (stepOp f l (.outcome k id)).sec = some (emitThen f
      [(.outcome k id, f.contains (emit f l.n (preCalls l id)).2.1), (.stopTest id, f.contains ((emit f l.n (preCalls l id)).2.1 + 1))]
      l.n (preCalls l id)) := by
  simp only [stepOp, emitThen]
  split <;> simp [*]

/-- the tag buffers an outcome replays -/
def tagBufs (l : Loc) : List Tags :=
  (if anyTags l.gtags then [l.gtags] else []) ++ (if anyTags l.ttags then [l.ttags] else [])

/-- the tags calls of `preCalls` as a `map`, over which `shapeTail_emitThen` inducts -/
theorem preCalls_eq (l : Loc) (id : TId) :
    preCalls l id = .time l.start :: .startTest id :: .time l.nowT :: (tagBufs l).map fun t => .tags t.1 t.2 := by
  unfold preCalls tagBufs
  split <;> split <;> rfl

theorem shapeTail_emitThen (f : List Nat) (id : TId) (k : Kind) (ro rs : Bool) : ∀ (ts : List Tags) (m n : Nat),
    ts.length ≤ m →
    shapeTail id m (emitThen f [(.outcome k id, ro), (.stopTest id, rs)] n (ts.map fun t => .tags t.1 t.2)) = true
  | [], m, n, _ => by simp [emitThen_nil, shapeTail]
  | t :: ts, 0, n, h => by simp at h
  | t :: ts, m + 1, n, h => by
      have ih := shapeTail_emitThen f id k ro rs ts m (n + 1) (by simpa using h)
      cases h : f.contains n
      · rw [List.map_cons, emitThen_pass h]; simpa only [shapeTail, Bool.false_eq_true, if_false] using ih
      · rw [List.map_cons, emitThen_raise h]; simp only [shapeTail, if_true, List.isEmpty_nil]

theorem emitThen_preCalls_shape (f : List Nat) (l : Loc) (k : Kind) (id : TId) (ro rs : Bool) :
    shapeOk (emitThen f [(.outcome k id, ro), (.stopTest id, rs)] l.n (preCalls l id)) = true := by
  rw [preCalls_eq]
  cases h0 : f.contains l.n
  case true => rw [emitThen_raise h0]; rfl
  cases h1 : f.contains (l.n + 1)
  case true => rw [emitThen_pass h0, emitThen_raise h1]; rfl
  cases h2 : f.contains (l.n + 1 + 1)
  case true => rw [emitThen_pass h0, emitThen_pass h1, emitThen_raise h2]; rfl
  rw [emitThen_pass h0, emitThen_pass h1, emitThen_pass h2]
  simp only [shapeOk, Bool.false_eq_true, if_false]
  exact shapeTail_emitThen f id k ro rs _ 2 _ (by unfold tagBufs; split <;> split <;> simp)

theorem emitThen_preCalls_head (f : List Nat) (tail : Section) (l : Loc) (id : TId) :
    ∃ r rest, emitThen f tail l.n (preCalls l id) = (Call.time l.start, r) :: rest := by
  rw [preCalls_eq]
  cases h : f.contains l.n
  · exact ⟨_, _, emitThen_pass h ..⟩
  · exact ⟨_, _, emitThen_raise h ..⟩

theorem stepOp_outcome_head (f : List Nat) (l : Loc) (k : Kind) (id : TId) :
    ∃ r rest, (stepOp f l (.outcome k id)).sec = some ((Call.time l.start, r) :: rest) := by
  obtain ⟨r, rest, h⟩ := emitThen_preCalls_head f _ l id
  exact ⟨r, rest, (stepOp_outcome_sec f l k id).trans (congrArg some h)⟩

theorem secOutcomes_cons (p : Call × Bool) (s : Section) : secOutcomes (p :: s) = secOutcomes [p] ++ secOutcomes s :=
  List.filterMap_append (l := [p])

theorem secOutcomes_emitThen (f : List Nat) (tail : Section) : ∀ (cs : List Call) (n : Nat),
    (∀ c ∈ cs, ∀ r, secOutcomes [(c, r)] = []) →
    secOutcomes (emitThen f tail n cs) = secOutcomes tail
      ∨ (secOutcomes (emitThen f tail n cs) = [] ∧ ∃ pre c, emitThen f tail n cs = pre ++ [(c, true)])
  | [], n, _ => .inl (by rw [emitThen_nil])
  | c :: cs, n, hc => by
      have ih := secOutcomes_emitThen f tail cs (n + 1) fun c h => hc c (List.mem_cons_of_mem _ h)
      have h0 := hc c List.mem_cons_self
      cases h : f.contains n
      · rw [emitThen_pass h, secOutcomes_cons, h0, List.nil_append]
        rcases ih with ih | ⟨ih, pre, d, hd⟩
        · exact .inl ih
        · exact .inr ⟨ih, (c, false) :: pre, d, by rw [hd]; rfl⟩
      · rw [emitThen_raise h]
        exact .inr ⟨h0 _, [], c, rfl⟩

theorem emitThen_preCalls_blockFor (f : List Nat) (l : Loc) (k : Kind) (id : TId) (ro rs : Bool) :
    blockFor (k, id) (emitThen f [(.outcome k id, ro), (.stopTest id, rs)] l.n (preCalls l id)) = true := by
  have hpre : ∀ c ∈ preCalls l id, ∀ r, secOutcomes [(c, r)] = [] := by
    intro c hc r
    simp only [preCalls_eq, List.mem_cons] at hc
    rcases hc with rfl | rfl | rfl | hc
    · rfl
    · rfl
    · rfl
    · obtain ⟨t, _, rfl⟩ := List.mem_map.mp hc
      rfl
  rcases secOutcomes_emitThen f [(.outcome k id, ro), (.stopTest id, rs)] _ l.n hpre with h | ⟨h, pre, c, hs⟩
  · simp [blockFor, show secOutcomes _ = [(k, id)] from h]
  · rw [hs] at h ⊢
    simp [blockFor, h, lastRaised]

theorem emitThen_preCalls_testSec (f : List Nat) (l : Loc) (id : TId) (tail : Section) :
    isTestSec (emitThen f tail l.n (preCalls l id)) = true := by
  obtain ⟨r, rest, h⟩ := emitThen_preCalls_head f tail l id
  rw [h]; rfl

/-- `outcomeOps [o]` rides along in the first two cases for `sections_testsOnce`, which zips the outcome operations against the test
sections -/
theorem stepOp_sec_cases (f : List Nat) (l : Loc) (o : Op) :
    ((stepOp f l o).sec = none ∧ outcomeOps [o] = [])
    ∨ (∃ c r, (stepOp f l o).sec = some [(.ctl c, r)] ∧ outcomeOps [o] = [])
    ∨ (∃ k id s, o = .outcome k id ∧ (stepOp f l o).sec = some s ∧ shapeOk s = true ∧ isTestSec s = true ∧ blockFor (k, id) s = true) := by
  cases o with
  | outcome k id =>
    exact .inr (.inr ⟨k, id, _, rfl, stepOp_outcome_sec f l k id, emitThen_preCalls_shape .., emitThen_preCalls_testSec .., emitThen_preCalls_blockFor ..⟩)
  | ctl c => exact .inr (.inl ⟨c, _, rfl, rfl⟩)
  | _ => exact .inl ⟨rfl, rfl⟩

theorem outcomeOps_cons (o : Op) (os : List Op) : outcomeOps (o :: os) = outcomeOps [o] ++ outcomeOps os :=
  List.filterMap_append (l := [o])

theorem runOp_secs (f : List Nat) (ff : Bool) (l : Loc) (o : Op) :
    (runOp f ff l o).1 = secList (stepOp f l o).sec ++
      if ff && o.unsuccessful && !(stepOp f l o).raised then [[(.ctl .stop, f.contains (stepOp f l o).loc.n)]] else [] := by
  simp only [runOp]
  split
  · rfl
  · exact (List.append_nil _).symm

theorem isTestSec_stop (r : Bool) : isTestSec [(Call.ctl .stop, r)] = false := rfl

theorem runOp_testSecs (f : List Nat) (ff : Bool) (l : Loc) (o : Op) :
    (runOp f ff l o).1.filter isTestSec = (secList (stepOp f l o).sec).filter isTestSec := by
  rw [runOp_secs]
  split <;> simp [isTestSec_stop]

theorem stepOp_shape {f : List Nat} {l : Loc} {o : Op} {s : Section} (hs : (stepOp f l o).sec = some s) : shapeOk s = true := by
  rcases stepOp_sec_cases f l o with ⟨h1, _⟩ | ⟨c, r, h1, _⟩ | ⟨k, id, s', _, h1, h2, _, _⟩ <;> rw [h1] at hs <;> cases hs
  · rfl
  · exact h2

theorem runOp_shape (f : List Nat) (ff : Bool) (l : Loc) (o : Op) : ∀ s ∈ (runOp f ff l o).1, shapeOk s = true := by
  intro s hs
  rw [runOp_secs, List.mem_append] at hs
  rcases hs with hs | hs
  · cases h : (stepOp f l o).sec <;> rw [h] at hs
    · cases hs
    · rw [List.mem_singleton.mp hs]; exact stepOp_shape h
  · split at hs
    · rw [List.mem_singleton.mp hs]; rfl
    · cases hs

theorem sections_shape (f : List Nat) (ff : Bool) : ∀ (ops : List Op) (l : Loc), ∀ s ∈ (sections f ff l ops).1, shapeOk s = true
  | [], _, s, h => by cases h
  | o :: os, l, s, h => by
      rcases List.mem_append.mp h with h | h
      · exact runOp_shape f ff l o s h
      · exact sections_shape f ff os _ s h

theorem sectionsAbort_prefix (f : List Nat) : ∀ (ops : List Op) (l : Loc),
    (sectionsAbort f l ops).1 <+: (sections f false l ops).1
  | [], _ => List.prefix_refl _
  | o :: os, l => by
      simp only [sectionsAbort, sections, runOp, Bool.false_and, Bool.false_eq_true, if_false]
      split
      · exact List.prefix_append _ _
      · exact (List.prefix_append_right_inj _).mpr (sectionsAbort_prefix f os _)

theorem sectionsAbort_shape (f : List Nat) (ops : List Op) (l : Loc) : ∀ s ∈ (sectionsAbort f l ops).1, shapeOk s = true :=
  fun s h => sections_shape f false ops l s ((sectionsAbort_prefix f ops l).subset h)

theorem sections_testsOnce (f : List Nat) (ff : Bool) : ∀ (ops : List Op) (l : Loc),
    zipAll blockFor (outcomeOps ops) ((sections f ff l ops).1.filter isTestSec) = true
  | [], _ => rfl
  | o :: os, l => by
      have ih := sections_testsOnce f ff os (runOp f ff l o).2.2
      rw [outcomeOps_cons, sections, List.filter_append, runOp_testSecs]
      rcases stepOp_sec_cases f l o with ⟨h1, h0⟩ | ⟨c, r, h1, h0⟩ | ⟨k, id, s', rfl, h1, _, h3, h4⟩ <;> rw [h1]
      · rw [h0]; exact ih
      · rw [h0]; exact ih
      · simp only [outcomeOps, secList, List.filterMap_cons, List.filterMap_nil, List.filter_cons, h3, if_true, List.filter_nil,
          List.cons_append, List.nil_append, zipAll, h4, Bool.true_and]
        exact ih

def CutOk (s : Section) : Prop :=
  ∀ pre c post, s = pre ++ (c, true) :: post → post = [] ∨ ∃ k id r, c = .outcome k id ∧ post = [(.stopTest id, r)]

theorem CutOk.nil : CutOk [] := fun pre _ _ h => by cases pre <;> cases h

theorem CutOk.cons {a : Call} {r : Bool} {rest : Section} (hr : r = true → rest = []) (hn : r = false → CutOk rest) :
    CutOk ((a, r) :: rest) := by
  intro pre c post hs
  cases pre with
  | nil =>
    injection hs with h1 h2
    injection h1 with _ h1
    exact .inl (h2 ▸ hr h1)
  | cons x pre =>
    injection hs with _ h2
    cases r with
    | false => exact hn rfl pre c post h2
    | true => rw [hr rfl] at h2; cases pre <;> cases h2

theorem cutOk_of_shapeTail (id : TId) (n : Nat) (s : Section) (h : shapeTail id n s = true) : CutOk s := by
  fun_induction shapeTail id n s with
  | case1 _ k id' ro id'' rs =>
    obtain ⟨rfl, rfl⟩ : id' = id ∧ id'' = id := by simpa using h
    intro pre c post hs
    match pre, hs with
    | [], hs => injection hs with h1 h2; injection h1 with h1; exact .inr ⟨k, _, rs, h1.symm, h2.symm⟩
    | [_], hs => injection hs with _ h2; injection h2 with _ h2; exact .inl h2.symm
    | _ :: _ :: pre, hs => injection hs with _ h2; injection h2 with _ h2; cases pre <;> cases h2
  | case2 _ _ _ rest => exact .cons (fun _ => List.isEmpty_iff.mp h) nofun
  | case3 _ _ _ _ _ hr ih => exact .cons (fun h => absurd h hr) fun _ => ih h
  | case4 => cases h

theorem cutOk_of_shapeOk (s : Section) (h : shapeOk s = true) : CutOk s := by
  unfold shapeOk at h
  split at h
  · exact .cons (fun _ => rfl) fun _ => .nil
  · refine .cons (fun hr => by simpa [hr] using h) fun hr => ?_
    simp only [hr, Bool.false_eq_true, if_false] at h
    split at h
    · refine .cons (fun hr => by simpa [hr] using h) fun hr => ?_
      simp only [hr, Bool.false_eq_true, if_false] at h
      split at h
      · refine .cons (fun hr => by simpa [hr] using h) fun hr => ?_
        simp only [hr, Bool.false_eq_true, if_false] at h
        exact cutOk_of_shapeTail _ _ _ h
      · cases h
    · cases h
  · cases h

theorem emit_no_faults : ∀ (cs : List Call) (n : Nat), emit [] n cs = (cs.map (·, false), n + cs.length, false)
  | [], _ => rfl
  | c :: cs, n => by
      simp only [emit, List.contains_nil, Bool.false_eq_true, if_false, emit_no_faults cs (n + 1), List.map_cons,
        List.length_cons, Nat.add_assoc, Nat.add_comm 1]

theorem stepOp_outcome_no_faults (l : Loc) (k : Kind) (id : TId) :
    stepOp [] l (.outcome k id) =
      { sec := some ([(.time l.start, false), (.startTest id, false), (.time l.nowT, false)]
          ++ (if anyTags l.gtags then [(Call.tags l.gtags.1 l.gtags.2, false)] else [])
          ++ (if anyTags l.ttags then [(Call.tags l.ttags.1 l.ttags.2, false)] else [])
          ++ [(.outcome k id, false), (.stopTest id, false)]),
        raised := false, loc := { l with n := l.n + (preCalls l id).length + 2, start := .unset } } := by
  simp only [stepOp, emit_no_faults, Bool.false_eq_true, if_false, List.contains_nil, Bool.or_self]
  unfold preCalls
  split <;> split <;> rfl

end TTV.Props.C12
