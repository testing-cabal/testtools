import TTV.Lemmas.RunDetailsCore
import TTV.Lemmas.RunKeys
import TTV.Lemmas.RunCover
import TTV.Lemmas.RunOrder
import TTV.Lemmas.RunTrace
/-! The three details invariants (`InvD`, `KeyPerm`, `Cov`) of the same ghost accumulators `T`, `A`, `U`, over a whole run
(`runCore_invAll`); what the final state then has (`InvAll.keyInv`), and `J` of the dict handed to the result (`JS.final`). -/
namespace TTV.Run
open TTV.Spec.Run TTV.Spec.C05

structure InvAll (p : Program) (s : RS) (T : List Exc) (A : List (DName × UC)) (U : List (DName × Content)) : Prop where
  d    : InvD p s T A U
  keys : KeyPerm s A U
  cov  : Cov s U

theorem runCore_invAll (p : Program) (ff0 : Bool) (hwf : wf p = true) :
    ∃ T A U, InvAll p (runCore p ff0).1 T A U := by
  apply runCore_induct p ff0 hwf (fun s => ∃ T A U, InvAll p s T A U)
  · exact ⟨_, _, _, InvD.init, KeyPerm.init, Cov.init⟩
  · rintro st s hinv ⟨T, A, U, hd, hk, hc⟩ hm
    exact ⟨_, _, _, hd.step hwf st hm.ok.mem, hk.step st _, hc.step st _ hm.noRan hd.clock⟩
  · rintro s c rest hinv ⟨T, A, U, hd, hk, hc⟩ hs
    exact ⟨_, _, _, hd.stepCl hwf hinv c rest hs, hk.stepCl c rest hs, hc.stepCl c rest hs hd.clock⟩
  · rintro s - ⟨T, A, U, hd, hk, hc⟩ - -
    exact ⟨_, _, _, hd.forced, hk.forced, hc.forced⟩

/-- a run stores no content object twice: it executes no stage twice, and the contents of a well-formed program are distinct -/
theorem InvAll.keyInv {p : Program} {ff0 : Bool} {T : List Exc} {A : List (DName × UC)} {U : List (DName × Content)}
    (hwf : wf p = true) (h : InvAll p (runCore p ff0).1 T A U) : KeyInv (runCore p ff0).1 A U :=
  KeyInv.of_perm h.keys (runCore_execd_eq p ff0 ▸ runOrder_flatMap_nodup p stageKeys (wf_keys p hwf))

theorem JS.final {s : RS} {T : List Exc} {A : List (DName × UC)} {U : List (DName × Content)} (h : JS s T A U)
    (hs : Handlers) (sel : Option Exc) : J (finalDetails hs s sel) s.plain s.clobbered T A U := by
  cases sel with
  | none => exact h
  | some e =>
    simp only [finalDetails]
    split
    · exact J.reasonSet h e.tag
    · exact h

end TTV.Run
