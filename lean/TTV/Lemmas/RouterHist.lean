import TTV.Spec.C18
/-! The reading of an observed history that `Spec.C18` defines, on its own terms (no router state occurs here): an `add_rule`
as it enters the history (`regOf_entered`: the flag takes effect only for a sink not yet registered); the induction principle
`walk_cases` of the walker with what every successful walk keeps (`WalkOut`) and which sinks a dispatch calls (`walk_tops`);
how `opOk` reads an operation (`Plan`, `opOk_cases`) and what every operation that passes keeps (`opOk_out`). -/
namespace TTV.Props.C18
open TTV.Stream TTV.Stream.Router TTV.Spec.C18

def _root_.TTV.Spec.C18.Reg.sink : Reg → Nat
  | .pfx k _ _ _ => k
  | .tid k _ _ => k
/-- `do_start_stop_run` -/
def _root_.TTV.Spec.C18.Reg.flag : Reg → Bool
  | .pfx _ _ _ f => f
  | .tid _ _ f => f
def _root_.TTV.Spec.C18.Reg.setFlag : Reg → Bool → Reg
  | .pfx k p c _, b => .pfx k p c b
  | .tid k t _, b => .tid k t b

theorem _root_.TTV.Spec.C18.Reg.setFlag_flag (r : Reg) : r.setFlag r.flag = r := by cases r <;> rfl
theorem _root_.TTV.Spec.C18.Reg.flag_setFlag (r : Reg) (b : Bool) : (r.setFlag b).flag = b := by cases r <;> rfl
theorem _root_.TTV.Spec.C18.Reg.sink_setFlag (r : Reg) (b : Bool) : (r.setFlag b).sink = r.sink := by cases r <;> rfl

theorem flaggedSink_of {o : Op} {r : Reg} (h : regOf o = some r) : flaggedSink o = if r.flag then some r.sink else none := by
  rw [flaggedSink, h]; rcases r with ⟨_, _, _, _ | _⟩ | ⟨_, _, _ | _⟩ <;> rfl

theorem flaggedSink_none {o : Op} (h : regOf o = none) : flaggedSink o = none := by simp [flaggedSink, h]
theorem effAdd_none {o : Op} (h : regOf o = none) : effAdd o = [] := by simp [effAdd, h]
theorem effAdd_some {o : Op} {r : Reg} (h : regOf o = some r) : effAdd o = [o] := by simp [effAdd, h]

theorem regs_snoc (hist : List Op) (o : Op) : regs (hist ++ [o]) = regs hist ++ (regOf o).toList := by
  simp only [regs, List.filterMap_append, List.filterMap_cons, List.filterMap_nil]
  cases regOf o <;> rfl

theorem prefixRule_snoc (rs : List Reg) (r : Reg) (seg : Str) :
    prefixRule (rs ++ [r]) seg =
      match r with
      | .pfx sink p consume _ => if p = seg then some (sink, consume) else prefixRule rs seg
      | .tid _ _ _ => prefixRule rs seg := by
  simp only [prefixRule, List.reverse_append, List.reverse_cons, List.reverse_nil, List.nil_append, List.cons_append,
    List.findSome?_cons]
  cases r with
  | pfx sink p consume flag => by_cases h : p = seg <;> simp [h]
  | tid sink t flag => rfl

theorem idRule_snoc (rs : List Reg) (r : Reg) (t : Option Nat) :
    idRule (rs ++ [r]) t =
      match r with
      | .tid sink t' _ => if t' = t then some sink else idRule rs t
      | .pfx _ _ _ _ => idRule rs t := by
  simp only [idRule, List.reverse_append, List.reverse_cons, List.reverse_nil, List.nil_append, List.cons_append,
    List.findSome?_cons]
  cases r with
  | pfx sink p consume flag => rfl
  | tid sink t' flag => by_cases h : t' = t <;> simp [h]

/-- whether a run is in progress once `o` has returned normally, `r` = whether one was before -/
def runAfter (o : Op) (r : Bool) : Bool :=
  match o with
  | .start => true
  | .stop => false
  | _ => r

theorem runAfter_of_not_ctl {o : Op} (h : isCtl o = false) (r : Bool) : runAfter o r = r := by
  cases o <;> first | rfl | cases h

theorem inRun_snoc (hist : List Op) (o : Op) : inRun (hist ++ [o]) = runAfter o (inRun hist) := by
  simp only [inRun, List.reverse_append, List.reverse_cons, List.reverse_nil, List.nil_append, List.cons_append,
    List.find?_cons]
  cases o <;> simp [isCtl, runAfter]

theorem not_ctl_of_regOf {o : Op} {r : Reg} (h : regOf o = some r) : isCtl o = false := by
  cases o <;> first | rfl | cases h

theorem inRun_effAdd (H : List Op) (o : Op) : inRun (H ++ effAdd o) = inRun H := by
  cases h : regOf o with
  | none => rw [effAdd_none h, List.append_nil]
  | some r => rw [effAdd_some h, inRun_snoc, runAfter_of_not_ctl (not_ctl_of_regOf h)]

/-- who is registered for start/stop after the history `h` (`_sinks`), in order -/
abbrev registered (hb ff : Bool) (h : List Op) : List Nat := flagged hb ff (regs h)

theorem registered_nil_nodup (hb ff : Bool) : (registered hb ff []).Nodup := by
  cases hb <;> cases ff <;> decide

theorem registered_snoc (hb ff : Bool) (h : List Op) (o : Op) :
    registered hb ff (h ++ [o]) = registered hb ff h ++ (flaggedSink o).toList := by
  simp only [registered, flagged, regs_snoc, List.filterMap_append, List.append_assoc, flaggedSink]
  cases regOf o with
  | none => rfl
  | some r => rcases r with ⟨_, _, _, _ | _⟩ | ⟨_, _, _ | _⟩ <;> rfl

theorem registered_append (hb ff : Bool) (h : List Op) :
    ∀ X : List Op, registered hb ff (h ++ X) = registered hb ff h ++ X.filterMap flaggedSink
  | [] => by simp
  | o :: X => by
    rw [List.append_cons, registered_append hb ff (h ++ [o]) X, registered_snoc, List.append_assoc, List.filterMap_cons]
    cases flaggedSink o <;> rfl

theorem registered_mono (hb ff : Bool) {h h' : List Op} (hp : h <+: h') : registered hb ff h <+: registered hb ff h' := by
  obtain ⟨X, rfl⟩ := hp
  exact ⟨_, (registered_append hb ff h X).symm⟩

theorem registered_effAdd (hb ff : Bool) (h : List Op) (o : Op) :
    registered hb ff (h ++ effAdd o) = registered hb ff h ++ (flaggedSink o).toList := by
  cases hr : regOf o with
  | none => simp [effAdd_none hr, flaggedSink_none hr]
  | some r => rw [effAdd_some hr, registered_snoc]

theorem registered_snoc_of_none (hb ff : Bool) (h : List Op) {o : Op} (ho : regOf o = none) :
    registered hb ff (h ++ [o]) = registered hb ff h := by
  rw [registered_snoc, flaggedSink_none ho]; exact List.append_nil _

theorem entered_of_none (hb ff : Bool) (h : List Op) {o : Op} (hr : regOf o = none) : entered hb ff h o = o := by
  simp [entered, flaggedSink_none hr]

theorem regOf_clearFlag (o : Op) : regOf (clearFlag o) = (regOf o).map (·.setFlag false) := by
  cases o with
  | addPrefix k p c f => by_cases hp : '/' ∈ p <;> simp [clearFlag, regOf, hp, Reg.setFlag]
  | _ => rfl

theorem regOf_entered (hb ff : Bool) (h : List Op) (o : Op) :
    regOf (entered hb ff h o) = (regOf o).map fun r => r.setFlag (r.flag && !(registered hb ff h).contains r.sink) := by
  cases hr : regOf o with
  | none => rw [entered_of_none hb ff h hr, hr]; rfl
  | some r =>
    simp only [entered, flaggedSink_of hr, Option.map_some]
    cases hf : r.flag with
    | false =>
      simp only [Bool.false_eq_true, if_false, Bool.false_and, hr]
      rw [← hf, r.setFlag_flag]
    | true =>
      simp only [if_true, Bool.true_and]
      cases hc : (registered hb ff h).contains r.sink with
      | true => simp only [if_true, regOf_clearFlag, hr, Option.map_some, Bool.not_true]
      | false => simp only [Bool.false_eq_true, if_false, hr, Bool.not_false]; rw [← hf, r.setFlag_flag]

theorem regOf_entered_some (hb ff : Bool) (h : List Op) {o : Op} {r : Reg} (hr : regOf o = some r) :
    regOf (entered hb ff h o) = some (r.setFlag (r.flag && !(registered hb ff h).contains r.sink)) := by
  rw [regOf_entered, hr]; rfl

theorem effAdd_entered (hb ff : Bool) (h : List Op) {o : Op} {r : Reg} (hr : regOf o = some r) :
    effAdd (entered hb ff h o) = [entered hb ff h o] :=
  effAdd_some (regOf_entered_some hb ff h hr)

theorem flaggedSink_entered (hb ff : Bool) (h : List Op) (o : Op) :
    flaggedSink (entered hb ff h o) = (flaggedSink o).filter fun y => !(flagged hb ff (regs h)).contains y := by
  cases hr : regOf o with
  | none => rw [entered_of_none hb ff h hr, flaggedSink_none hr]; rfl
  | some r =>
    rw [flaggedSink_of (regOf_entered_some hb ff h hr), flaggedSink_of hr, Reg.flag_setFlag, Reg.sink_setFlag]
    cases r.flag
    · rfl
    · simp only [Bool.true_and, if_true, Option.filter]

theorem registered_entered_nodup (hb ff : Bool) (h : List Op) (o : Op) (hn : (registered hb ff h).Nodup) :
    (registered hb ff (h ++ effAdd (entered hb ff h o))).Nodup := by
  rw [registered_effAdd, flaggedSink_entered]
  cases flaggedSink o with
  | none => simpa using hn
  | some y =>
    simp only [Option.filter]
    split
    · next hy =>
      have hy : y ∉ registered hb ff h := by simpa using hy
      exact List.nodup_append.mpr ⟨hn, by simp, fun a ha b hb => by simp at hb; exact fun hab => hy (hb ▸ hab ▸ ha)⟩
    · simpa using hn

theorem walk_nil (hb ff running : Bool) (m : Mode) (i : Nat) (h : List Op) (st : Bool) :
    walk hb ff running m i h none st [] = if allDone hb ff m h i then some (none, h) else none := rfl

theorem walk_radd (hb ff running : Bool) (m : Mode) (i : Nat) (h : List Op) (o : Op) (r : List Item) :
    walk hb ff running m i h none true (.radd o :: r) =
      walk hb ff running m i (h ++ effAdd (entered hb ff h o)) (if running then flaggedSink (entered hb ff h o) else none) true r := rfl

theorem walk_pend (hb ff running : Bool) (m : Mode) (i : Nat) (h : List Op) (y : Nat) (st : Bool) (r : List Item) :
    walk hb ff running m i h (some y) st (.del y .start true :: r) = walk hb ff running m i h none st r := if_pos rfl

theorem walk_top (hb ff running : Bool) {m : Mode} {i : Nat} {h : List Op} {x : Nat} {ev : SinkEv} (st : Bool)
    (hn : nextTop hb ff m h i = some (x, ev)) (r : List Item) :
    walk hb ff running m i h none st (.del x ev false :: r) = walk hb ff running m (i + 1) h none true r := if_pos hn

/-- Induction over a walk that succeeds, with result `(e, h')`.  The two cases that change the position or the history
(`radd`, `top`) also hand over the equation of the walk that is left, for what the induction hypothesis cannot say: how
`h'` extends the history after the step. -/
theorem walk_cases {hb ff running : Bool} {m : Mode} {e : Option String} {h' : List Op}
    {P : Nat → List Op → Option Nat → Bool → List Item → Prop}
    (done : ∀ i st, allDone hb ff m h' i = true → e = none → P i h' none st [])
    (exc : ∀ i x, e = some x → P i h' none true [.exc x])
    (pend : ∀ i h y st r, P i h none st r → P i h (some y) st (.del y .start true :: r))
    (radd : ∀ i h o r,
      walk hb ff running m i (h ++ effAdd (entered hb ff h o)) (if running then flaggedSink (entered hb ff h o) else none) true r
        = some (e, h') →
      P i (h ++ effAdd (entered hb ff h o)) (if running then flaggedSink (entered hb ff h o) else none) true r →
      P i h none true (.radd o :: r))
    (top : ∀ i h st x ev r, nextTop hb ff m h i = some (x, ev) → walk hb ff running m (i + 1) h none true r = some (e, h') →
      P (i + 1) h none true r → P i h none st (.del x ev false :: r))
    {seg : List Item} {i : Nat} {h : List Op} {p : Option Nat} {st : Bool}
    (hw : walk hb ff running m i h p st seg = some (e, h')) : P i h p st seg := by
  -- the cases are the branches of `walk` in the order of its text, an `if` counting twice (then, else): 1 the pending start is
  -- made, 4 the segment ends with everybody called, 6 the exception, 8 a re-entrant `add_rule`, 10 a call by the router; in
  -- the others (2, 3, 5, 7, 9, 11, 12) `walk` is `none`
  fun_induction walk hb ff running m i h p st seg with
  | case1 i h st y r ih => exact pend i h y st r (ih hw)
  | case4 i h st hd => cases hw; exact done i st hd rfl
  | case6 i h x => cases hw; exact exc i x rfl
  | case8 i h o r ih => exact radd i h o r hw (ih hw)
  | case10 i h st x ev r hn ih => exact top i h st x ev r hn hw (ih hw)
  | _ => cases hw

structure WalkOut (hb ff : Bool) (h h' : List Op) (e : Option String) (seg : List Item) : Prop where
  ext : h <+: h'
  inRun : inRun h' = inRun h
  nodup : (registered hb ff h).Nodup → (registered hb ff h').Nodup
  exc : ∀ x, e = some x → hasExc seg = true

theorem walk_out {hb ff running : Bool} {m : Mode} {seg : List Item} {i : Nat} {h : List Op} {p : Option Nat} {st : Bool}
    {e : Option String} {h' : List Op} (hw : walk hb ff running m i h p st seg = some (e, h')) : WalkOut hb ff h h' e seg := by
  apply walk_cases (hw := hw)
  case done => exact fun _ _ _ he => ⟨List.prefix_rfl, rfl, id, fun _ hx => nomatch he.symm.trans hx⟩
  case exc => exact fun _ _ _ => ⟨List.prefix_rfl, rfl, id, fun _ _ => rfl⟩
  case pend => exact fun _ _ _ _ _ ih => ⟨ih.ext, ih.inRun, ih.nodup, ih.exc⟩
  case radd =>
    exact fun _ h o _ _ ih => ⟨(List.prefix_append _ _).trans ih.ext,
      ih.inRun.trans (inRun_effAdd h _), fun hn => ih.nodup (registered_entered_nodup hb ff h o hn), ih.exc⟩
  case top => exact fun _ _ _ _ _ _ _ _ ih => ⟨ih.ext, ih.inRun, ih.nodup, ih.exc⟩

/-- the sink a dispatch calls at position `i` of the registered sinks keeps that position in every later history `h'` -/
theorem nextTop_ctl {hb ff : Bool} {ev ev' : SinkEv} {h h' : List Op} {i x : Nat}
    (hn : nextTop hb ff (.ctl ev) h i = some (x, ev')) (hpre : registered hb ff h <+: registered hb ff h') :
    ev' = ev ∧ x ∈ registered hb ff h ∧ (registered hb ff h').drop i = x :: (registered hb ff h').drop (i + 1) := by
  simp only [nextTop, Option.map_eq_some_iff, Prod.mk.injEq] at hn
  obtain ⟨x, hx, rfl, rfl⟩ := hn
  have hx' : (registered hb ff h')[i]? = some x := by
    obtain ⟨Z, hZ⟩ := hpre
    rw [← hZ, List.getElem?_append_left (List.getElem?_eq_some_iff.mp hx).1]; exact hx
  obtain ⟨hlt', hget⟩ := List.getElem?_eq_some_iff.mp hx'
  exact ⟨rfl, List.mem_of_getElem? hx, by rw [List.drop_eq_getElem_cons hlt', hget]⟩

/-- the calls the router itself makes (not those made from inside a sink's method) -/
def topCalls : List Item → List (Nat × SinkEv)
  | [] => []
  | .del x ev false :: r => (x, ev) :: topCalls r
  | _ :: r => topCalls r

/-- the calls made from inside a sink's method (immediate starts of re-entrantly added rules) -/
def nestedCalls : List Item → List (Nat × SinkEv)
  | [] => []
  | .del x ev true :: r => (x, ev) :: nestedCalls r
  | _ :: r => nestedCalls r

theorem walk_tops {hb ff running : Bool} {ev : SinkEv} {seg : List Item} {i : Nat} {h : List Op} {p : Option Nat} {st : Bool}
    {e : Option String} {h' : List Op} (hw : walk hb ff running (.ctl ev) i h p st seg = some (e, h')) :
    ∃ k, topCalls seg = (((registered hb ff h').drop i).take k).map (·, ev)
      ∧ (e = none → i + k = (registered hb ff h').length) := by
  apply walk_cases (hw := hw)
  case done =>
    intro i _ hd _
    simp only [allDone, beq_iff_eq] at hd
    exact ⟨0, rfl, fun _ => hd⟩
  case exc => exact fun i x he => ⟨0, rfl, fun h => by simp [he] at h⟩
  case pend => exact fun _ _ _ _ _ ih => ih
  case radd => exact fun i h o _ _ ih => ih
  case top =>
    intro i h _ x ev' r hn hw' ih
    obtain ⟨rfl, -, hd⟩ := nextTop_ctl hn (registered_mono hb ff (walk_out hw').ext)
    obtain ⟨k, h1, h2⟩ := ih
    refine ⟨k + 1, ?_, fun he => by have := h2 he; omega⟩
    rw [topCalls, h1, hd, List.take_succ_cons, List.map_cons]

theorem walk_no_nested {hb ff : Bool} {m : Mode} {seg : List Item} {i : Nat} {h : List Op} {st : Bool}
    {e : Option String} {h' : List Op} (hw : walk hb ff false m i h none st seg = some (e, h')) : nestedCalls seg = [] := by
  refine walk_cases (P := fun _ _ p _ seg => p = none → nestedCalls seg = []) ?done ?exc ?pend ?radd ?top hw rfl
  case done => exact fun _ _ _ _ _ => rfl
  case exc => exact fun _ _ _ _ => rfl
  case pend => exact fun _ _ _ _ _ _ h => nomatch h
  case radd => exact fun _ _ _ _ _ ih _ => ih rfl
  case top => exact fun _ _ _ _ _ _ _ _ ih _ => ih rfl

theorem closes_some {res : Res} {w : Option (Option String × List Op)} {comp H' : List Op}
    (hc : closes res w comp = some H') :
    ∃ e h', w = some (e, h') ∧ H' = match e with | none => h' ++ comp | some _ => h' := by
  unfold closes at hc
  split at hc
  · split at hc
    · exact ⟨_, _, rfl, (Option.some.inj hc).symm⟩
    · cases hc
  · split at hc
    · exact ⟨_, _, rfl, (Option.some.inj hc).symm⟩
    · cases hc
  · cases hc

/-- how `opOk` reads an operation during which the router calls sinks: the mode of the walk, the history it starts
from, what a normal return appends to the history -/
inductive Plan (hb ff : Bool) (H : List Op) : Op → Mode → List Op → List Op → Prop
  | start : Plan hb ff H .start (.ctl .start) H [.start]
  | stop : Plan hb ff H .stop (.ctl .stop) H [.stop]
  | status {e : Event} {k : Nat} {e' : Event} (hd : destination hb (regs H) e = some (k, e')) :
      Plan hb ff H (.status e) (.fixed [(k, .status e')]) H []
  | add {o : Op} {r : Reg} (hr : regOf o = some r) :
      Plan hb ff H o
        (.fixed (match flaggedSink (entered hb ff H o) with | some y => if inRun H then [(y, .start)] else [] | none => []))
        (H ++ [entered hb ff H o]) []

section
variable {hb ff : Bool} {H : List Op} {o : Op} {m : Mode} {H₀ comp : List Op} (hp : Plan hb ff H o m H₀ comp)
include hp

theorem Plan.nodup (hn : (registered hb ff H).Nodup) : (registered hb ff H₀).Nodup := by
  cases hp with
  | add hr => exact effAdd_entered hb ff H hr ▸ registered_entered_nodup hb ff H _ hn
  | _ => exact hn

theorem Plan.ext : H <+: H₀ := by
  cases hp with
  | add hr => exact List.prefix_append _ _
  | _ => exact List.prefix_rfl

theorem Plan.inRun_start : inRun H₀ = inRun H := by
  cases hp with
  | add hr => exact effAdd_entered hb ff H hr ▸ inRun_effAdd H _
  | _ => rfl

theorem Plan.registered_comp (h : List Op) : registered hb ff (h ++ comp) = registered hb ff h := by
  cases hp with
  | start | stop => exact registered_snoc_of_none hb ff h rfl
  | _ => rw [List.append_nil]

theorem Plan.inRun_comp (h : List Op) : inRun (h ++ comp) = runAfter o (inRun h) := by
  cases hp with
  | start | stop => exact inRun_snoc h _
  | status hd => rw [List.append_nil]; rfl
  | add hr => rw [List.append_nil, runAfter_of_not_ctl (not_ctl_of_regOf hr)]

theorem Plan.opOk_eq (seg : List Item) (res : Res) :
    opOk hb ff H o seg res = closes res (walk hb ff (inRun H) m 0 H₀ none false seg) comp := by
  cases hp with
  | start => rfl
  | stop => rfl
  | status hd => simp only [opOk, hd]
  | add hr =>
    cases o with
    | addPrefix k p c f => simp only [opOk, hr]; rfl
    | addId k t f => rfl
    | _ => simp [regOf] at hr

end

theorem opOk_cases {hb ff : Bool} {H : List Op} {o : Op} {seg : List Item} {res : Res} {H' : List Op}
    (hop : opOk hb ff H o seg res = some H') :
    (seg = [] ∧ H' = H ∧ isCtl o = false) ∨
    ∃ m H₀ comp e h', Plan hb ff H o m H₀ comp ∧ walk hb ff (inRun H) m 0 H₀ none false seg = some (e, h') ∧
      H' = match e with | none => h' ++ comp | some _ => h' := by
  have hplan : (seg = [] ∧ H' = H ∧ isCtl o = false) ∨ ∃ m H₀ comp, Plan hb ff H o m H₀ comp := by
    have hsame : ∀ {c : Bool}, (if (seg.isEmpty && c) = true then some H else none) = some H' →
        isCtl o = false → seg = [] ∧ H' = H ∧ isCtl o = false := by
      intro c hc hctl
      split at hc
      · next h => exact ⟨List.isEmpty_iff.mp (Bool.and_eq_true_iff.mp h).1, (Option.some.inj hc).symm, hctl⟩
      · cases hc
    cases o with
    | start => exact .inr ⟨_, _, _, .start⟩
    | stop => exact .inr ⟨_, _, _, .stop⟩
    | status e =>
      cases hd : destination hb (regs H) e with
      | none => simp only [opOk, hd] at hop; exact .inl (hsame hop rfl)
      | some d => exact .inr ⟨_, _, _, .status hd⟩
    | roundTrip codes e => simp only [opOk] at hop; exact .inl (hsame hop rfl)
    | addBad k f => simp only [opOk, regOf] at hop; exact .inl (hsame hop rfl)
    | addPrefix k p c f =>
      cases hr : regOf (.addPrefix k p c f) with
      | none => simp only [opOk, hr] at hop; exact .inl (hsame hop rfl)
      | some r => exact .inr ⟨_, _, _, .add hr⟩
    | addId k t f => exact .inr ⟨_, _, _, .add rfl⟩
  exact hplan.imp_right fun ⟨m, H₀, comp, hp⟩ =>
    have ⟨e, h', hw, hH'⟩ := closes_some (hp.opOk_eq seg res ▸ hop)
    ⟨m, H₀, comp, e, h', hp, hw, hH'⟩

structure OpOut (hb ff : Bool) (H : List Op) (o : Op) (seg : List Item) (H' : List Op) : Prop where
  ext : H <+: H'
  nodup : (registered hb ff H).Nodup → (registered hb ff H').Nodup
  inRun : hasExc seg = false → inRun H' = runAfter o (inRun H)

theorem opOk_out {hb ff : Bool} {H : List Op} {o : Op} {seg : List Item} {res : Res} {H' : List Op}
    (hop : opOk hb ff H o seg res = some H') : OpOut hb ff H o seg H' := by
  rcases opOk_cases hop with ⟨-, rfl, hctl⟩ | ⟨m, H₀, comp, e, h', hp, hw, rfl⟩
  · exact ⟨List.prefix_rfl, id, fun _ => (runAfter_of_not_ctl hctl _).symm⟩
  have W := walk_out hw
  cases e with
  | none =>
    exact ⟨hp.ext.trans (W.ext.trans (List.prefix_append _ _)), fun hn => (hp.registered_comp _).symm ▸ W.nodup (hp.nodup hn),
      fun _ => by rw [hp.inRun_comp, W.inRun, hp.inRun_start]⟩
  | some x =>
    exact ⟨hp.ext.trans W.ext, fun hn => W.nodup (hp.nodup hn),
      fun hexc => by rw [W.exc x rfl] at hexc; cases hexc⟩

end TTV.Props.C18
