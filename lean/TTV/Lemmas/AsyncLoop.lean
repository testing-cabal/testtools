import TTV.Lemmas.AsyncChain
/-! The reactor loop under `Spinner.run` (`TTV.AsyncRun.drainB`, `iterateB`, `spinB`): the invariant `Inv1` of queue, clock and
spinner; what running one queued call amounts to (`execCall_cases`); induction principles for the three loops; what a step leaves
alone while the clock stands still (`Later`); the loop ends by a crash, with nothing due left (`spinB_done`). -/
namespace TTV.Props.C14
open TTV.Reactor TTV.AsyncRun TTV.Spec.C14

/-- a stage-firing call: the delayed call by which the Deferred of the pending stage fires -/
def isSD (c : DCall (QAct CAct)) : Bool :=
  match c.act with
  | .user _ (.stageDone _) => true
  | _ => false

/-- the iteration in which a queued call was scheduled (0 = before the loop) -/
def bornOf : QAct CAct → Nat
  | .timeout => 0
  | .user l _ => l

/-- The queue is ordered by due time; a stage-firing call that stands before the timeout call is due strictly earlier (of the two at one
instant the timeout call comes first, because it was scheduled first: `resume_cinv` gets `now < timeout` from this); and calls of one
instant stand in the order of the iterations that scheduled them (so when the head is not eligible nothing due is: `noDue_of_head`). -/
def SortedQ (q : List (DCall (QAct CAct))) : Prop :=
  q.Pairwise fun a b => a.time ≤ b.time ∧ (isSD a = true → b.act.isTimeout = true → a.time < b.time) ∧
    (a.time = b.time → bornOf a.act ≤ bornOf b.act)

theorem insert_sortedQ (c : DCall (QAct CAct)) (q : List (DCall (QAct CAct))) (h : SortedQ q)
    (hc : c.act.isTimeout = true → ∀ x ∈ q, isSD x = false) (hb : ∀ x ∈ q, bornOf x.act ≤ bornOf c.act) :
    SortedQ (insert c q) :=
  insert_pairwise (fun _ _ h => h.1) c q h
    (fun x hx hle => ⟨hle, fun hsd ht => Bool.noConfusion ((hc ht x hx).symm.trans hsd), fun _ => hb x hx⟩)
    (fun _ _ hlt => ⟨Nat.le_of_lt hlt, fun _ _ => hlt, fun he => absurd he (Nat.ne_of_lt hlt)⟩)

theorem SortedQ.filter {q : List (DCall (QAct CAct))} (f : DCall (QAct CAct) → Bool) (h : SortedQ q) :
    SortedQ (q.filter f) := List.Pairwise.filter f h

/-- The invariant of queue, clock and spinner from the entry into `_run_deferred` to the end of `_clean`'s iterations, whatever
the chain does (the chain's own invariant, `CInv` of `Lemmas/AsyncInv.lean`, is the second one; `LInv` is both). -/
structure Inv1 (p : Prog) (w : W) : Prop where
  sorted : SortedQ w.calls
  ge : ∀ c ∈ w.calls, w.now ≤ c.time
  ttime : ∀ c ∈ w.calls, c.act.isTimeout = true → c.time = p.timeout
  tcount : (w.calls.filter (·.act.isTimeout)).length = if w.sp.tcall = .pending then 1 else 0
  pend : w.sp.tcall = .pending → w.sp.success = none ∧ w.sp.failure = none
  -- the last conjunct lets a `TimeoutError` mean that no interrupt came before the timeout (`FinalSem.timeout`): an earlier stop
  -- request would have crashed the reactor, whose clock then stands still (`stops`), and the timeout call would never have been due
  called : w.sp.tcall = .called → p.timeout ≤ w.now ∧ w.sp.failure = some .timeout ∧ w.sp.success = none
            ∧ ∀ s ∈ p.stops, p.timeout ≤ s
  cancelled : w.sp.tcall = .cancelled → w.sp.success.isSome = true ∧ w.sp.failure = none
  nounset : w.sp.tcall ≠ .unset
  alive : w.crashed = false → w.sp.tcall = .pending ∧ w.sp.spinning = true
  -- a stop request that is no longer queued has run: it crashed the reactor, and the clock of a crashed reactor does not move
  stops : ∀ s ∈ p.stops, (⟨s, .user 0 .stop⟩ : DCall (QAct CAct)) ∈ w.calls ∨ (w.crashed = true ∧ s = w.now)
  stopcalls : ∀ c ∈ w.calls, ∀ l, c.act = .user l .stop → c.time ∈ p.stops
  -- why the reactor is crashed; the third cause is how `final_sem` reads a `NoResultError` as an interrupt
  cause : w.crashed = true → w.sp.tcall = .called ∨ w.sp.success.isSome = true ∨ ∃ s ∈ p.stops, s = w.now
  born : ∀ c ∈ w.calls, bornOf c.act ≤ w.u.iter

theorem Inv1.timeout_mem {p : Prog} {w : W} (h : Inv1 p w) (hp : w.sp.tcall = .pending) :
    ∃ x ∈ w.calls, x.act.isTimeout = true ∧ x.time = p.timeout := by
  have htc := h.tcount
  rw [if_pos hp] at htc
  obtain ⟨x, hx⟩ := List.exists_mem_of_length_pos (by omega : 0 < (w.calls.filter (·.act.isTimeout)).length)
  obtain ⟨hx1, hx2⟩ := List.mem_filter.mp hx
  exact ⟨x, hx1, hx2, h.ttime x hx1 hx2⟩

theorem Inv1.no_timeout {p : Prog} {w : W} (h : Inv1 p w) (hp : w.sp.tcall ≠ .pending) :
    ∀ x ∈ w.calls, x.act.isTimeout = false := by
  have htc := h.tcount
  rw [if_neg hp, List.length_eq_zero_iff, List.filter_eq_nil_iff] at htc
  exact fun x hx => by simpa using htc x hx

theorem Inv1.due_now {p : Prog} {w : W} (h : Inv1 p w) {c : DCall (QAct CAct)} (hd : c.time ≤ w.now) (hc : c ∈ w.calls) :
    c.time = w.now := Nat.le_antisymm hd (h.ge c hc)

theorem Inv1.calls_ne_nil {p : Prog} {w : W} (h : Inv1 p w) (hcr : w.crashed = false) : w.calls ≠ [] := fun he => by
  obtain ⟨x, hx, _⟩ := h.timeout_mem (h.alive hcr).1
  rw [he] at hx; cases hx

theorem Inv1.crashed_of_not_pending {p : Prog} {w : W} (h : Inv1 p w) (hp : w.sp.tcall ≠ .pending) : w.crashed = true := by
  cases hw : w.crashed with
  | true => rfl
  | false => exact absurd (h.alive hw).1 hp

theorem inv1_upd {p : Prog} {w : W} (f : Chain → Chain) (hf : w.u.iter ≤ (f w.u).iter) (h : Inv1 p w) : Inv1 p (updU f w) :=
  { h with born := fun c hc => Nat.le_trans (h.born c hc) hf }

theorem inv1_sched {p : Prog} {w : W} (d : Nat) (a : CAct) (ha : a ≠ .stop) (h : Inv1 p w) :
    Inv1 p (schedule (w.now + d) (.user w.u.iter a) w) := by
  refine { h with
    sorted := insert_sortedQ _ _ h.sorted nofun h.born
    ge := forall_mem_insert (Nat.le_add_right _ _) h.ge
    ttime := forall_mem_insert nofun h.ttime
    tcount := ?_
    stops := fun s hs => (h.stops s hs).imp_left fun h1 => mem_insert.mpr (Or.inr h1)
    stopcalls := forall_mem_insert (fun l hcl => absurd (QAct.user.inj hcl).2 ha) h.stopcalls
    born := forall_mem_insert (Nat.le_refl _) h.born }
  rw [schedule_calls, filter_insert_length, List.filter_cons_of_neg (by simp [QAct.isTimeout])]
  exact h.tcount

theorem inv1_deliver {p : Prog} {w : W} (b : Nat) (h : Inv1 p w) : Inv1 p (deliver (.value b) w) := by
  by_cases hp : w.sp.tcall = .pending
  · have hcr : (deliver (.value b) w).crashed = true := (deliver_crashed _ _).trans (crashed_or_spinning h.alive)
    have htc : (deliver (.value b) w).sp.tcall = .cancelled := by rw [deliver_tcall, if_pos hp]
    have hsucc : (deliver (.value b) w).sp.success = some b := deliver_success _ _ hp
    have hsub : ∀ c ∈ (deliver (.value b) w).calls, c ∈ w.calls ∧ c.act.isTimeout = false := by
      rw [deliver_calls, if_pos hp]; simp
    refine ⟨?sorted, ?ge, ?ttime, ?tcount, ?pend, ?called, ?cancelled, ?nounset, ?alive, ?stops, ?stopcalls, ?cause, ?born⟩
    · rw [deliver_calls, if_pos hp]; exact h.sorted.filter _
    · intro c hc; simpa using h.ge c (hsub c hc).1
    · intro c hc; exact h.ttime c (hsub c hc).1
    · rw [htc, List.length_eq_zero_iff.mpr (List.filter_eq_nil_iff.mpr fun c hc => by simp [(hsub c hc).2])]; rfl
    · intro ht; rw [htc] at ht; cases ht
    · intro ht; rw [htc] at ht; cases ht
    · intro _; exact ⟨by rw [hsucc]; rfl, (deliver_failure _ _ hp).trans (h.pend hp).2⟩
    · rw [htc]; simp
    · intro hc; rw [hcr] at hc; cases hc
    · intro s hs
      rcases h.stops s hs with h1 | h1
      · left; rw [deliver_calls, if_pos hp]; exact List.mem_filter.mpr ⟨h1, rfl⟩
      · right; exact ⟨hcr, by simpa using h1.2⟩
    · intro c hc; exact h.stopcalls c (hsub c hc).1
    · intro _; right; left; rw [hsucc]; rfl
    · intro c hc; simpa using h.born c (hsub c hc).1
  · -- a result that comes too late only stops the reactor, which has crashed already
    rw [deliver_of_not_pending _ _ hp]
    have hcr := h.crashed_of_not_pending hp
    unfold stopReactor
    split
    · exact { h with
        alive := nofun
        stops := fun s hs => (h.stops s hs).imp_right fun h1 => ⟨rfl, h1.2⟩
        cause := fun _ => h.cause hcr }
    · exact h

theorem inv1_reach {p : Prog} {w w' : W} (hr : Reach w w') (h : Inv1 p w) : Inv1 p w' :=
  Reach.inv (Inv1 p) (fun _ _ h => inv1_upd _ (Nat.le_refl _) h)
    (fun w _ hf h => inv1_upd _ (Nat.le_of_eq (hf w.u).2.1.symm) h) (fun _ d a ha h => inv1_sched d a ha h)
    (fun _ b h => inv1_deliver b h) hr h

/-- a stop request: `reactor.stop` is the spinner's `_fake_stop` while `Spinner.run` is under way, the genuine one otherwise -/
theorem exec_stop (p : Prog) (l : Nat) (w : W) : exec p l .stop w =
    { w with crashed := true, u := { w.u with realStops := w.u.realStops + if w.stopPatched then 0 else 1 } } := by
  simp only [exec]; split <;> rfl

theorem execCall_cases (p : Prog) (c : DCall (QAct CAct)) (w : W) :
    (c.act = .timeout ∧ execCall (exec p) c w = execTimeout w) ∨
    (∃ l a, c.act = .user l a ∧ a ≠ .stop ∧ Reach (logEvent (.user l) w) (execCall (exec p) c w) ∧
      pot p (execCall (exec p) c w) ≤ pot p w) ∨
    (∃ l, c.act = .user l .stop ∧ execCall (exec p) c w = exec p l .stop (logEvent (.user l) w)) := by
  rcases c with ⟨t, q⟩
  cases q with
  | timeout => exact Or.inl ⟨rfl, rfl⟩
  | user l a =>
    cases a with
    | stageDone r => exact Or.inr (Or.inl ⟨l, _, rfl, by simp, resume_pot_le p r _⟩)
    | noop => exact Or.inr (Or.inl ⟨l, _, rfl, by simp, .refl _, Nat.le_refl _⟩)
    | stop => exact Or.inr (Or.inr ⟨l, rfl, rfl⟩)

theorem inv1_pop {p : Prog} {w : W} (h : Inv1 p w) (c : DCall (QAct CAct)) (rest : List (DCall (QAct CAct)))
    (hc : w.calls = c :: rest) (hdue : c.time ≤ w.now) : Inv1 p (execCall (exec p) c { w with calls := rest }) := by
  have hs := h.sorted; have htc := h.tcount; have hge := h.ge; have htt := h.ttime
  have hst := h.stops; have hsc := h.stopcalls; have hb := h.born
  rw [hc] at hs htc
  rw [hc, List.forall_mem_cons] at hge htt hsc hb
  simp only [hc, List.mem_cons] at hst
  have hnow := h.due_now hdue (hc ▸ List.mem_cons_self)
  rcases execCall_cases p c { w with calls := rest } with ⟨hct, he⟩ | ⟨l, a, hca, ha, hl⟩ | ⟨l, hca, he⟩
  · rw [he]
    rw [List.filter_cons_of_pos (by rw [hct]; rfl)] at htc
    have hp : w.sp.tcall = .pending := by
      by_cases hp : w.sp.tcall = .pending
      · exact hp
      · simp [hp] at htc
    have ht0 : c.time = p.timeout := htt.1 (by rw [hct]; rfl)
    have hcr : (execTimeout { w with calls := rest }).crashed = true := (execTimeout_crashed _).trans (crashed_or_spinning h.alive)
    have hq : (execTimeout { w with calls := rest }).calls = rest := execTimeout_calls _
    refine {
      sorted := by rw [hq]; exact hs.of_cons
      ge := by rw [hq, execTimeout_now]; exact hge.2
      ttime := by rw [hq]; exact htt.2
      stopcalls := by rw [hq]; exact hsc.2
      born := by rw [hq, execTimeout_u]; exact hb.2
      pend := by simp, cancelled := by simp, nounset := by simp
      tcount := ?_, called := ?_, alive := ?_, stops := ?_, cause := ?_ }
    · rw [hp] at htc; simpa using htc
    · intro _
      refine ⟨by simp; omega, by simp, by simpa using (h.pend hp).1, ?_⟩
      intro s hs'
      rcases hst s hs' with (h1 | h1) | h1
      · rw [← h1] at hct; cases hct
      · have := (List.rel_of_pairwise_cons hs h1).1; simp at this; omega
      · omega
    · intro hcr'; rw [hcr] at hcr'; cases hcr'
    · intro s hs'
      rcases hst s hs' with (h1 | h1) | h1
      · rw [← h1] at hct; cases hct
      · exact Or.inl (by simpa using h1)
      · exact Or.inr ⟨hcr, by simpa using h1.2⟩
    · intro _; left; simp
  · rw [List.filter_cons_of_neg (by simp [hca, QAct.isTimeout])] at htc
    refine inv1_reach hl.1 { h with
      sorted := hs.of_cons, ge := hge.2, ttime := htt.2, tcount := htc, stopcalls := hsc.2, born := hb.2
      stops := fun s hs' => ?_ }
    rcases hst s hs' with (h1 | h1) | h1
    · rw [← h1] at hca; exact absurd (QAct.user.inj hca).2.symm ha
    · exact Or.inl h1
    · exact Or.inr h1
  · -- a stop request crashes the reactor, at one of the instants `p.stops`
    rw [he, exec_stop]
    rw [List.filter_cons_of_neg (by simp [hca, QAct.isTimeout])] at htc
    refine { h with
      sorted := hs.of_cons, ge := hge.2, ttime := htt.2, tcount := htc, stopcalls := hsc.2, born := hb.2, alive := nofun
      stops := fun s hs' => ?_
      cause := fun _ => Or.inr (Or.inr ⟨c.time, hsc.1 l hca, hnow⟩) }
    rcases hst s hs' with (h1 | h1) | h1
    · exact Or.inr ⟨rfl, by rw [← h1] at hnow; exact hnow⟩
    · exact Or.inl h1
    · exact Or.inr ⟨rfl, h1.2⟩

theorem inv1_adv {p : Prog} {w : W} (h : Inv1 p w) (c : DCall (QAct CAct)) (rest : List (DCall (QAct CAct)))
    (hc : w.calls = c :: rest) (hcr : w.crashed = false) : Inv1 p { w with now := max w.now c.time } := by
  have hs := h.sorted; rw [hc] at hs
  have hge := h.ge c (by rw [hc]; exact List.mem_cons_self)
  have hmax : max w.now c.time = c.time := by omega
  refine { h with ge := ?_, called := ?_, stops := ?_, cause := ?_ }
  · show ∀ x ∈ w.calls, max w.now c.time ≤ x.time
    rw [hmax, hc]
    exact List.forall_mem_cons.mpr ⟨Nat.le_refl _, fun x hx => (List.rel_of_pairwise_cons hs hx).1⟩
  · intro ht
    rw [(h.alive hcr).1] at ht; cases ht
  · intro s hs'
    refine (h.stops s hs').imp_right fun h1 => ?_
    rw [hcr] at h1; cases h1.1
  · intro hcr'
    rw [hcr] at hcr'; cases hcr'

theorem inv1_nextIter {p : Prog} {w : W} (h : Inv1 p w) : Inv1 p (nextIter w) :=
  inv1_upd _ (Nat.le_succ _) h

theorem drainB_inv (p : Prog) (P : W → Prop)
    (hpop : ∀ w c rest, P w → w.calls = c :: rest → c.time ≤ w.now → P (execCall (exec p) c { w with calls := rest })) :
    ∀ n w, P w → P (drainB p n w)
  | 0, _, h => h
  | n + 1, w, h => by
      unfold drainB
      split
      · exact h
      · rename_i c rest hc
        split
        · rename_i hd
          exact drainB_inv p P hpop n _ (hpop w c rest h hc hd.1)
        · exact h

theorem iterateB_inv (p : Prog) (P : W → Prop)
    (hpop : ∀ w c rest, P w → w.calls = c :: rest → c.time ≤ w.now → P (execCall (exec p) c { w with calls := rest }))
    (hit : ∀ w, P w → P (nextIter w)) (n : Nat) (w : W) (h : P w) : P (iterateB p n w) :=
  drainB_inv p P hpop n _ (hit w h)

theorem spinB_inv (p : Prog) (B : Nat) (P : W → Prop)
    (hpop : ∀ w c rest, P w → w.calls = c :: rest → c.time ≤ w.now → P (execCall (exec p) c { w with calls := rest }))
    (hit : ∀ w, P w → P (nextIter w))
    (hadv : ∀ w c rest, P w → w.calls = c :: rest → w.crashed = false → P { w with now := max w.now c.time }) :
    ∀ n w, P w → P (spinB p B n w)
  | 0, _, h => h
  | n + 1, w, h => by
      unfold spinB
      split
      · exact h
      · rename_i hcr
        split
        · exact h
        · rename_i c rest hc
          have hcr' : w.crashed = false := by simpa using hcr
          exact spinB_inv p B P hpop hit hadv n _ (iterateB_inv p P hpop hit _ _ (hadv w c rest h hc hcr'))

theorem spinB_crashed (p : Prog) (B n : Nat) (w : W) (h : w.crashed = true) : spinB p B n w = w := by
  cases n with
  | zero => rfl
  | succ n => unfold spinB; rw [if_pos h]

/-- `w'` comes after `w` in the run while the clock stands still (within one iteration of the reactor, or anywhere in `_clean`'s): what
every such step keeps (`now`, `over`, `sels`, `running`, `observers`) or moves one way only.  `iter`, `crashed` serve the loop lemmas here;
`pending`, `success`, `called` say that the spinner's record, once made, stays (`IterEnd`); `live` is for `Live1`, `Live2` (Props/C14). -/
structure Later (w w' : W) : Prop where
  now : w'.now = w.now
  iter : w.u.iter ≤ w'.u.iter
  over : w'.u.over = w.u.over
  sels : w'.sels = w.sels
  running : w'.running = w.running
  observers : w'.u.observers = w.u.observers
  crashed : w.crashed = true → w'.crashed = true
  pending : w'.sp.tcall = .pending → w.sp.tcall = .pending
  success : w.sp.tcall ≠ .pending → w'.sp.success = w.sp.success
  called : w.sp.tcall = .called → w'.sp.tcall = .called
  live : ∃ extra, w'.u.live = w.u.live ++ extra ∧ w'.u.stages.length = w.u.stages.length + extra.length ∧
    extra.all (· == w.running) = true

theorem Later.of_u_eq {w w' : W} (hnow : w'.now = w.now) (hsels : w'.sels = w.sels) (hrun : w'.running = w.running)
    (hcr : w.crashed = true → w'.crashed = true) (hp : w'.sp.tcall = .pending → w.sp.tcall = .pending)
    (hs : w.sp.tcall ≠ .pending → w'.sp.success = w.sp.success) (hc : w.sp.tcall = .called → w'.sp.tcall = .called)
    (hu : w'.u = w.u) : Later w w' :=
  { now := hnow, iter := by rw [hu]; exact Nat.le_refl _, over := by rw [hu], sels := hsels, running := hrun
    observers := by rw [hu], crashed := hcr, pending := hp, success := hs, called := hc, live := ⟨[], by simp [hu]⟩ }

theorem Later.refl (w : W) : Later w w := .of_u_eq rfl rfl rfl id id (fun _ => rfl) id rfl

theorem Later.trans {w w1 w2 : W} (h1 : Later w w1) (h2 : Later w1 w2) : Later w w2 := by
  obtain ⟨e1, a1, b1, c1⟩ := h1.live
  obtain ⟨e2, a2, b2, c2⟩ := h2.live
  refine {
    now := h2.now.trans h1.now, iter := Nat.le_trans h1.iter h2.iter, over := h2.over.trans h1.over
    sels := h2.sels.trans h1.sels, running := h2.running.trans h1.running, observers := h2.observers.trans h1.observers
    crashed := fun h => h2.crashed (h1.crashed h), pending := fun h => h1.pending (h2.pending h)
    success := fun h => (h2.success fun hp => h (h1.pending hp)).trans (h1.success h)
    called := fun h => h2.called (h1.called h)
    live := ⟨e1 ++ e2, by rw [a2, a1, List.append_assoc], by rw [b2, b1, List.length_append, Nat.add_assoc], ?_⟩ }
  rw [h1.running] at c2
  rw [List.all_append, c1, c2]; rfl

theorem Later.of_queue (w : W) (q : List (DCall (QAct CAct))) (e : List (Nat × Lbl)) :
    Later w { w with calls := q, events := e } := .of_u_eq rfl rfl rfl id id (fun _ => rfl) id rfl

theorem deliver_later (r : Res) (w : W) : Later w (deliver r w) := by
  refine .of_u_eq (by simp) (by simp) (by simp) (fun h => by rw [deliver_crashed, h]; rfl) (fun h => ?_)
    (fun h => by rw [deliver_of_not_pending _ _ h]; simp) (fun h => by rw [deliver_tcall, h]; rfl) (by simp)
  rw [deliver_tcall] at h
  split at h
  · cases h
  · exact h

theorem log_later (n : SName) (w : W) : Later w (updU (Chain.log n w.now w.running) w) :=
  { Later.refl w with live := ⟨[w.running], rfl, by simp [Chain.log], by simp⟩ }

theorem upd_later {f : Chain → Chain} (hf : Keeps f) (w : W) : Later w (updU f w) := by
  obtain ⟨k1, k2, k3, k4, k5⟩ := hf w.u
  exact { Later.refl w with iter := Nat.le_of_eq k2.symm, over := k5, observers := k1, live := ⟨[], by simp [k4], by simp [k3], rfl⟩ }

theorem Reach.later {w w' : W} (h : Reach w w') : Later w w' :=
  Reach.inv (Later w) (fun w1 n h1 => h1.trans (log_later n w1)) (fun w1 _ hf h1 => h1.trans (upd_later hf w1))
    (fun _ _ _ _ h1 => h1.trans (.of_queue _ _ _)) (fun w1 _ h1 => h1.trans (deliver_later _ w1)) h (.refl w)

theorem Reach.recorded_of_crashed {w w' : W} (h : Reach w w') (hp : w.sp.tcall = .pending) (hcr : w.crashed = false)
    (hcr' : w'.crashed = true) : w'.sp.success.isSome = true := by
  induction h with
  | refl w => rw [hcr] at hcr'; cases hcr'
  | log n _ ih => exact ih hp hcr hcr'
  | upd hf _ ih => exact ih hp hcr hcr'
  | sched d a ha _ ih => exact ih hp hcr hcr'
  | @deliv w _ b hr _ => rw [hr.later.success (by rw [deliver_tcall, if_pos hp]; nofun), deliver_success _ _ hp]; rfl

theorem execTimeout_later (w : W) : Later w (execTimeout w) :=
  .of_u_eq (by simp) (by simp) (by simp) (fun h => by rw [execTimeout_crashed, h]; rfl) (fun h => by simp at h)
    (fun _ => by simp) (fun _ => by simp) (by simp)

theorem pop_later (p : Prog) (w : W) (c : DCall (QAct CAct)) (rest : List (DCall (QAct CAct))) :
    Later w (execCall (exec p) c { w with calls := rest }) := by
  rcases execCall_cases p c { w with calls := rest } with ⟨_, he⟩ | ⟨l, a, _, _, hl⟩ | ⟨l, _, he⟩
  · rw [he]; exact Later.trans (w1 := { w with calls := rest }) (.of_queue _ _ _) (execTimeout_later _)
  · exact Later.trans (w1 := logEvent (.user l) { w with calls := rest }) (.of_queue _ _ _) hl.1.later
  · rw [he, exec_stop]
    exact { Later.refl w with crashed := fun _ => rfl }

theorem nextIter_later (w : W) : Later w (nextIter w) := { Later.refl w with iter := Nat.le_succ _ }

theorem pot_pop (p : Prog) (w : W) (c : DCall (QAct CAct)) (rest : List (DCall (QAct CAct))) (hc : w.calls = c :: rest) :
    pot p (execCall (exec p) c { w with calls := rest }) < pot p w := by
  have hw : pot p w = pot p { w with calls := rest } + 1 := by simp [pot, hc]; omega
  rw [hw]
  rcases execCall_cases p c { w with calls := rest } with ⟨_, he⟩ | ⟨l, a, _, _, hl⟩ | ⟨l, _, he⟩
  · rw [he]; simp [pot]
  · exact Nat.lt_succ_of_le hl.2
  · rw [he, exec_stop]; exact Nat.lt_succ_self _

theorem pot_nextIter (p : Prog) (w : W) : pot p (nextIter w) = pot p w := rfl

theorem drainB_pot (p : Prog) (n : Nat) (w : W) : pot p (drainB p n w) ≤ pot p w :=
  drainB_inv p (pot p · ≤ pot p w) (fun w' c rest h hc _ => Nat.le_trans (Nat.le_of_lt (pot_pop p w' c rest hc)) h) n w
    (Nat.le_refl _)

theorem drainB_pot_lt (p : Prog) (n : Nat) (w : W) (c : DCall (QAct CAct)) (rest : List (DCall (QAct CAct)))
    (hc : w.calls = c :: rest) (hdue : c.time ≤ w.now ∧ eligible w.u.iter c = true) : pot p (drainB p (n + 1) w) < pot p w := by
  unfold drainB
  simp only [hc, hdue, and_self, if_true]
  exact Nat.lt_of_le_of_lt (drainB_pot p n _) (pot_pop p w c rest hc)

theorem eligible_iff (iter : Nat) (c : DCall (QAct CAct)) :
    eligible iter c = true ↔ c.act.isTimeout = true ∨ bornOf c.act < iter := by
  rcases c with ⟨t, q⟩
  cases q <;> simp [eligible, bornOf, QAct.isTimeout]

def NoDue (w : W) : Prop := ∀ c ∈ w.calls, ¬ (c.time ≤ w.now ∧ eligible w.u.iter c = true)

theorem noDue_of_head {p : Prog} {w : W} (hi : Inv1 p w) (hiter : 0 < w.u.iter)
    (hh : ∀ c rest, w.calls = c :: rest → ¬ (c.time ≤ w.now ∧ eligible w.u.iter c = true)) : NoDue w := by
  intro x hx ⟨hx1, hx2⟩
  cases hcalls : w.calls with
  | nil => rw [hcalls] at hx; cases hx
  | cons c rest =>
    have hs := hi.sorted
    rw [hcalls] at hx hs
    rcases List.mem_cons.mp hx with rfl | hx
    · exact hh _ rest hcalls ⟨hx1, hx2⟩
    · -- the head is due; `x`, scheduled no earlier than the head, is eligible: so is the head
      obtain ⟨h1, _, h3⟩ := List.rel_of_pairwise_cons hs hx
      have hgc := hi.ge c (by rw [hcalls]; exact List.mem_cons_self)
      have hb := h3 (by omega)
      refine hh c rest hcalls ⟨by omega, (eligible_iff _ c).mpr (Or.inr ?_)⟩
      rcases (eligible_iff _ x).mp hx2 with ht | hlt
      · have : bornOf x.act = 0 := by
          rcases x with ⟨_, q⟩
          cases q <;> first | rfl | cases ht
        omega
      · omega

/-- with fuel for `pot` pops the iteration stops because its head is not due, never because the fuel is spent -/
theorem drainB_done (p : Prog) : ∀ (n : Nat) (w : W), Inv1 p w → 0 < w.u.iter → pot p w ≤ n → NoDue (drainB p n w)
  | 0, w, _, _, h => by
      have : w.calls = [] := List.eq_nil_of_length_eq_zero (by unfold pot at h; omega)
      intro c hc; simp [drainB, this] at hc
  | n + 1, w, hi, hit, h => by
      unfold drainB
      split
      · rename_i hc; intro c hc'; rw [hc] at hc'; cases hc'
      · rename_i c rest hc
        split
        · rename_i hd
          have := pot_pop p w c rest hc
          exact drainB_done p n _ (inv1_pop hi c rest hc hd.1) (Nat.lt_of_lt_of_le hit (pop_later p w c rest).iter) (by omega)
        · rename_i hnd
          refine noDue_of_head hi hit fun c' rest' hc' => ?_
          rw [hc] at hc'
          obtain ⟨rfl, _⟩ := List.cons.inj hc'
          exact hnd

/-- one iteration of the loop, from a world that is not crashed: the clock moves to the head, which is then due and eligible, so the
potential drops -/
theorem spin_iter {p : Prog} {w : W} (B : Nat) (hi : Inv1 p w) (c : DCall (QAct CAct)) (rest : List (DCall (QAct CAct)))
    (hc : w.calls = c :: rest) (hcr : w.crashed = false) (hB : pot p w ≤ B) :
    Inv1 p (iterateB p B { w with now := max w.now c.time }) ∧
    pot p (iterateB p B { w with now := max w.now c.time }) < pot p w ∧
    NoDue (iterateB p B { w with now := max w.now c.time }) := by
  have hi1 := inv1_nextIter (inv1_adv hi c rest hc hcr)
  -- the fuel of the iteration is positive, so its first step pops the head
  obtain ⟨B', rfl⟩ : ∃ B', B = B' + 1 := ⟨B - 1, by simp [pot, hc] at hB; omega⟩
  exact ⟨drainB_inv p (Inv1 p) (fun _ c rest h hc hd => inv1_pop h c rest hc hd) _ _ hi1,
    drainB_pot_lt p B' _ c rest hc ⟨Nat.le_max_right _ _,
      (eligible_iff _ c).mpr (Or.inr (Nat.lt_succ_of_le (hi.born c (hc ▸ List.mem_cons_self))))⟩,
    drainB_done p _ _ hi1 (Nat.succ_pos _) hB⟩

/-- with fuel above `pot` the loop ends by a crash, and drained: a loop that is entered crashed does nothing, so then `NoDue` has to hold of
`w` already; one that runs ends with the `NoDue` of its last iteration (`drainB_done`).  Every iteration pops a call and every pop lowers
`pot` (`pot_pop`): so `pot` bounds the pops of any one iteration (the inner fuel `B`), and `pot + 1` the iterations with the one that finds
the reactor crashed (the outer fuel `n`). -/
theorem spinB_done (p : Prog) (B : Nat) : ∀ (n : Nat) (w : W), Inv1 p w → pot p w ≤ B → pot p w < n →
    (spinB p B n w).crashed = true ∧ (NoDue w ∨ w.crashed = false → NoDue (spinB p B n w))
  | 0, _, _, _, h => by omega
  | n + 1, w, hi, hB, hn => by
      unfold spinB
      split
      · rename_i hcr
        exact ⟨hcr, fun h => h.elim id fun h' => by rw [hcr] at h'; cases h'⟩
      · rename_i hcr
        have hcr' : w.crashed = false := by simpa using hcr
        split
        · -- an empty queue cannot hold the pending timeout call of a reactor that is not crashed
          rename_i hc
          exact absurd hc (hi.calls_ne_nil hcr')
        · rename_i c rest hc
          obtain ⟨hi2, hlt, hnd⟩ := spin_iter B hi c rest hc hcr' hB
          have ih := spinB_done p B n _ hi2 (by omega) (by omega)
          exact ⟨ih.1, fun _ => ih.2 (Or.inl hnd)⟩

end TTV.Props.C14
