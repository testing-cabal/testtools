import TTV.Lemmas.RunStatic
/-! Frame lemmas for M-Run (which fields each primitive touches); `pushes`, what a list of actions puts on the cleanup stack;
and what one stage execution does to the control part of the state (`StageEffect`). -/
namespace TTV.Run
open TTV.Spec.Run

-- the frame lemmas for `stack` stand in `Model/RunTest.lean`, whose termination proof for the cleanup loop needs them
attribute [simp] reportTb_stack got_stack gotAll_stack runTerm_stack

theorem reportTb_touches (s : RS) (e : Exc) : ∃ d c, reportTb s e = { s with details := d, tbCount := c } :=
  ⟨_, _, rfl⟩

@[simp] theorem reportTb_log (s : RS) (e : Exc) : (reportTb s e).log = s.log := by
  obtain ⟨d, c, h⟩ := reportTb_touches s e; rw [h]
@[simp] theorem reportTb_excs (s : RS) (e : Exc) : (reportTb s e).excs = s.excs := by
  obtain ⟨d, c, h⟩ := reportTb_touches s e; rw [h]
@[simp] theorem reportTb_ff (s : RS) (e : Exc) : (reportTb s e).ff = s.ff := by
  obtain ⟨d, c, h⟩ := reportTb_touches s e; rw [h]
@[simp] theorem reportTb_execd (s : RS) (e : Exc) : (reportTb s e).execd = s.execd := by
  obtain ⟨d, c, h⟩ := reportTb_touches s e; rw [h]
@[simp] theorem reportTb_nOnExc (s : RS) (e : Exc) : (reportTb s e).nOnExc = s.nOnExc := by
  obtain ⟨d, c, h⟩ := reportTb_touches s e; rw [h]
@[simp] theorem reportTb_attrs (s : RS) (e : Exc) : (reportTb s e).attrs = s.attrs := by
  obtain ⟨d, c, h⟩ := reportTb_touches s e; rw [h]
@[simp] theorem reportTb_clock (s : RS) (e : Exc) : (reportTb s e).clock = s.clock := by
  obtain ⟨d, c, h⟩ := reportTb_touches s e; rw [h]
@[simp] theorem reportTb_ran (s : RS) (e : Exc) : (reportTb s e).ran = s.ran := by
  obtain ⟨d, c, h⟩ := reportTb_touches s e; rw [h]
@[simp] theorem reportTb_regd (s : RS) (e : Exc) : (reportTb s e).regd = s.regd := by
  obtain ⟨d, c, h⟩ := reportTb_touches s e; rw [h]

def onExcCalls (n : Nat) (e : Exc) : List Ev := (List.range n).map (fun h => Ev.onExc h e)

theorem got_touches (s : RS) (e : Exc) :
    ∃ d c, got s e = { s with log := s.log ++ onExcCalls s.nOnExc e, excs := s.excs ++ [e], details := d, tbCount := c } := by
  unfold got
  split
  · exact ⟨_, _, rfl⟩
  · obtain ⟨d, c, h⟩ := reportTb_touches s e
    exact ⟨d, c, by rw [h]; rfl⟩

@[simp] theorem got_log (s : RS) (e : Exc) : (got s e).log = s.log ++ onExcCalls s.nOnExc e := by
  obtain ⟨d, c, h⟩ := got_touches s e; rw [h]
@[simp] theorem got_excs (s : RS) (e : Exc) : (got s e).excs = s.excs ++ [e] := by
  obtain ⟨d, c, h⟩ := got_touches s e; rw [h]
@[simp] theorem got_ff (s : RS) (e : Exc) : (got s e).ff = s.ff := by
  obtain ⟨d, c, h⟩ := got_touches s e; rw [h]
@[simp] theorem got_execd (s : RS) (e : Exc) : (got s e).execd = s.execd := by
  obtain ⟨d, c, h⟩ := got_touches s e; rw [h]
@[simp] theorem got_nOnExc (s : RS) (e : Exc) : (got s e).nOnExc = s.nOnExc := by
  obtain ⟨d, c, h⟩ := got_touches s e; rw [h]
@[simp] theorem got_attrs (s : RS) (e : Exc) : (got s e).attrs = s.attrs := by
  obtain ⟨d, c, h⟩ := got_touches s e; rw [h]
@[simp] theorem got_clock (s : RS) (e : Exc) : (got s e).clock = s.clock := by
  obtain ⟨d, c, h⟩ := got_touches s e; rw [h]
@[simp] theorem got_ran (s : RS) (e : Exc) : (got s e).ran = s.ran := by
  obtain ⟨d, c, h⟩ := got_touches s e; rw [h]
@[simp] theorem got_regd (s : RS) (e : Exc) : (got s e).regd = s.regd := by
  obtain ⟨d, c, h⟩ := got_touches s e; rw [h]

theorem foldl_frame {σ α β : Type} {g : σ → β → σ} {f : σ → α} (hf : ∀ s b, f (g s b) = f s) (l : List β) (s : σ) :
    f (l.foldl g s) = f s :=
  List.foldlRecOn (motive := fun x => f x = f s) l g rfl fun s' h b _ => (hf s' b).trans h

theorem gotAll_eq_foldl (s : RS) (es : List Exc) : gotAll s es = es.foldl got s := by
  induction es generalizing s with
  | nil => rfl
  | cons e es ih => exact ih (got s e)

@[simp] theorem gotAll_nOnExc (s : RS) (es : List Exc) : (gotAll s es).nOnExc = s.nOnExc :=
  gotAll_eq_foldl s es ▸ foldl_frame got_nOnExc es s
@[simp] theorem gotAll_ff (s : RS) (es : List Exc) : (gotAll s es).ff = s.ff :=
  gotAll_eq_foldl s es ▸ foldl_frame got_ff es s
@[simp] theorem gotAll_execd (s : RS) (es : List Exc) : (gotAll s es).execd = s.execd :=
  gotAll_eq_foldl s es ▸ foldl_frame got_execd es s
@[simp] theorem gotAll_attrs (s : RS) (es : List Exc) : (gotAll s es).attrs = s.attrs :=
  gotAll_eq_foldl s es ▸ foldl_frame got_attrs es s
@[simp] theorem gotAll_clock (s : RS) (es : List Exc) : (gotAll s es).clock = s.clock :=
  gotAll_eq_foldl s es ▸ foldl_frame got_clock es s
@[simp] theorem gotAll_ran (s : RS) (es : List Exc) : (gotAll s es).ran = s.ran :=
  gotAll_eq_foldl s es ▸ foldl_frame got_ran es s
@[simp] theorem gotAll_regd (s : RS) (es : List Exc) : (gotAll s es).regd = s.regd :=
  gotAll_eq_foldl s es ▸ foldl_frame got_regd es s
@[simp] theorem gotAll_log (s : RS) (es : List Exc) :
    (gotAll s es).log = s.log ++ es.flatMap (onExcCalls s.nOnExc) := by
  induction es generalizing s with
  | nil => simp [gotAll]
  | cons e es ih => simp [gotAll, ih]
@[simp] theorem gotAll_excs (s : RS) (es : List Exc) : (gotAll s es).excs = s.excs ++ es := by
  induction es generalizing s with
  | nil => simp [gotAll]
  | cons e es ih => simp [gotAll, ih]

theorem runActs_touches (as : List Act) (s : RS) : ∃ st d ff a rg pl cl,
    runActs as s = { s with stack := st, details := d, ff := ff, attrs := a, regd := rg, plain := pl, clobbered := cl } := by
  induction as generalizing s with
  | nil => exact ⟨_, _, _, _, _, _, _, rfl⟩
  | cons x as ih =>
    cases x <;> (rw [runActs]; obtain ⟨st, d, ff, a, rg, pl, cl, h⟩ := ih _; exact ⟨st, d, ff, a, rg, pl, cl, by rw [h]⟩)

@[simp] theorem runActs_log (as : List Act) (s : RS) : (runActs as s).log = s.log := by
  obtain ⟨st, d, ff, a, rg, pl, cl, h⟩ := runActs_touches as s; rw [h]
@[simp] theorem runActs_excs (as : List Act) (s : RS) : (runActs as s).excs = s.excs := by
  obtain ⟨st, d, ff, a, rg, pl, cl, h⟩ := runActs_touches as s; rw [h]
@[simp] theorem runActs_execd (as : List Act) (s : RS) : (runActs as s).execd = s.execd := by
  obtain ⟨st, d, ff, a, rg, pl, cl, h⟩ := runActs_touches as s; rw [h]
@[simp] theorem runActs_nOnExc (as : List Act) (s : RS) : (runActs as s).nOnExc = s.nOnExc := by
  obtain ⟨st, d, ff, a, rg, pl, cl, h⟩ := runActs_touches as s; rw [h]
@[simp] theorem runActs_clock (as : List Act) (s : RS) : (runActs as s).clock = s.clock := by
  obtain ⟨st, d, ff, a, rg, pl, cl, h⟩ := runActs_touches as s; rw [h]
@[simp] theorem runActs_ran (as : List Act) (s : RS) : (runActs as s).ran = s.ran := by
  obtain ⟨st, d, ff, a, rg, pl, cl, h⟩ := runActs_touches as s; rw [h]

def actIsExpect' : Act → Bool
  | .expect _ _ => true
  | _ => false

theorem actIsExpect'_eq : actIsExpect' = actIsExpect := by
  funext a; cases a <;> rfl

theorem runActs_ff (as : List Act) (s : RS) : (runActs as s).ff = (s.ff || as.any actIsExpect') := by
  induction as generalizing s with
  | nil => simp [runActs]
  | cons a as ih => cases a <;> simp [runActs, ih, actIsExpect']

/-- the cleanup entries a list of actions pushes, top first, with what a patch saved left out (`pushes`, below, keeps it) -/
def pushed : List Act → List Cl
  | [] => []
  | .cleanup c :: as => pushed as ++ [.stage c]
  | .patch a _ :: as => pushed as ++ [.unpatch a none]
  | .useFixture f ds cu :: as => pushed as ++ [.gather f ds, .stage cu]
  | _ :: as => pushed as

def stackIds : List Cl → List Nat
  | [] => []
  | .stage s :: r => s.id :: stackIds r
  | _ :: r => stackIds r

theorem stackIds_append (a b : List Cl) : stackIds (a ++ b) = stackIds a ++ stackIds b := by
  induction a with
  | nil => rfl
  | cons c a ih => cases c <;> simp [stackIds, ih]

def regIds : List Act → List Nat
  | [] => []
  | .cleanup s :: as => s.id :: regIds as
  | .useFixture _ _ s :: as => s.id :: regIds as
  | _ :: as => regIds as

theorem regIds_eq : regIds = regsOf := by
  funext as
  induction as with
  | nil => rfl
  | cons a as ih => cases a <;> simp [regIds, regsOf, ih]

/-- the cleanup entries a list of actions pushes, top first, when run from the attribute store `a` (a patch saves the
value it replaces) -/
def pushes : List Act → List (Nat × Nat) → List Cl
  | [], _ => []
  | .cleanup c :: as, a => pushes as a ++ [.stage c]
  | .patch k v :: as, a => pushes as (aset a k v) ++ [.unpatch k (aget a k)]
  | .useFixture f ds cu :: as, a => pushes as a ++ [.gather f ds, .stage cu]
  | .addDetail _ _ :: as, a => pushes as a
  | .expect _ _ :: as, a => pushes as a

theorem runActs_stack (as : List Act) (s : RS) : (runActs as s).stack = pushes as s.attrs ++ s.stack := by
  induction as generalizing s with
  | nil => rfl
  | cons x as ih => cases x <;> simp [runActs, ih, pushes]

theorem stackIds_pushes (as : List Act) (a : List (Nat × Nat)) : stackIds (pushes as a) = (regIds as).reverse := by
  induction as generalizing a with
  | nil => rfl
  | cons x as ih => cases x <;> simp [pushes, stackIds_append, stackIds, regIds, ih]

theorem stage_mem_pushes (as : List Act) (a : List (Nat × Nat)) (st : Stage) :
    Cl.stage st ∈ pushes as a ↔ childOf st as := by
  rw [childOf_iff]
  induction as generalizing a with
  | nil => simp [pushes, children]
  | cons x as ih => cases x <;> simp [pushes, children, ih, or_comm]

theorem mid_append {α : Type} {x y : α} {l : List α} (t : List α) (h : ∃ pre post, l = pre ++ x :: y :: post) :
    ∃ pre post, l ++ t = pre ++ x :: y :: post := by
  obtain ⟨pre, post, e⟩ := h
  exact ⟨pre, post ++ t, by rw [e]; simp⟩

theorem pushes_fixture {f : Nat} {ds : List (DName × UC)} {cu : Stage} : ∀ (as : List Act) (a : List (Nat × Nat)),
    Act.useFixture f ds cu ∈ as → ∃ pre post, pushes as a = pre ++ Cl.gather f ds :: Cl.stage cu :: post
  | x :: as, a, h => by
    have ih := fun a' (h' : Act.useFixture f ds cu ∈ as) => pushes_fixture as a' h'
    cases x <;> simp only [List.mem_cons, reduceCtorEq, false_or, Act.useFixture.injEq] at h <;> simp only [pushes]
    case useFixture f' ds' cu' =>
      rcases h with ⟨rfl, rfl, rfl⟩ | h
      · exact ⟨pushes as a, [], rfl⟩
      · exact mid_append _ (ih a h)
    all_goals first | exact ih _ h | exact mid_append _ (ih _ h)

theorem gather_mem_pushes {f : Nat} {ds : List (DName × UC)} (as : List Act) (a : List (Nat × Nat))
    (h : Cl.gather f ds ∈ pushes as a) : ∃ cu, Act.useFixture f ds cu ∈ as := by
  induction as generalizing a with
  | nil => cases h
  | cons x as ih =>
    cases x <;> simp only [pushes, List.mem_append, List.mem_cons, List.not_mem_nil, reduceCtorEq, or_false,
      Cl.gather.injEq] at h
    case useFixture f' ds' cu' =>
      rcases h with h | ⟨rfl, rfl⟩
      · exact (ih _ h).imp fun _ => List.mem_cons_of_mem _
      · exact ⟨cu', List.mem_cons_self⟩
    all_goals exact (ih _ h).imp fun _ => List.mem_cons_of_mem _

theorem runTerm_snd (t : Term) (s : RS) :
    (runTerm t s).2 = (termObj t).map (fun o => (termExcs t, o)) := by
  cases t <;> simp [runTerm, termObj, termExcs]
  case expectFailure r eo x => cases eo <;> simp

theorem runTerm_touches (t : Term) (s : RS) : ∃ d c, (runTerm t s).1 = { s with details := d, tbCount := c } := by
  cases t with
  | expectFailure r eo x =>
    cases eo
    · exact ⟨_, _, rfl⟩
    · exact reportTb_touches _ _
  | _ => exact ⟨_, _, rfl⟩

@[simp] theorem runTerm_log (t : Term) (s : RS) : (runTerm t s).1.log = s.log := by
  obtain ⟨d, c, h⟩ := runTerm_touches t s; rw [h]
@[simp] theorem runTerm_excs (t : Term) (s : RS) : (runTerm t s).1.excs = s.excs := by
  obtain ⟨d, c, h⟩ := runTerm_touches t s; rw [h]
@[simp] theorem runTerm_ff (t : Term) (s : RS) : (runTerm t s).1.ff = s.ff := by
  obtain ⟨d, c, h⟩ := runTerm_touches t s; rw [h]
@[simp] theorem runTerm_execd (t : Term) (s : RS) : (runTerm t s).1.execd = s.execd := by
  obtain ⟨d, c, h⟩ := runTerm_touches t s; rw [h]
@[simp] theorem runTerm_nOnExc (t : Term) (s : RS) : (runTerm t s).1.nOnExc = s.nOnExc := by
  obtain ⟨d, c, h⟩ := runTerm_touches t s; rw [h]
@[simp] theorem runTerm_clock (t : Term) (s : RS) : (runTerm t s).1.clock = s.clock := by
  obtain ⟨d, c, h⟩ := runTerm_touches t s; rw [h]
@[simp] theorem runTerm_ran (t : Term) (s : RS) : (runTerm t s).1.ran = s.ran := by
  obtain ⟨d, c, h⟩ := runTerm_touches t s; rw [h]
@[simp] theorem runTerm_attrs (t : Term) (s : RS) : (runTerm t s).1.attrs = s.attrs := by
  obtain ⟨d, c, h⟩ := runTerm_touches t s; rw [h]
@[simp] theorem runTerm_regd (t : Term) (s : RS) : (runTerm t s).1.regd = s.regd := by
  obtain ⟨d, c, h⟩ := runTerm_touches t s; rw [h]

/-- exceptions a stage hands to the runner, with (`d = true`) or without the expectedFailure decorator -/
def excsD (d : Bool) (t : Term) : List Exc := if d then decoExcs t else termExcs t

/-- the exception whose traceback the expectedFailure decorator reports: the failure it caught, if that is an `Exception` -/
def decoTb (d : Bool) (t : Term) : List Exc :=
  if d then (match termObj t with
    | some obj => if isSub obj.cls .exc then [obj] else []
    | none => []) else []

/-- under the expectedFailure decorator a stage always hands something to the runner: the unexpected success, if its
function returned -/
theorem excsD_isEmpty (d : Bool) (t : Term) : (excsD d t).isEmpty = (!d && (termExcs t).isEmpty) := by
  cases d
  · rfl
  · have := termExcs_isEmpty t
    simp only [excsD, decoExcs, if_true, Bool.not_true, Bool.false_and]
    cases ho : termObj t with
    | none => rfl
    | some o => rw [ho] at this; dsimp only; split <;> simp_all

def stage0 (st : Stage) (s : RS) : RS :=
  { s with log := s.log ++ [.stage st.id], clock := s.clock + 1, execd := s.execd ++ [st] }

theorem runStage_eq (st : Stage) (d : Bool) (s : RS) :
    runStage st d s =
      (gotAll ((decoTb d st.term).foldl reportTb (runTerm st.term (runActs st.acts (stage0 st s))).1) (excsD d st.term),
        !d && (termExcs st.term).isEmpty) := by
  simp only [runStage, stage0, decoTb, excsD, decoExcs, termExcs_isEmpty]
  have h := runTerm_snd st.term (runActs st.acts { s with log := s.log ++ [.stage st.id], clock := s.clock + 1, execd := s.execd ++ [st] })
  generalize runTerm st.term _ = pr at h ⊢
  obtain ⟨s2, r⟩ := pr
  subst h
  cases d <;> cases ho : termObj st.term <;> simp only [Option.map, gotAll, Bool.false_eq_true, if_false, if_true,
    List.foldl_nil, Bool.not_false, Bool.not_true, Bool.true_and, Bool.false_and, Option.isNone]
  · rw [(termObj_none_iff _).mp ho]; rfl
  · split <;> rfl

theorem runStage_stack_pushes (st : Stage) (d : Bool) (s : RS) :
    (runStage st d s).1.stack = pushes st.acts s.attrs ++ s.stack := by
  rw [runStage_stack]; exact runActs_stack st.acts _

/-- a field that `reportTb`, `got` and `runTerm` leave alone is, after the stage, what its actions made of it -/
theorem runStage_frame {α : Type} {f : RS → α} (hr : ∀ s e, f (reportTb s e) = f s) (hg : ∀ s e, f (got s e) = f s)
    (ht : ∀ t s, f (runTerm t s).1 = f s) (st : Stage) (d : Bool) (s : RS) :
    f (runStage st d s).1 = f (runActs st.acts (stage0 st s)) := by
  rw [runStage_eq, gotAll_eq_foldl, foldl_frame hg, foldl_frame hr, ht]

/-- what running one stage does to the control part of the state, in terms of the program text alone.  Of the stack it keeps
the stage entries only (`sids`, `stages`: two readings of `runStage_stack_pushes`); of `attrs`, `regd` and `details` it says nothing:
the modules about those go back to `runStage_frame` or `runStage_eq`. -/
structure StageEffect (st : Stage) (d : Bool) (s s' : RS) (ok : Bool) : Prop where
  log    : s'.log = s.log ++ [.stage st.id] ++ (excsD d st.term).flatMap (onExcCalls s.nOnExc)
  excs   : s'.excs = s.excs ++ excsD d st.term
  ok     : ok = (!d && (termExcs st.term).isEmpty)
  execd  : s'.execd = s.execd ++ [st]
  ff     : s'.ff = (s.ff || st.acts.any actIsExpect')
  nOnExc : s'.nOnExc = s.nOnExc
  clock  : s'.clock = s.clock + 1
  ran    : s'.ran = s.ran
  sids   : stackIds s'.stack = (regIds st.acts).reverse ++ stackIds s.stack
  stages : ∀ c, Cl.stage c ∈ s'.stack ↔
      (Act.cleanup c ∈ st.acts ∨ ∃ f ds, Act.useFixture f ds c ∈ st.acts) ∨ Cl.stage c ∈ s.stack

theorem runStage_effect (st : Stage) (d : Bool) (s : RS) :
    StageEffect st d s (runStage st d s).1 (runStage st d s).2 := by
  constructor
  · rw [runStage_eq, gotAll_log, foldl_frame reportTb_log, foldl_frame reportTb_nOnExc]; simp [stage0]
  · rw [runStage_eq, gotAll_excs, foldl_frame reportTb_excs]; simp [stage0]
  · rw [runStage_eq]
  · rw [runStage_frame reportTb_execd got_execd runTerm_execd]; simp [stage0]
  · rw [runStage_frame reportTb_ff got_ff runTerm_ff]; simp [stage0, runActs_ff]
  · rw [runStage_frame reportTb_nOnExc got_nOnExc runTerm_nOnExc]; simp [stage0]
  · rw [runStage_frame reportTb_clock got_clock runTerm_clock]; simp [stage0]
  · rw [runStage_frame reportTb_ran got_ran runTerm_ran]; simp [stage0]
  · rw [runStage_stack_pushes, stackIds_append, stackIds_pushes]
  · intro c; rw [runStage_stack_pushes, List.mem_append, stage_mem_pushes, childOf]

end TTV.Run
