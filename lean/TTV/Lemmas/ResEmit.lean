import TTV.Model.Result
import TTV.Spec.C08
/-! What the adapters of M-Res send to the object below for one call.  An `ExtendedToOriginalDecorator`: the call itself
(degraded for the target's capabilities, or nothing when the target lacks the method) followed by some `stop()`s
(fail-fast; `stop()` itself arrives as one of these).  `ThreadsafeForwardingResult`, `TestResultDecorator`, `Tagger`: a
list given by the call and the adapter's own state; `MultiTestResult`: the call itself to every target, `progress` apart
(`step_multi`).  An `ExtendedToStreamDecorator`: for an outcome, last in the file (`e2sStep_add`, with what it records: `Recorded`); for every call, `e2sStep_emits` in `Props/C17`.  The forwarded forms are those of `Spec.C08` (`degradeCall`, `decoPass`, `taggerPass`), where the
specification of C08 says what an adapter passes on.  C04, C08 and C17 each measure these lists in their own way.
Beside it, what the call does to the adapter's own record (`etodStep_own`, `tfrStep_tt`); the fields the properties read
are readings of these.  For an `ExtendedToOriginalDecorator` the two sides are one equation, `etodStep_eq`, read up to
`AfterStops`. -/
namespace TTV.Lemmas.ResEmit
open TTV.Result TTV.Spec.C08

/-- what an `ExtendedToOriginalDecorator` over a target with `caps` forwards for `c`, the `stop()`s of fail-fast apart.
`stop()` has no forwarded form here: it arrives among the `stop()`s counted by `k` in `etodStep_emits` -/
def etodMain (caps : Caps) (c : Call) : List Call :=
  match c with
  | .add .. => [degradeCall caps c]
  | .startTest _ | .stopTest _ => [c]
  | .startTestRun | .stopTestRun => if caps.startRun then [c] else []
  | .tags _ _ => if caps.tags then [c] else []
  | .time _ => if caps.time then [c] else []
  | .progress => if caps.progress then [c] else []
  | .done => if caps.done then [c] else []
  | .stop => []
  | .setFailfast _ => if caps.failfast then [c] else []

variable {σ : Type} (I : Iface σ)

/-- the adapter's record after a call, `stop()` and fail-fast (`stopMark`) apart -/
def ownAfter (caps : Caps) (own : EtodOwn) : Call → EtodOwn
  | .startTestRun => { own with tags := {}, shouldStop := false }
  | .startTest _ => { own with tags := own.tags.push }
  | .stopTest _ => { own with tags := own.tags.pop }
  | .tags n g => if caps.tags then own else { own with tags := own.tags.change n g }
  | .setFailfast b => if caps.failfast then own else { own with failfast := b }
  | _ => own

/-- `stop()`, called directly or by fail-fast, sets the adapter's own `_shouldStop` when the target has no `stop` -/
def stopMark (own : EtodOwn) (b : Bool) : EtodOwn := if b then { own with shouldStop := true } else own

theorem stopMark_tags (own : EtodOwn) (b : Bool) : (stopMark own b).tags = own.tags := by cases b <;> rfl
theorem stopMark_failfast (own : EtodOwn) (b : Bool) : (stopMark own b).failfast = own.failfast := by cases b <;> rfl
theorem stopMark_shouldStop (own : EtodOwn) (b : Bool) : (stopMark own b).shouldStop = (b || own.shouldStop) := by
  cases b <;> rfl

theorem ownAfter_shouldStop (caps : Caps) (own : EtodOwn) (c : Call) :
    (ownAfter caps own c).shouldStop = (c != .startTestRun && own.shouldStop) := by
  cases c <;> first | rfl | (simp only [ownAfter]; split <;> rfl)

/-- `q` is `p` after some `stop()`s: they went down to the target, and the adapter's own record is marked as stopped or
not.  What `stop()` and the `finally:` clause do. -/
def AfterStops (p q : EtodOwn × σ) : Prop :=
  ∃ k b, q = (stopMark p.1 b, (List.replicate k Call.stop).foldl I.step p.2)

theorem AfterStops.refl (p : EtodOwn × σ) : AfterStops I p p := ⟨0, false, rfl⟩

theorem AfterStops.trans {p q r : EtodOwn × σ} : AfterStops I p q → AfterStops I q r → AfterStops I p r
  | ⟨k, a, h⟩, ⟨k', b, h'⟩ => ⟨k + k', a || b, by
      rw [h', h, ← List.replicate_append_replicate, List.foldl_append]
      cases a <;> cases b <;> rfl⟩

theorem afterStops_stop (own : EtodOwn) (inner : σ) : AfterStops I (own, inner) (etodStop I own inner) := by
  unfold etodStop
  split
  · exact ⟨1, false, rfl⟩
  · exact ⟨0, true, rfl⟩

theorem afterStops_finally (p : EtodOwn × σ) : AfterStops I p (etodFinally I p) := by
  unfold etodFinally
  split
  · exact afterStops_stop I p.1 p.2
  · exact .refl I p

theorem afterStops_repeat (p : EtodOwn × σ) : ∀ n, AfterStops I p (Nat.repeat (etodFinally I) n p)
  | 0 => .refl I p
  | n + 1 => (afterStops_repeat p n).trans I (afterStops_finally I _)

theorem finally_after (own : EtodOwn) (inner : σ) (cs : List Call) (k0 : Nat) :
    ∃ k, (etodFinally I (own, (cs ++ List.replicate k0 Call.stop).foldl I.step inner)).2
      = (cs ++ List.replicate k Call.stop).foldl I.step inner :=
  have ⟨k, _, h⟩ := afterStops_finally I (own, (cs ++ List.replicate k0 Call.stop).foldl I.step inner)
  ⟨k0 + k, by rw [h]; simp only [← List.replicate_append_replicate, List.foldl_append]⟩

/-- an outcome goes down degraded, then the `finally:` clause runs (twice for an unexpected success turned failure) -/
theorem etodStep_add_eq (own : EtodOwn) (inner : σ) (k : Kind) (t : Nat) (a : Arg) :
    ∃ n, (n = 0 ↔ k.passing = true) ∧
      etodStep I own inner (.add k t a) = Nat.repeat (etodFinally I) n (own, I.step inner (degradeCall I.caps (.add k t a))) := by
  cases k
  · exact ⟨0, by decide, rfl⟩
  · exact ⟨1, by decide, rfl⟩
  · exact ⟨1, by decide, rfl⟩
  · refine ⟨0, by decide, ?_⟩
    cases hs : I.caps.skip <;> simp only [etodStep, degradeCall, degradeKind, degradeArg, hs]
    · rfl
    · cases a <;> rfl
  · refine ⟨0, by decide, ?_⟩
    cases hs : I.caps.xfail <;> simp only [etodStep, degradeCall, degradeKind, degradeArg, hs]
    · rfl
    · rfl
  · cases hs : I.caps.uxs <;> simp only [etodStep, degradeCall, degradeKind, degradeArg, hs]
    · exact ⟨2, by decide, rfl⟩
    · exact ⟨1, by decide, rfl⟩

theorem etodStep_eq (own : EtodOwn) (inner : σ) (c : Call) :
    AfterStops I (ownAfter I.caps own c, (etodMain I.caps c).foldl I.step inner) (etodStep I own inner c) := by
  cases c with
  | add k t a =>
    obtain ⟨n, -, h⟩ := etodStep_add_eq I own inner k t a
    exact h ▸ afterStops_repeat I _ n
  | stop => exact afterStops_stop I own inner
  | startTest t | stopTest t => exact .refl I _
  | _ => simp only [etodStep, etodMain, ownAfter]; split <;> exact .refl I _

theorem etodStep_emits (own : EtodOwn) (inner : σ) (c : Call) :
    ∃ k, (etodStep I own inner c).2 = (etodMain I.caps c ++ List.replicate k Call.stop).foldl I.step inner :=
  have ⟨k, _, h⟩ := etodStep_eq I own inner c
  ⟨k, h ▸ (List.foldl_append ..).symm⟩

theorem etodStep_own (own : EtodOwn) (inner : σ) (c : Call) :
    ∃ b, (etodStep I own inner c).1 = stopMark (ownAfter I.caps own c) b :=
  have ⟨_, b, h⟩ := etodStep_eq I own inner c
  ⟨b, h ▸ rfl⟩

theorem mem_tfrStops (own : TfrOwn) (k : Kind) : ∀ x ∈ tfrStops own k, x = Call.stop := by
  unfold tfrStops; split <;> simp

theorem tfrStops_off (own : TfrOwn) (k : Kind) (h : own.tt.failfast = false ∨ k.passing = true) : tfrStops own k = [] := by
  unfold tfrStops; rcases h with h | h <;> simp [h]

theorem tfrStops_on (own : TfrOwn) (k : Kind) (h1 : own.tt.failfast = true) (h2 : k.passing = false) :
    tfrStops own k = [Call.stop] := by
  unfold tfrStops; simp [h1, h2]

def tfrSent (own : TfrOwn) : Call → List Call
  | .add k t a => tfrBlock own k t a ++ tfrStops own k
  | .startTestRun => [.startTestRun]
  | .stopTestRun => [.stopTestRun]
  | .stop => [.stop]
  | .done => [.done]
  | _ => []

/-- the calls a `ThreadsafeForwardingResult` takes as the `TestResult` it is (its counters, clock, tags, `failfast`);
the others leave that part of it alone -/
def tfrUpcall : Call → Bool
  | .startTestRun | .startTest _ | .stopTest _ | .tags _ _ | .time _ | .setFailfast _ => true
  | _ => false

theorem tfrStep_tt (own : TfrOwn) (inner : σ) (c : Call) :
    (tfrStep I own inner c).1.tt = if tfrUpcall c then ttStep own.tt c else own.tt := by
  cases c <;> first | rfl | (simp only [tfrStep]; split <;> rfl)

theorem tfrStep_sent (own : TfrOwn) (inner : σ) (c : Call) :
    (tfrStep I own inner c).2 = (tfrSent own c).foldl I.step inner := by
  cases c <;> first | rfl | (simp only [tfrStep]; split <;> rfl)

theorem step_deco (ch : Shape) (st : St ch) (c : Call) : step (.deco ch) st c = (decoPass [c]).foldl (step ch) st := by
  cases c <;> rfl

theorem step_tagger (n g : TagSet) (ch : Shape) (st : St ch) (c : Call) :
    step (.tagger n g ch) st c = (taggerPass n g [c]).foldl (step ch) st := by
  cases c <;> rfl

theorem step_multi (ss : List Shape) (own : TT) (inner : StL ss) (c : Call) (hc : c ≠ .progress) :
    step (.multi ss) (own, inner) c = (multiOwn own c, stepL ss inner c) := by
  cases c <;> first | rfl | exact absurd rfl hc

theorem step_multi_own (ss : List Shape) (own : TT) (inner : StL ss) (c : Call) :
    (step (.multi ss) (own, inner) c).1 = multiOwn own c := by
  cases c <;> rfl

theorem multi_keeps {ss : List Shape} {X : StL ss → Prop} (own : TT) (inner : StL ss) (c : Call)
    (hp : c = .progress → X inner) (h : X (stepL ss inner c)) : X (step (.multi ss) (own, inner) c).2 := by
  by_cases hc : c = .progress
  · subst hc; exact hp rfl
  · rw [step_multi ss own inner c hc]; exact h

theorem passing_degrade (c : Caps) (k : Kind) : (degradeKind c k).passing = k.passing := by
  cases k <;> simp only [degradeKind] <;> (try split) <;> rfl

theorem sinkStep_log (f : Flavour) (s : Sink) (c : Call) :
    (sinkStep f s c).log = s.log ++ if c.logged then
      [{ call := c, ctags := match c with | .add .. => (if f = .ext then s.tags.cur else 0) | _ => 0 }] else [] := by
  cases c <;> simp only [sinkStep, Call.logged, apply_ite Sink.log, ite_self, if_true, List.append_nil, Bool.false_eq_true,
    if_false]

theorem ttStep_log (s : TT) (c : Call) :
    (ttStep s c).log = s.log ++ if c.logged then
      [{ call := c, ctags := match c with | .add .. => s.tags.cur | _ => 0 }] else [] := by
  cases c with
  | add k t a => cases k <;> rfl
  | stop | done | setFailfast b => exact (List.append_nil _).symm
  | _ => rfl

theorem textStep_tt (s : TextSt) (c : Call) : (textStep s c).tt = ttStep s.tt c := by cases c <;> rfl
theorem tbtStep_tt (s : TbtSt) (c : Call) : (tbtStep s c).tt = ttStep s.tt c := by cases c <;> rfl

theorem failing_stream (k : Kind) : (decide (streamKind k = .failure) || decide (streamKind k = .uxsuccess)) = !k.passing := by
  cases k <;> rfl

/-- the decorator's record `own'` after an outcome of test `t` (`bad`: a failing kind), against its record `o` once started -/
structure Recorded (o own' : E2S) (bad : Bool) (t : Nat) : Prop where
  started : own'.started = o.started
  tags : own'.tags = o.tags
  inprog : own'.inprog = o.inprog.filter (·.1 != t)
  sent : own'.sent = o.sent ++ [(t, o.tags.cur)]
  failfast : own'.failfast = o.failfast
  shouldStop : own'.shouldStop = (o.shouldStop || (o.failfast && bad))

/-- an outcome: the decorator, started if need be, records the final status event and replays the test to its target -/
theorem e2sStep_add (own : E2S) (inner : σ) (k : Kind) (t : Nat) (a : Arg) :
    ∃ (own' : E2S) (d : Details) (f ts : TimeV),
      e2sStep I own inner (.add k t a)
        = (own', placeholderRun I (e2sAuto I own inner).2
            (placeholderCalls t (streamKind k) d (e2sAuto I own inner).1.tags.cur f ts)) ∧
      Recorded (e2sAuto I own inner).1 own' (!k.passing) t := by
  simp only [e2sStep, failing_stream]
  generalize e2sAuto I own inner = p, (!k.passing) = b
  obtain ⟨o, i⟩ := p
  -- the counter that the kind selects is another field; fail-fast sets `shouldStop` alone
  cases streamKind k <;> refine ⟨_, _, _, _, rfl, ?_⟩ <;> dsimp only <;> cases hfb : (o.failfast && b) <;>
    exact ⟨rfl, rfl, rfl, rfl, rfl, by simp only [hfb, if_true, if_false, Bool.false_eq_true, Bool.or_true, Bool.or_false]⟩

end TTV.Lemmas.ResEmit
