import TTV.Lemmas.RunOrder
import TTV.Lemmas.RunHandlers
/-! What the specs need to know about the state `runCore` ends in (`CoreFacts`); the events of one run (`bracket`) and the outcome
decision (`Decided`), which with the details handed to the result (`reported`) give the trace of `runOnce` (`traceOf`);
what the specs read off that trace (`RunView`); from one run to the repeated runs of `model`.  The file ends, in `TTV.Props.C01`, with
`clause_stages`, the clause that C01 and C02 share. -/
namespace TTV.Run
open TTV.Spec.Run

section core
open TTV.Spec.C01

/-- `stages`: `cStages` reads nothing of a trace but its stage ids, so any trace with the run's log will do -/
structure CoreFacts (p : Program) (ff0 : Bool) (s : RS) (succ : Bool) : Prop where
  logPure : ∀ e ∈ s.log, isResultEv e = false
  logIds  : s.log.filterMap stageEvId = s.execd.map Stage.id
  execdIn : ∀ st ∈ s.execd, st ∈ allStages p
  ff      : s.ff = (ff0 || s.execd.any hasExpect)
  excs    : s.excs = s.execd.flatMap (stageExcs p) ++ (if s.ff then [forcedFailure] else [])
  onExcs  : s.log.filterMap onExcEv = handlerCalls p.nOnExc s.excs
  stack   : s.stack = []
  succ    : succ = true ↔ s.excs = []
  stages  : Spec.C01.cStages p ff0 { events := s.log, raised := none, ffAfter := s.ff, stackAfter := 0, attrsAfter := [] } = true

/-- the forced-failure test at the end of the run: the exception is recorded like any other (handler calls in the
log), and it is the only one the executed stages do not account for -/
theorem CoreFacts.of_inv {p : Program} {ff0 : Bool} {s : RS} (hwf : wf p = true) (hskip : p.skipDeco = none)
    (h : Inv p ff0 s) (hs : s.stack = []) (hex : s.execd = runOrder p) :
    CoreFacts p ff0 (if s.ff then got s forcedFailure else s) (!s.ff && s.excs.isEmpty) := by
  cases hff : s.ff with
  | false =>
    simp only [Bool.false_eq_true, if_false]
    -- the fields not given here are those of `Inv`
    exact { h with
      stack := hs
      excs := by simp [hff, ← h.excs]
      succ := by simp
      stages := cStages_of_ids ff0 hwf hskip (by simp only [stageIds_eq, h.logIds, hex]) }
  | true =>
    simp only [if_true]
    have hids : (got s forcedFailure).log.filterMap stageEvId = s.execd.map Stage.id := by
      rw [got_log, List.filterMap_append, onExcCalls_stage, List.append_nil, h.logIds]
    exact {
      logPure := fun x hx => by
        rw [got_log, List.mem_append] at hx
        exact hx.elim (h.logPure x) (onExcCalls_pure _ _ x)
      logIds := by rw [hids, got_execd]
      execdIn := h.execdIn
      ff := by simpa [hff] using h.ff
      excs := by simp [hff, ← h.excs]
      onExcs := by rw [got_log, got_excs, List.filterMap_append, onExcCalls_onExc, handlerCalls_append, h.onExcs, h.nOnExc]
      stack := by simpa using hs
      succ := by simp
      stages := cStages_of_ids ff0 hwf hskip (by simp only [stageIds_eq, hids, hex]) }

theorem runCore_facts (p : Program) (ff0 : Bool) (hwf : wf p = true) (hskip : p.skipDeco = none) :
    CoreFacts p ff0 (runCore p ff0).1 (runCore p ff0).2 := by
  rw [runCore_eq]
  exact CoreFacts.of_inv hwf hskip (Inv.cleanups hwf _ (mainPhase_inv p ff0 hwf).inv) (runCleanups_stack _)
    (runCleanups_mainPhase_execd p ff0)

end core

/-- the events of one `run()`: the log of the run between `startTest` and the outcome, `stopTest` after it, all of it
inside the run bracket when there is no result object -/
def bracket (f : Flavour) (log : List Ev) (o : Outcome) (d : Details) : List Ev :=
  wrapRun f ([.startTest] ++ log ++ [.outcome o d] ++ stopEv f)

def opening (f : Flavour) : List Ev := if f = .none_ then [.startTestRun, .startTest] else [.startTest]

def closing (f : Flavour) : List Ev := stopEv f ++ if f = .none_ then [.stopTestRun] else []

theorem bracket_eq (f : Flavour) (log : List Ev) (o : Outcome) (d : Details) :
    bracket f log o d = opening f ++ log ++ .outcome o d :: closing f := by
  unfold bracket wrapRun opening closing
  split <;> simp

def isMark : Ev → Bool
  | .startTestRun | .stopTestRun | .startTest | .stopTest => true
  | .outcome _ _ | .stage _ | .onExc _ _ => false

theorem opening_marks (f : Flavour) : ∀ e ∈ opening f, isMark e = true := by
  cases f <;> decide

theorem closing_marks (f : Flavour) : ∀ e ∈ closing f, isMark e = true := by
  cases f <;> decide

theorem isResultEv_of_mark {e : Ev} (h : isMark e = true) : isResultEv e = true := by
  cases e <;> first | rfl | cases h

section read
variable {t : Trace} {f : Flavour} {log : List Ev} {o : Outcome} {d : Details}

theorem filterMap_bracket {β : Type} (g : Ev → Option β) (hg : ∀ e, isResultEv e = true → g e = none) :
    (bracket f log o d).filterMap g = log.filterMap g := by
  have h1 : (opening f).filterMap g = [] :=
    List.filterMap_eq_nil_iff.mpr fun e he => hg e (isResultEv_of_mark (opening_marks f e he))
  have h2 : (closing f).filterMap g = [] :=
    List.filterMap_eq_nil_iff.mpr fun e he => hg e (isResultEv_of_mark (closing_marks f e he))
  simp only [bracket_eq, List.filterMap_append, List.filterMap_cons, h1, h2, hg (.outcome o d) rfl, List.nil_append,
    List.append_nil]

theorem stageIds_of_events (ht : t.events = bracket f log o d) : stageIds t = log.filterMap stageEvId := by
  rw [stageIds_eq, ht]
  exact filterMap_bracket _ fun e he => by cases e <;> first | rfl | cases he

theorem evOutcome_before (hlog : ∀ e ∈ log, isResultEv e = false) : ∀ e ∈ opening f ++ log, evOutcome e = none := by
  intro e he
  rcases List.mem_append.mp he with he | he
  · have := opening_marks f e he; cases e <;> first | rfl | cases this
  · have := hlog e he; cases e <;> first | rfl | cases this

/-- `q` is any test that fails on outcome events only; the specs spell it in two ways -/
theorem dropWhile_bracket (q : Ev → Bool) (hq : ∀ e, q e = !(evOutcome e).isSome)
    (hlog : ∀ e ∈ log, isResultEv e = false) :
    (bracket f log o d).dropWhile q = .outcome o d :: closing f := by
  have hpre : ∀ e ∈ opening f ++ log, q e = true := fun e he => by rw [hq, evOutcome_before hlog e he]; rfl
  rw [bracket_eq, List.dropWhile_append_of_pos hpre, List.dropWhile_cons_of_neg (by simp [hq, evOutcome])]

theorem outcomeOf_of_events (ht : t.events = bracket f log o d) (hlog : ∀ e ∈ log, isResultEv e = false) :
    outcomeOf t = some (o, d) := by
  rw [outcomeOf, ht, bracket_eq, List.findSome?_append, List.findSome?_eq_none_iff.mpr (evOutcome_before hlog)]
  rfl

theorem resultEvents_of_events (ht : t.events = bracket f log o d) (hlog : ∀ e ∈ log, isResultEv e = false) :
    resultEvents t = bracket f [] o d := by
  have h1 : (opening f).filter isResultEv = opening f :=
    List.filter_eq_self.mpr fun e he => isResultEv_of_mark (opening_marks f e he)
  have h2 : (closing f).filter isResultEv = closing f :=
    List.filter_eq_self.mpr fun e he => isResultEv_of_mark (closing_marks f e he)
  have h3 : log.filter isResultEv = [] := List.filter_eq_nil_iff.mpr fun e he => by simp [hlog e he]
  rw [resultEvents, ht, bracket_eq, bracket_eq]
  simp [List.filter_append, List.filter_cons, h1, h2, h3, isResultEv]

end read

/-- the outcome decision of `_run_prepared_result`, as a relation -/
inductive Decided (hs : Handlers) (es : List Exc) : Outcome → (raised selected : Option Exc) → Prop
  | success : es = [] → Decided hs es .success none none
  | handled (e : Exc) (r : Reporter) : select hs es = some e → handlerFor hs e = some r →
      Decided hs es r.outcome none (some e)
  | lastResort (e : Exc) : select hs es = some e → handlerFor hs e = none → Decided hs es .error (some e) (some e)

theorem Decided.returns_iff {hs : Handlers} {es : List Exc} {o : Outcome} {r sel : Option Exc} (h : Decided hs es o r sel) :
    r = none ↔ ∀ x ∈ es, claimed hs x = true := by
  cases h with
  | success hnil => subst hnil; simp
  | handled e rep hsel hh => simpa using select_handled_all _ _ e rep hsel hh
  | lastResort e hsel hh =>
    simp only [reduceCtorEq, false_iff]
    intro hall
    simpa [claimed, hh] using hall e (select_mem _ _ _ hsel)

theorem Decided.of_raised {hs : Handlers} {es : List Exc} {o : Outcome} {e : Exc} {sel : Option Exc}
    (h : Decided hs es o (some e) sel) : e ∈ es ∧ claimed hs e = false ∧ o = .error := by
  cases h with
  | lastResort e hsel hh => exact ⟨select_mem _ _ _ hsel, by simp [claimed, hh], rfl⟩

/-- the details dict as the result reads it when the outcome is reported -/
def frozenDetails (s : RS) (d : Details) : Details := d.map fun x => (x.1, freeze s.clock x.2)

/-- the details dict handed to the result: the run's details, plus the reason when the case's own skip
reporter reports -/
def finalDetails (hs : Handlers) (s : RS) : Option Exc → Details
  | some e => if handlerFor hs e = some (.std .skip) then dset s.details nmReason (.reason e.tag) else s.details
  | none => s.details

/-- … as the result of flavour `p.flavour` shows it with the outcome `o` -/
def reported (p : Program) (s : RS) (o : Outcome) (sel : Option Exc) : Details :=
  visibleDetails p.flavour o (frozenDetails s (finalDetails (handlers p) s sel))

theorem runOnce_skip (p : Program) (ff0 : Bool) (r : Nat) (h : p.skipDeco = some r) :
    runOnce p ff0 =
      { events := bracket p.flavour [] (degrade p.flavour .skip) (visibleDetails p.flavour .skip [(nmReason, .reason r)])
        raised := none, ffAfter := ff0, stackAfter := 0, attrsAfter := sortAttrs p.attrs0 } := by
  simp only [runOnce, h]; rfl

/-- the trace of a run that ended in state `s`; `stackAfter` is the model's `s.stack.length` with `runCore_stack` put in, so the
clause "no cleanup left" is read off this shape -/
abbrev traceOf (p : Program) (s : RS) (o : Outcome) (r sel : Option Exc) : Trace :=
  { events := bracket p.flavour s.log (degrade p.flavour o) (reported p s o sel)
    raised := r, ffAfter := s.ff, stackAfter := 0, attrsAfter := sortAttrs s.attrs }

theorem runOnce_shape (p : Program) (ff0 : Bool) (hskip : p.skipDeco = none) :
    ∃ o r sel, Decided (handlers p) (runCore p ff0).1.excs o r sel ∧ runOnce p ff0 = traceOf p (runCore p ff0).1 o r sel := by
  have hst := runCore_stack p ff0
  have hsucc := runCore_succ p ff0
  unfold runOnce
  simp only [hskip]
  generalize runCore p ff0 = rc at hst hsucc
  obtain ⟨s, succ⟩ := rc
  dsimp only at hst hsucc
  simp only [traceOf, reported, frozenDetails, bracket, hst, List.length_nil]
  cases hsel : select (handlers p) s.excs with
  | none =>
    have hnil := (select_none_iff _ _).mp hsel
    exact ⟨.success, none, none, .success hnil, by simp only [hsucc.mpr hnil, if_true, finalDetails]⟩
  | some e =>
    cases hh : handlerFor (handlers p) e with
    | none => exact ⟨.error, some e, some e, .lastResort e hsel hh, by simp [finalDetails, hh]⟩
    | some r =>
      refine ⟨r.outcome, none, some e, .handled e r hsel hh, ?_⟩
      -- the case's own skip reporter adds the reason; every other reporter reports the details as they are
      rcases r with (_ | _ | _ | _ | _ | _) | _ <;> simp [finalDetails, hh, Reporter.outcome]

/-- what the specs compute from the trace coincides with the model's state -/
structure Reads (p : Program) (ff0 : Bool) (t : Trace) (s : RS) : Prop where
  ids      : stageIds t = s.execd.map Stage.id
  executed : executed p t = s.execd
  ffNow    : ffNow p ff0 t = s.ff
  raised   : raisedAll p ff0 t = s.excs

/-- one run without skip decorator, as the specs read it -/
structure RunView (p : Program) (ff0 : Bool) (o : Outcome) (r sel : Option Exc) : Prop where
  decided : Decided (handlers p) (runCore p ff0).1.excs o r sel
  shape   : runOnce p ff0 = traceOf p (runCore p ff0).1 o r sel
  outcome : outcomeOf (runOnce p ff0) = some (degrade p.flavour o, reported p (runCore p ff0).1 o sel)
  reads   : Reads p ff0 (runOnce p ff0) (runCore p ff0).1
  core    : CoreFacts p ff0 (runCore p ff0).1 (runCore p ff0).2

theorem runOnce_view (p : Program) (ff0 : Bool) (hwf : wf p = true) (hskip : p.skipDeco = none) :
    ∃ o r sel, RunView p ff0 o r sel := by
  have cf := runCore_facts p ff0 hwf hskip
  obtain ⟨o, r, sel, hdec, hshape⟩ := runOnce_shape p ff0 hskip
  have hev : (runOnce p ff0).events = _ := congrArg Trace.events hshape
  have hids : stageIds (runOnce p ff0) = (runCore p ff0).1.execd.map Stage.id := by rw [stageIds_of_events hev, cf.logIds]
  have hex : executed p (runOnce p ff0) = (runCore p ff0).1.execd := by
    rw [executed, hids]; exact filterMap_findStage p hwf _ cf.execdIn
  have hff : ffNow p ff0 (runOnce p ff0) = (runCore p ff0).1.ff := by rw [ffNow, hex, cf.ff]; rfl
  exact ⟨o, r, sel, { decided := hdec, shape := hshape, outcome := outcomeOf_of_events hev cf.logPure, core := cf
                      reads := { ids := hids, executed := hex, ffNow := hff, raised := by rw [raisedAll, hex, hff, cf.excs] } }⟩

theorem runOnce_stageIds (p : Program) (ff0 : Bool) (hwf : wf p = true) (hskip : p.skipDeco = none) :
    stageIds (runOnce p ff0) = (runOrder p).map Stage.id := by
  obtain ⟨o, r, sel, v⟩ := runOnce_view p ff0 hwf hskip
  rw [v.reads.ids, runCore_execd_eq]

theorem runOnce_events (p : Program) (ff0 : Bool) (hwf : wf p = true) :
    ∃ log o d, (∀ e ∈ log, isResultEv e = false) ∧ (runOnce p ff0).events = bracket p.flavour log o d := by
  cases hskip : p.skipDeco with
  | some r => exact ⟨[], _, _, by simp, congrArg Trace.events (runOnce_skip p ff0 r hskip)⟩
  | none =>
    obtain ⟨o, r, sel, v⟩ := runOnce_view p ff0 hwf hskip
    exact ⟨_, _, _, v.core.logPure, congrArg Trace.events v.shape⟩

theorem perRun_runMany (c : Program → Bool → Trace → Bool) (p : Program)
    (h : ∀ ff0, c p ff0 (runOnce p ff0) = true) : ∀ (n : Nat) (ff0 : Bool), perRun c p ff0 (runMany p n ff0) = true
  | 0, _ => rfl
  | n + 1, ff0 => by
    simp only [runMany, perRun, h ff0, Bool.true_and]
    exact perRun_runMany c p h n _

theorem runMany_length (p : Program) : ∀ (n : Nat) (ff0 : Bool), (runMany p n ff0).length = n
  | 0, _ => rfl
  | n + 1, ff0 => by simp [runMany, runMany_length p n]

theorem lift_model (c : Program → Bool → Trace → Bool) (i : Input)
    (h : wf i.prog = true → ∀ ff0, c i.prog ff0 (runOnce i.prog ff0) = true) : lift c i (model i) = true := by
  unfold lift model
  cases hwf : wf i.prog with
  | false => simp
  | true => simp [runMany_length, perRun_runMany c i.prog (h hwf)]

end TTV.Run

namespace TTV.Props.C01
open TTV.Run TTV.Spec.Run TTV.Spec.C01

/-- the stage sequence of a run is the complete one (clause `all-stages-run` of C01, which C02 states again) -/
theorem clause_stages (p : Program) (ff0 : Bool) (hwf : wf p = true) : cStages p ff0 (runOnce p ff0) = true := by
  cases hskip : p.skipDeco with
  | some r =>
    simp [cStages, hskip, stageIds_of_events (congrArg Trace.events (runOnce_skip p ff0 r hskip))]
  | none => exact cStages_of_ids ff0 hwf hskip (runOnce_stageIds p ff0 hwf hskip)

end TTV.Props.C01
