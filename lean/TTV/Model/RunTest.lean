import TTV.Generated.C01
/-! M-Run: model of `testtools.TestCase.run` / `testtools.RunTest` (sync runner): stage sequencing,
cleanup stack, exception collection and selection, details bookkeeping (`addDetail`,
`addDetailUniqueName`, `_report_traceback`, `gather_details`), `expectThat`/`assertThat` mismatches,
`expectFailure`, `patch`, `useFixture`, `addOnException` handlers, skip / expectedFailure decorators,
and the degradation seen by the different result flavours.  Serves C01, C02, C03, C05.
Import-free apart from the generated tables. -/
namespace TTV.Run
open TTV.Generated.C01 (HandlerRow)

/-! ### exception classes and handlers -/
inductive Cls where
  | base | exc | skip | failure | xfail | uxs | ki | sysexit
  | user (id : Nat) (parent : Cls)
deriving DecidableEq, Repr

def Cls.ancestors : Cls → List Cls
  | .base => [.base]
  | .exc => [.exc, .base]
  | .skip => [.skip, .exc, .base]
  | .failure => [.failure, .exc, .base]
  | .xfail => [.xfail, .exc, .base]
  | .uxs => [.uxs, .exc, .base]
  | .ki => [.ki, .base]
  | .sysexit => [.sysexit, .base]
  | .user i p => .user i p :: p.ancestors

/-- `isinstance(e, d)` -/
def isSub (c d : Cls) : Bool := d ∈ c.ancestors

structure Exc where
  cls : Cls
  tag : Nat
deriving DecidableEq, Repr

inductive Outcome where
  | success | failure | error | skip | xfail | uxs
deriving DecidableEq, Repr

def Outcome.unsuccessful : Outcome → Bool
  | .failure | .error | .uxs => true
  | _ => false

/-- a handler function: one of the TestCase's own `_report_*` methods, or a function supplied by the user -/
inductive Reporter where
  | std (o : Outcome)
  | user (id : Nat) (o : Outcome)
deriving DecidableEq, Repr

def Reporter.outcome : Reporter → Outcome
  | .std o => o
  | .user _ o => o

abbrev Handlers := List (Cls × Reporter)

def clsOfRow : HandlerRow → Cls
  | .skip => .skip | .failure => .failure | .xfail => .xfail | .uxs => .uxs | .exception => .exc
def outcomeOfRow : HandlerRow → Outcome
  | .skip => .skip | .failure => .failure | .xfail => .xfail | .uxs => .uxs | .exception => .error

/-- `TestCase.exception_handlers` as found in the source (order matters) -/
def defaultHandlers : Handlers :=
  TTV.Generated.C01.exceptionHandlers.map fun r => (clsOfRow r, .std (outcomeOfRow r))

/-- `RunTest._handler_for`: first handler whose class the exception is an instance of -/
def handlerFor (hs : Handlers) (e : Exc) : Option Reporter :=
  (hs.find? fun h => isSub e.cls h.1).map (·.2)

def lookup (hs : Handlers) (e : Exc) : Option Outcome := (handlerFor hs e).map Reporter.outcome

def claimed (hs : Handlers) (e : Exc) : Bool := (handlerFor hs e).isSome

/-- handled by the case's own skip / expected-failure reporter -/
def benign (hs : Handlers) (e : Exc) : Bool :=
  match handlerFor hs e with
  | some (.std .skip) => true
  | some (.std .xfail) => true
  | _ => false

/-- `RunTest._select_exception`: first unclaimed, else last non-benign, else last -/
def select (hs : Handlers) (es : List Exc) : Option Exc :=
  match es.find? (fun e => !claimed hs e) with
  | some e => some e
  | none =>
    match es.reverse.find? (fun e => !benign hs e) with
    | some e => some e
    | none => es.getLast?

/-! ### details -/
/-- a detail name `base-s₁-s₂…`: the harness splits trailing `-<decimal>` groups off, so the
representation is injective by construction. base 0 = `traceback`, 1 = `Failed expectation`, 2 = `reason` -/
structure DName where
  base : Nat
  sufs : List Nat
deriving DecidableEq, Repr

def DName.push (n : DName) (k : Nat) : DName := { n with sufs := n.sufs ++ [k] }
def nmTraceback : DName := ⟨0, []⟩
def nmExpectation : DName := ⟨1, []⟩
def nmReason : DName := ⟨2, []⟩

/-- content supplied by user code: an id and whether its bytes are computed when read -/
structure UC where
  id : Nat
  lazy : Bool
deriving DecidableEq, Repr

inductive Content where
  | user (c : UC)                    -- as attached
  | frozen (id : Nat) (val : Nat)    -- bytes of a lazy content as read at logical time `val`
  | tb (e : Exc)                     -- traceback of e
  | expectation (mid : Nat)          -- stack trace of the failed expectation `mid`
  | reason (r : Nat)                 -- skip / expected-failure reason text
deriving DecidableEq, Repr

abbrev Details := List (DName × Content)

def dmem (d : Details) (n : DName) : Bool := d.any (·.1 == n)

/-- `dict[n] = c`: in place when present, else appended -/
def dset : Details → DName → Content → Details
  | [], n, c => [(n, c)]
  | (m, x) :: d, n, c => if m = n then (m, c) :: d else (m, x) :: dset d n c

def dnames (d : Details) : List DName := d.map (·.1)

/-- the loop of `addDetailUniqueName` / `gather_details`: `n`, `n-1`, `n-2`, … first one not taken.
(`taken` shrinks by the candidate just rejected; candidates are pairwise distinct, so this is the
code's `while full_name in existing_details`.) -/
def uniqFrom (n : DName) (k : Nat) (taken : List DName) : DName :=
  let cand := if k = 0 then n else n.push k
  if h : cand ∈ taken then uniqFrom n (k + 1) (taken.erase cand) else cand
termination_by taken.length
decreasing_by
  rw [List.length_erase_of_mem h]
  have : 0 < taken.length := List.length_pos_of_mem h
  omega

def uniq (d : Details) (n : DName) : DName := uniqFrom n 0 (dnames d)

def addUnique (d : Details) (n : DName) (c : Content) : Details := dset d (uniq d n) c

/-- `_report_traceback`: cumulative label `traceback`, `traceback-1`, `traceback-1-2`, … with the counter
persisting within the run -/
def tbLabel (names : List DName) : Nat → Nat → DName → DName × Nat
  | 0, c, l => (l, c)
  | fuel + 1, c, l =>
    let l' := if c = 0 then l else l.push c
    if l' ∈ names then tbLabel names fuel (c + 1) l' else (l', c + 1)

/-- value read from a content at logical time `t` -/
def freeze (t : Nat) : Content → Content
  | .user ⟨i, true⟩ => .frozen i t
  | c => c

/-! ### programs -/
inductive Term where
  | ret
  | raise1 (e : Exc)
  | raiseMulti (es : List Exc) (me : Exc)     -- MultipleExceptions(es); `me` = the exception object itself
  | assertFail (e : Exc) (ds : List (DName × UC))          -- assertThat mismatch (details, then raise)
  | expectFailure (r : Nat) (e : Option Exc) (x : Exc)     -- expectFailure: predicate raises e (x = _ExpectedFailure) or returns (x = _UnexpectedSuccess)
  | fixtureFail (ds : List (DName × UC)) (e : Exc) (ces : List Exc) (se : Exc)  -- useFixture whose setUp raises e; ces = what the
      -- fixture's already-registered cleanups raise while it unwinds; se = SetupError (last constituent)
deriving Repr

mutual
inductive Act where
  | cleanup (s : Stage)
  | addDetail (n : DName) (c : UC)
  | expect (mid : Nat) (ds : List (DName × UC))           -- expectThat mismatch
  | patch (attr : Nat) (v : Nat)
  | useFixture (fid : Nat) (ds : List (DName × UC)) (cleanUp : Stage)
inductive Stage where
  | mk (id : Nat) (acts : List Act) (term : Term)
end

def Stage.id : Stage → Nat | .mk i _ _ => i
def Stage.acts : Stage → List Act | .mk _ a _ => a
def Stage.term : Stage → Term | .mk _ _ t => t

/-- entries of the cleanup stack -/
inductive Cl where
  | stage (s : Stage)
  | gather (fid : Nat) (ds : List (DName × UC))
  | unpatch (attr : Nat) (old : Option Nat)

mutual
def Act.size : Act → Nat
  | .cleanup s => 1 + s.size
  | .useFixture _ _ s => 2 + s.size
  | _ => 1
def Stage.size : Stage → Nat
  | .mk _ acts _ => 1 + Act.sizeList acts
def Act.sizeList : List Act → Nat
  | [] => 0
  | a :: as => a.size + Act.sizeList as
end

def Cl.size : Cl → Nat
  | .stage s => s.size
  | _ => 1

inductive Flavour where
  | ext | tt | none_ | py27 | py26 | twisted | stream
deriving DecidableEq, Repr

structure Program where
  skipDeco : Option Nat          -- @skip(reason) on the method / class
  xfailDeco : Bool               -- @unittest.expectedFailure
  setUp : Stage
  body : Stage
  tearDown : Stage
  userHandlers : Handlers        -- inserted in front of exception_handlers
  nOnExc : Nat                   -- addOnException handlers registered before the run
  attrs0 : List (Nat × Nat)      -- attributes of the scratch object before the run
  flavour : Flavour

/-! ### run-time state -/
inductive Ev where
  | startTestRun | stopTestRun | startTest | stopTest
  | outcome (o : Outcome) (ds : Details)
  | stage (id : Nat)
  | onExc (h : Nat) (e : Exc)
deriving DecidableEq, Repr

/-- ghost record of executed cleanups (not observable as such) -/
inductive Ran where
  | stage (id : Nat) | gather (fid : Nat) | unpatch (attr : Nat)
deriving DecidableEq, Repr

structure RS where
  log     : List Ev
  clock   : Nat               -- number of stages started so far
  stack   : List Cl           -- cleanup stack, top first
  excs    : List Exc          -- `_exceptions`
  ff      : Bool              -- force_failure
  details : Details
  tbCount : Nat               -- next value of `_traceback_id_gens['traceback']`
  attrs   : List (Nat × Nat)
  nOnExc  : Nat
  execd   : List Stage        -- ghost: the stages executed so far, in order
  ran     : List Ran          -- ghost
  regd    : List Ran          -- ghost: every cleanup ever registered
  plain   : List DName        -- ghost: names set by plain `addDetail`
  clobbered : Bool            -- ghost: a plain `addDetail` replaced an entry that was stored under a unique (generated / renamed) name

def stackSize (st : List Cl) : Nat := (st.map Cl.size).sum

def aget (a : List (Nat × Nat)) (k : Nat) : Option Nat := (a.find? (·.1 == k)).map (·.2)
def aset (a : List (Nat × Nat)) (k v : Nat) : List (Nat × Nat) := (k, v) :: a.filter (·.1 != k)
def adel (a : List (Nat × Nat)) (k : Nat) : List (Nat × Nat) := a.filter (·.1 != k)

def addUniqueAll (d : Details) (t : Nat) (frozen : Bool) : List (DName × UC) → Details
  | [] => d
  | (n, c) :: rest => addUniqueAll (addUnique d n (if frozen then freeze t (.user c) else .user c)) t frozen rest

/-- `_report_traceback(exc_info)` -/
def reportTb (s : RS) (e : Exc) : RS :=
  let (l, c) := tbLabel (dnames s.details) (s.details.length + 2) s.tbCount nmTraceback
  { s with details := dset s.details l (.tb e), tbCount := c }

/-- exception classes that get no traceback in `onException` (exact class match) -/
def noTraceback (c : Cls) : Bool :=
  TTV.Generated.C01.noTracebackRows.any fun r => clsOfRow r == c

/-- `_got_user_exception` for one plain exception: `onException` (traceback + handlers), then record -/
def got (s : RS) (e : Exc) : RS :=
  let s1 := if noTraceback e.cls then s else reportTb s e
  { s1 with log := s1.log ++ (List.range s1.nOnExc).map (fun h => Ev.onExc h e), excs := s1.excs ++ [e] }

def gotAll (s : RS) : List Exc → RS
  | [] => s
  | e :: es => gotAll (got s e) es

def runActs : List Act → RS → RS
  | [], s => s
  | .cleanup c :: as, s => runActs as { s with stack := .stage c :: s.stack, regd := s.regd ++ [.stage c.id] }
  | .addDetail n c :: as, s =>
      runActs as { s with details := dset s.details n (.user c), plain := n :: s.plain,
                          clobbered := s.clobbered || (dmem s.details n && !s.plain.contains n) }
  | .expect mid ds :: as, s =>
      let d1 := addUniqueAll s.details s.clock false ds
      runActs as { s with details := addUnique d1 nmExpectation (.expectation mid), ff := true }
  | .patch a v :: as, s =>
      runActs as { s with attrs := aset s.attrs a v, stack := .unpatch a (aget s.attrs a) :: s.stack,
                          regd := s.regd ++ [.unpatch a] }
  | .useFixture fid ds cu :: as, s =>
      runActs as { s with stack := .gather fid ds :: .stage cu :: s.stack,
                          regd := s.regd ++ [.stage cu.id, .gather fid] }

/-- what the stage function raises (after its actions), as the list handed to `_got_user_exception`;
`none` = returned normally.  The second component of the pair is the single exception object that propagates (needed by
the expectedFailure decorator, which sees the raised object, not its constituents). -/
def runTerm (t : Term) (s : RS) : RS × Option (List Exc × Exc) :=
  match t with
  | .ret => (s, none)
  | .raise1 e => (s, some ([e], e))
  | .raiseMulti es me => (s, some (if es.isEmpty then [me] else es, me))
  | .assertFail e ds => ({ s with details := addUniqueAll s.details s.clock false ds }, some ([e], e))
  | .expectFailure r eo x =>
      let s1 := { s with details := dset s.details nmReason (.reason r) }
      match eo with
      | some e => (reportTb s1 e, some ([x], x))
      | none => (s1, some ([x], x))
  | .fixtureFail ds e ces se => ({ s with details := addUniqueAll s.details s.clock true ds }, some (e :: ces ++ [se], se))

/-- execute one stage function under `_run_user`: log it, perform its actions, then its terminal behaviour.
`deco` = wrapped by `@expectedFailure` (only ever true for the test method). Returns the new state and
whether the stage completed without exception. -/
def runStage (st : Stage) (deco : Bool) (s : RS) : RS × Bool :=
  let s0 := { s with log := s.log ++ [.stage st.id], clock := s.clock + 1, execd := s.execd ++ [st] }
  let s1 := runActs st.acts s0
  let (s2, r) := runTerm st.term s1
  if deco then
    match r with
    | none => (got s2 ⟨.uxs, 0⟩, false)
    | some (es, obj) =>
      if isSub obj.cls .exc then (got (reportTb s2 obj) ⟨.xfail, 0⟩, false)
      else (gotAll s2 es, false)
  else
    match r with
    | none => (s2, true)
    | some (es, _) => (gotAll s2 es, false)

theorem runActs_stack_le (as : List Act) (s : RS) :
    stackSize (runActs as s).stack ≤ Act.sizeList as + stackSize s.stack := by
  induction as generalizing s with
  | nil => simp [runActs, Act.sizeList]
  | cons a as ih =>
    cases a <;> simp only [runActs, Act.sizeList, Act.size] <;> refine Nat.le_trans (ih _) ?_ <;>
      simp only [stackSize, Cl.size, List.map_cons, List.sum_cons] <;> omega

theorem reportTb_stack (s : RS) (e : Exc) : (reportTb s e).stack = s.stack := by
  simp [reportTb]
theorem got_stack (s : RS) (e : Exc) : (got s e).stack = s.stack := by
  simp only [got]; split <;> simp [reportTb_stack]
theorem gotAll_stack (s : RS) (es : List Exc) : (gotAll s es).stack = s.stack := by
  induction es generalizing s with
  | nil => rfl
  | cons e es ih => simp [gotAll, ih, got_stack]
theorem runTerm_stack (t : Term) (s : RS) : (runTerm t s).1.stack = s.stack := by
  cases t <;> simp [runTerm]
  case expectFailure r eo x => cases eo <;> simp [reportTb_stack]

theorem runStage_stack (st : Stage) (deco : Bool) (s : RS) :
    (runStage st deco s).1.stack =
      (runActs st.acts { s with log := s.log ++ [.stage st.id], clock := s.clock + 1, execd := s.execd ++ [st] }).stack := by
  simp only [runStage]
  generalize runActs st.acts _ = s1
  have ht := runTerm_stack st.term s1
  generalize runTerm st.term s1 = p at ht
  obtain ⟨s2, r⟩ := p
  simp only at ht
  cases deco <;> cases r <;> simp [ht, gotAll_stack, got_stack]
  all_goals (split <;> simp [ht, gotAll_stack, got_stack, reportTb_stack])

/-- run one popped cleanup entry -/
def runCl (c : Cl) (s : RS) : RS :=
  match c with
  | .stage st => let r := runStage st false s; { r.1 with ran := r.1.ran ++ [.stage st.id] }
  | .gather fid ds =>
      { s with details := addUniqueAll s.details s.clock true ds, ran := s.ran ++ [.gather fid] }
  | .unpatch a old =>
      { s with attrs := (match old with | some v => aset s.attrs a v | none => adel s.attrs a),
               ran := s.ran ++ [.unpatch a] }

theorem runCl_stack_le (c : Cl) (s : RS) : stackSize (runCl c s).stack + 1 ≤ c.size + stackSize s.stack := by
  cases c with
  | stage st =>
    simp only [runCl, runStage_stack]
    have := runActs_stack_le st.acts { s with log := s.log ++ [.stage st.id], clock := s.clock + 1, execd := s.execd ++ [st] }
    cases st with
    | mk i acts t => simp [Cl.size, Stage.size, Stage.acts] at this ⊢; omega
  | gather fid ds => simp [runCl, Cl.size]; omega
  | unpatch a old => simp [runCl, Cl.size]; omega

/-- `_run_cleanups`: pop and run until the stack is empty; a cleanup may push more -/
def runCleanups (s : RS) : RS :=
  match h : s.stack with
  | [] => s
  | c :: rest => runCleanups (runCl c { s with stack := rest })
termination_by stackSize s.stack
decreasing_by
  have := runCl_stack_le c { s with stack := rest }
  simp [h, stackSize] at this ⊢
  omega

def forcedFailure : Exc := ⟨.failure, 0⟩

def initRS (p : Program) (ff0 : Bool) : RS :=
  { log := [], clock := 0, stack := [], excs := [], ff := ff0, details := [], tbCount := 0,
    attrs := p.attrs0, nOnExc := p.nOnExc, execd := [], ran := [], regd := [], plain := [], clobbered := false }

/-- `_run_core` after the skip-decorator test; returns the state and whether `addSuccess` is due -/
def runCore (p : Program) (ff0 : Bool) : RS × Bool :=
  let (s1, ok1) := runStage p.setUp false (initRS p ff0)
  if ok1 then
    let (s2, ok2) := runStage p.body p.xfailDeco s1
    let (s3, ok3) := runStage p.tearDown false s2
    let s4 := runCleanups s3
    let ok4 := s4.excs.length == s3.excs.length      -- `_run_cleanups` returned without any cleanup failing
    if s4.ff then (got s4 forcedFailure, false) else (s4, ok2 && ok3 && ok4)
  else
    let s2 := runCleanups s1
    -- the forced failure is raised here too: an expectation that failed before setUp gave up still fails the test
    if s2.ff then (got s2 forcedFailure, false) else (s2, false)

def handlers (p : Program) : Handlers := p.userHandlers ++ defaultHandlers

/-- how the leaf result of each flavour sees an outcome -/
def degrade : Flavour → Outcome → Outcome
  | .py26, .skip => .success
  | .py26, .xfail => .success
  | .py26, .uxs => .failure
  | .stream, .error => .failure
  | _, o => o

def showsDetails : Flavour → Bool
  | .ext | .tt | .none_ => true
  | _ => false

/-- what a flavour that has no details protocol still shows: the skip reason -/
def visibleDetails (f : Flavour) (o : Outcome) (d : Details) : Details :=
  if showsDetails f then d
  else if o = .skip ∧ f ≠ .py26 ∧ f ≠ .stream then d.filter (fun x => x.1 == nmReason) else []

structure Trace where
  events : List Ev             -- stage starts, onException calls, result calls — in order
  raised : Option Exc          -- what propagated out of run()
  ffAfter : Bool               -- force_failure afterwards
  stackAfter : Nat             -- len(_cleanups) afterwards
  attrsAfter : List (Nat × Nat)   -- sorted by attribute

def sortAttrs (a : List (Nat × Nat)) : List (Nat × Nat) := a.mergeSort (fun x y => x.1 ≤ y.1)

def wrapRun (f : Flavour) (evs : List Ev) : List Ev :=
  if f = .none_ then [.startTestRun] ++ evs ++ [.stopTestRun] else evs

def stopEv (f : Flavour) : List Ev := if f = .stream then [] else [.stopTest]

/-- one `case.run(result)`; `ff0` = `force_failure` left by an earlier run of the same instance -/
def runOnce (p : Program) (ff0 : Bool) : Trace :=
  let f := p.flavour
  match p.skipDeco with
  | some r =>
    let o := degrade f .skip
    { events := wrapRun f ([.startTest, .outcome o (visibleDetails f .skip [(nmReason, .reason r)])] ++ stopEv f)
      raised := none, ffAfter := ff0, stackAfter := 0, attrsAfter := sortAttrs p.attrs0 }
  | none =>
    let (s, succ) := runCore p ff0
    let fin (o : Outcome) (d : Details) (raised : Option Exc) : Trace :=
      { events := wrapRun f ([.startTest] ++ s.log ++ [.outcome (degrade f o) (visibleDetails f o (d.map fun x => (x.1, freeze s.clock x.2)))] ++ stopEv f)
        raised := raised, ffAfter := s.ff, stackAfter := s.stack.length, attrsAfter := sortAttrs s.attrs }
    match select (handlers p) s.excs with
    | none =>
      if succ then fin .success s.details none
      else -- unreachable: a stage that failed recorded an exception (kept total; see `runCore_eq`)
        { events := wrapRun f ([.startTest] ++ s.log ++ stopEv f), raised := none, ffAfter := s.ff,
          stackAfter := s.stack.length, attrsAfter := sortAttrs s.attrs }
    | some e =>
      match handlerFor (handlers p) e with
      | some (.std .skip) => fin .skip (dset s.details nmReason (.reason e.tag)) none
      | some r => fin r.outcome s.details none
      | none => fin .error s.details (some e)

/-- running the same instance `n+1` times: the traces, in order (`force_failure` is the only state that
survives `_reset`) -/
def runMany (p : Program) : Nat → Bool → List Trace
  | 0, _ => []
  | n + 1, ff0 => let t := runOnce p ff0; t :: runMany p n t.ffAfter

structure Input where
  prog : Program
  runs : Nat                   -- how many times the instance is run (≥ 1)

def model (i : Input) : List Trace := runMany i.prog i.runs false

end TTV.Run
