import TTV.Model.Matchers
import TTV.Model.TextRepr
import TTV.Generated.C07
/-! M-Match, part 2 (C07): can a matcher / a mismatch be *described*?

An error monad (`Option ExcCls`, `none` = success) whose failure sources are exactly those present in
the code:
* `str(matcher)` resolving to the inherited `Matcher.__str__` (raises `NotImplementedError`) — which
  classes are affected is read from the tree on every run (`TTV.Generated.C07.strKinds`);
* a `Mismatch` built with an empty description (`Mismatch('')` leaves `_description` unset, `describe()`
  raises `NotImplementedError`): no stock matcher can produce one (`MatchesPredicate` with an empty message
  fails earlier, see next item);
* `message % (matchee,)` with a message that does not have exactly one conversion (`MatchesPredicate`
  built outside its documented domain): the `TypeError` is raised inside `match()` itself (modelled in
  `leafImpl`).
`repr`, `pformat`, `%`/`format` on the values of the universe are assumed total.

Also here: the tiny model of `TestCase.assertThat` / `assertions.assert_that` / `TestCase.expectThat`,
and the C07 input / trace types.  Imports only `Model/Matchers`, `Model/TextRepr` and the generated table (the driver links against it). -/
namespace TTV.Describe
open TTV.Matchers TTV.Generated.C07

abbrev R := Option ExcCls          -- result of a describing operation: none = returned the right type

def kindOf (name : String) : StrKind :=
  match strKinds.find? (fun p => p.1 == name) with
  | some p => p.2
  | none => .inherited             -- a class the tree no longer has / the extractor did not find

/-- `str()` of an instance of class `name` whose `__str__`, if its own, renders `kids` -/
def strOf (name : String) (kids : R) : R :=
  match kindOf name with
  | .inherited => some .notImplementedError
  | .object => none
  | .own => kids

def seqR (a b : R) : R := match a with | some c => some c | none => b

def leafClass : Leaf → String
  | .equals _ => "Equals" | .notEquals _ => "NotEquals" | .is_ _ => "Is" | .lessThan _ => "LessThan"
  | .greaterThan _ => "GreaterThan" | .sameMembers _ => "SameMembers" | .startsWith _ => "StartsWith"
  | .endsWith _ => "EndsWith" | .contains _ => "Contains" | .isInstance _ => "IsInstance"
  | .hasLength _ => "_MatchesPredicateWithParams" | .always => "_Always" | .never => "_Never"
  | .keysEqual _ => "KeysEqual" | .excType _ => "MatchesException" | .excInst _ => "MatchesException"
  | .raisesAny => "Raises" | .opaque _ _ _ => "<opaque>" | .predicate _ _ _ _ => "MatchesPredicate"

def leafStr : Leaf → R
  | .opaque id _ _ => match opaqueStr.find? (fun p => p.1 == id) with
      | some (_, true) => none
      | some (_, false) => some .notImplementedError
      | none => none        -- ids outside the catalog: the regex of MatchesException(type, "regex") (never str()-ed)
  | l => strOf (leafClass l) none

def dictClass : DictKind → String
  | .exact => "MatchesDict" | .contains => "ContainsDict" | .containedBy => "ContainedByDict"

/- `str(matcher)`; which sub-matchers a class renders is transcribed from its `__str__` -/
mutual
def strM : M → R
  | .leaf l => leafStr l
  | .excTypeV _ _ => strOf "MatchesException" none      -- shows repr(expected) only
  | .raises _ => strOf "Raises" none                    -- "Raises()"
  | .not m => strOf "Not" (strM m)
  | .all _ ms => strOf "MatchesAll" (strML ms)
  | .any ms => strOf "MatchesAny" (strML ms)
  | .allMatch m => strOf "AllMatch" (strM m)
  | .anyMatch m => strOf "AnyMatch" (strM m)
  | .listwise _ _ => strOf "MatchesListwise" none       -- no __str__ of its own in the pinned tree
  | .setwise _ _ _ => strOf "MatchesSetwise" none
  | .structure _ ms => strOf "MatchesStructure" (strML ms)
  | .dict k _ ms => strOf (dictClass k) (strML ms)
  | .annotate m => strOf "Annotate" (strM m)
  | .after _ _ m => strOf "AfterPreprocessing" (strM m)
def strML : List M → R
  | [] => none
  | m :: ms => seqR (strM m) (strML ms)
end

/-! ## `describe()` of the mismatch returned by `match()` -/
def leafDescr : Leaf → V → R
  | _, _ => none     -- every leaf mismatch of the stock matchers carries a non-empty description

/-- first failure among the descriptions of the parts that produced a mismatch; `firstOnly`: only the
first mismatching part is described -/
def descrParts (firstOnly : Bool) : List Verdict → List R → R
  | .mismatch :: vs, d :: ds => if firstOnly then d else seqR d (descrParts firstOnly vs ds)
  | _ :: vs, _ :: ds => descrParts firstOnly vs ds
  | _, _ => none

/- `describe()` of the mismatch that `match()` returns — meaningful when `matchImpl sel m v = .mismatch` -/
mutual
def descr (sel : Bool) : M → V → R
  | .leaf l, v => leafDescr l v
  | .excTypeV cs vm, v => match v with
      | .exc e true => if excTypeMatches cs e then descr sel vm (.exc e false) else none
      | _ => none
  | .raises em, v => match callV v with
      | .inl _ => none
      | .inr e => descr sel em (.exc e true)
  | .not m, _ => strM m                                  -- MatchedUnexpectedly: f"{other!r} matches {self.matcher}"
  | .all fo ms, v => descrParts fo (matchRow sel ms v) (descrRow sel ms v)
  | .any ms, v => descrParts false (matchRow sel ms v) (descrRow sel ms v)
  | .allMatch m, v => match pyIter v with
      | none => none
      | some xs => descrParts false (xs.map (matchImpl sel m)) (xs.map (descr sel m))
  | .anyMatch m, v => match pyIter v with
      | none => none
      | some xs => descrParts false (xs.map (matchImpl sel m)) (xs.map (descr sel m))
  | .listwise fo ms, v => match pyIter v with
      | none => none
      | some xs => descrParts fo (somes (matchZip sel ms (xs.map some))) (descrZip sel ms (xs.map some))
  | .setwise _ _ ms, v => match pyIter v with
      | none => none
      | some xs =>
        -- only the branch with left-over matchers *and* values re-matches (listwise) and describes those
        -- mismatches; which pairs are left over depends on the pairing found: worst case over all pairs
        xs.foldr (fun x r => seqR (descrParts false (matchRow sel ms x) (descrRow sel ms x)) r) none
  | .structure attrs ms, v =>
      descrParts false (somes (matchZip sel ms (attrs.map (getAttr v)))) (descrZip sel ms (attrs.map (getAttr v)))
  | .dict _ ks ms, v => match v with
      | .dict oks ovs =>
          descrParts false (somes (matchZip sel ms (ks.map fun k => lookupK k oks ovs)))
            (descrZip sel ms (ks.map fun k => lookupK k oks ovs))
      | _ => none
  | .annotate m, v => descr sel m v
  | .after f _ m, v => match applyPre f v with
      | .ok w => descr sel m w
      | .error _ => none
def descrRow (sel : Bool) : List M → V → List R
  | [], _ => []
  | m :: ms, v => descr sel m v :: descrRow sel ms v
def descrZip (sel : Bool) : List M → List (Option V) → List R
  | m :: ms, some v :: vs => descr sel m v :: descrZip sel ms vs
  | _ :: ms, none :: vs => descrZip sel ms vs
  | _, _ => []
end

/-! ## assertThat / assert_that / expectThat -/
/-- detail names: `base` (0 = "Failed expectation", 1 = "traceback", n ≥ 2 = a name of the harness) with the
`-<suffix>` that `addDetailUniqueName` appends (0 = none) -/
structure Name where
  base : Nat
  suffix : Nat
deriving DecidableEq, Repr

def uniqFrom (existing : List Name) (base : Nat) : Nat → Nat → Name
  | 0, k => ⟨base, k⟩
  | fuel + 1, k => if existing.contains ⟨base, k⟩ then uniqFrom existing base fuel (k + 1) else ⟨base, k⟩
/-- `addDetailUniqueName`: `name`, `name-1`, `name-2`, … — the first one not taken -/
def uniq (existing : List Name) (base : Nat) : Name := uniqFrom existing base existing.length 0
def addUnique (existing : List Name) (base : Nat) : List Name := existing ++ [uniq existing base]

inductive Api | assertThat | assert_that | expectThat
deriving DecidableEq, Repr
/-- what the result is told in the end: addSuccess / addFailure / addError / addSkip / addExpectedFailure /
addUnexpectedSuccess -/
inductive Outcome | success | failure | error | skip | xfail | uxsuccess
deriving DecidableEq, Repr

/-- what a stage of the test (the rest of the body after the call, `tearDown`, a cleanup) does:
return, `self.skipTest(..)`, `self.expectFailure(..)` around a failing / a passing predicate
(`_ExpectedFailure` / `_UnexpectedSuccess`), `self.fail(..)`, `raise ValueError`, `raise KeyboardInterrupt` -/
inductive Act | ret | skip | xfail | uxsuccess | failure | error | interrupt
deriving DecidableEq, Repr

/-- the exceptions `RunTest` collects in `_exceptions`, by the handler that claims them
(`intr`: claimed by none, it has to propagate) -/
inductive Exn | skip | xfail | uxsuccess | fail | err | intr
deriving DecidableEq, Repr

def Act.exn : Act → Option Exn
  | .ret => none | .skip => some .skip | .xfail => some .xfail | .uxsuccess => some .uxsuccess
  | .failure => some .fail | .error => some .err | .interrupt => some .intr

/-- `_report_skip` and `_report_expected_failure`: outcomes that must never mask a problem -/
def Exn.benign : Exn → Bool
  | .skip => true | .xfail => true | _ => false

def Exn.outcome : Exn → Outcome
  | .skip => .skip | .xfail => .xfail | .uxsuccess => .uxsuccess | .fail => .failure | .err => .error
  | .intr => .error          -- last_resort = _report_error, then the exception is re-raised

/-- `RunTest._select_exception`: an exception no handler claims always wins; otherwise the last one that
is not a skip / expected failure; otherwise the last one -/
def selectExn (es : List Exn) : Option Exn :=
  match es.find? (· == .intr) with
  | some e => some e
  | none => match es.reverse.find? (fun e => !e.benign) with
    | some e => some e
    | none => es.getLast?

/-- where the call under test sits: in the test method, or in the test's own `setUp` — after its upcall to the base
`setUp`, or before it (`setUpEarly`: the stage does its own work first and upcalls last) — then the existing details,
the cleanups and `after` belong to `setUp` too, and the test method itself does nothing.  The position relative to the
upcall makes no difference to what the run has to report (the base `setUp` only records that it was called). -/
inductive Place | body | setUp | setUpEarly
deriving DecidableEq, Repr

structure AssertIn where
  api : Api
  existing : List Name               -- details the test already has
  mismatch : Option (List Nat)       -- what match() returned: none = None, some ds = a Mismatch whose get_details() has the names ds
  after : Act := .ret                -- what the test body does after the call (if the call returned)
  tearDown : Act := .ret
  cleanups : List Act := []          -- cleanups registered (in this order) at the start of the body; they run last-in first-out
  place : Place := .body             -- the stage the call (with `existing`, `cleanups`, `after`) sits in
deriving Repr

structure AssertOut where
  raised : Bool                      -- the call raised MismatchError
  continued : Bool                   -- the statement after the call ran
  names : List Name                  -- detail names right after the call
  forceFailure : Bool
  outcome : Outcome                  -- what the test run reports in the end
  propagated : Bool := false         -- `run()` let an exception (KeyboardInterrupt) propagate
deriving DecidableEq, Repr

def somesExn : List (Option Exn) → List Exn
  | [] => []
  | none :: r => somesExn r
  | some e :: r => e :: somesExn r

/-- `setUp` raised (the call sits there and raised, or what `setUp` went on to do raised): `_run_core` then runs
neither the test method nor `tearDown`, only the cleanups -/
def setUpGaveUp (callRaised : Bool) (i : AssertIn) : Bool :=
  i.place != .body && (callRaised || i.after != .ret)

/-- the exceptions of the run in the order `_run_core` collects them: the stage with the call (body or setUp),
tearDown (unless setUp gave up), cleanups (LIFO) and — last, whenever `force_failure` is set, also when setUp gave
up — the `AssertionError("Forced Test Failure")` -/
def stageExns (callRaised : Bool) (i : AssertIn) : List Exn :=
  somesExn ((if callRaised then some Exn.fail else i.after.exn) ::
    (if setUpGaveUp callRaised i then [] else [i.tearDown.exn]) ++ i.cleanups.reverse.map Act.exn)
def runExns (callRaised forceFailure : Bool) (i : AssertIn) : List Exn :=
  stageExns callRaised i ++ (if forceFailure then [Exn.fail] else [])

/-- `_matchHelper` + the three entry points + the rest of `RunTest._run_core` / `_run_prepared_result` -/
def assertModel (i : AssertIn) : AssertOut :=
  let finish (raised : Bool) (names : List Name) (ff : Bool) : AssertOut :=
    let sel := selectExn (runExns raised ff i)
    { raised := raised, continued := !raised, names := names, forceFailure := ff,
      outcome := match sel with | none => .success | some e => e.outcome,
      propagated := sel == some .intr }
  match i.mismatch with
  | none => finish false i.existing false
  | some ds =>
    match i.api with
    | .assert_that => finish true i.existing false          -- plain function: no test to attach details to
    | .assertThat => finish true (ds.foldl addUnique i.existing) false
    | .expectThat => finish false (addUnique (ds.foldl addUnique i.existing) 0) true

/-! ## C07 input / trace -/
inductive Input
  /-- describe-ability of `Annotate.if_message(message, m)` on `v`; the set order is `ka` -/
  | describe (m : M) (v : V) (annotated verbose : Bool)
  /-- `text_repr(s, multiline)`; `np` = the non-printable code points ≥ 128 occurring in `s` -/
  | textRepr (isBytes : Bool) (ml : Option Bool) (np : List Nat) (s : List Nat)
  | assert (a : AssertIn)
  /-- a stock matcher of class `cls` built by the harness with one of the legal shapes of its constructor
  arguments (row / variant of the harness's table: tuple of length 0/1/2, list, set, frozenset, str, bytes,
  None, …) applied to matchee number `matchee` of the harness's pool (tuples included); the Lean side only
  needs the class, to look up how `str()` resolves -/
  | ctor (cls : String) (row variant matchee : Nat) (annotated verbose : Bool)
deriving Repr

inductive Trace
  | describe (str : R) (matched : Verdict) (describe details errStr : R)
  /-- `out = text_repr(s, ml)`, `back = literal_eval(out)`, `rep = repr(s)`, `repBack = literal_eval(rep)` -/
  | textRepr (out : List Nat) (back : Option (List Nat)) (rep : List Nat) (repBack : Option (List Nat))
  | assert (o : AssertOut)
  /-- `str(matcher)`; and, if `match()` returned a mismatch: `describe()`, `get_details()`, `str(MismatchError)` -/
  | ctor (str describe details errStr : R)
deriving Repr

/-- `str()` of an instance of a class of the table (a class the table does not list falls back to its own /
`object`'s `__str__`) -/
def strKnown (cls : String) : R :=
  match strKinds.find? (fun p => p.1 == cls) with
  | some (_, .inherited) => some .notImplementedError
  | _ => none

def withMessage (annotated : Bool) (m : M) : M := if annotated then .annotate m else m

def printableOf (np : List Nat) (c : Nat) : Bool := !np.contains c

def model : Input → Trace
  | .describe m v annotated verbose =>
    let m' := withMessage annotated m
    let r := canon m' (matchImpl true m' v)
    let d : R := if r == .mismatch then descr true m' v else none
    -- str(MismatchError): describe(); verbose adds text_repr/repr of the matchee and str(matcher)
    let e : R := if r == .mismatch then seqR d (if verbose then strM m' else none) else none
    .describe (strM m') r d none e
  | .textRepr b ml np s =>
    let out := TextRepr.textRepr b (printableOf np) ml s
    let rep := TextRepr.pyRepr b (printableOf np) s
    .textRepr out (TextRepr.pyEval b out) rep (TextRepr.pyEval b rep)
  | .assert a => .assert (assertModel a)
  | .ctor cls _ _ _ _ _ => .ctor (strKnown cls) none none none

end TTV.Describe
