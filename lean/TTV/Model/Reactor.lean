/-! M-React (shared by C14, C15): a virtual-time reactor and the `Spinner` state machine.

* The reactor is `twisted.internet.task.Clock` as used by `harness/vreactor.py`: virtual time `Nat`, the
  pending delayed calls as a list kept **sorted by time, stable** (`callLater` = append + stable sort =
  insertion behind every call that is due no later), so the position in the list is the order
  `(time, scheduling sequence)` in which calls run.  `reactor.run()` = run what was registered with
  `callWhenRunning`, then `while not crashed: advance to the time of the earliest call; run every call
  that is due (also after a crash request)` (`drain` / `spin`).
* `Spinner` (`testtools/twistedsupport/_spinner.py`): `_success`, `_failure`, `_spinning`, the timeout
  call, `_junk`; `_got_success/_got_failure` (`deliver`), `_stop_reactor`, `_timed_out`.

The user actions `A` and the user state `U` are parameters: C15 instantiates them with the scenario
actions of `Model/Spinner.lean`, C14 with the stage chain of `Model/AsyncRun.lean`.
Import-free (the driver links against it). -/
namespace TTV.Reactor

/-- a pending `DelayedCall` -/
structure DCall (A : Type) where
  time : Nat
  act : A
deriving Repr

/-- `Clock.callLater`: `calls.append(dc); calls.sort(key=time)` (stable) -/
def insert {A : Type} (c : DCall A) : List (DCall A) → List (DCall A)
  | [] => [c]
  | d :: ds => if d.time ≤ c.time then d :: insert c ds else c :: d :: ds

/-- what `Spinner.run` returns or raises -/
inductive Res
  | value (v : Nat)      -- returned v
  | raised (e : Nat)     -- raised the user's exception number e
  | timeout              -- TimeoutError
  | noresult             -- NoResultError
  | reentry              -- ReentryError
  | stalejunk            -- StaleJunkError
  | rejected             -- `reactor.callLater(timeout, …)` raised (a timeout the reactor does not accept)
deriving DecidableEq, Repr, Inhabited

/-- label of a delayed call: the spinner's own timeout call or the n-th call of the scenario -/
inductive Lbl | timeout | user (n : Nat)
deriving DecidableEq, Repr

/-- what sits in the reactor's queue -/
inductive QAct (A : Type) | timeout | user (lbl : Nat) (a : A)
deriving Repr

def QAct.lbl {A : Type} : QAct A → Lbl
  | .timeout => .timeout
  | .user l _ => .user l

def QAct.isTimeout {A : Type} : QAct A → Bool
  | .timeout => true
  | .user _ _ => false

/-- an entry of `Spinner._junk`: a cancelled delayed call or a removed selectable -/
inductive Junk | call (l : Lbl) | sel (n : Nat)
deriving DecidableEq, Repr

/-- state of `Spinner._timeout_call` -/
inductive TState | unset | pending | called | cancelled
deriving DecidableEq, Repr

structure Spinner where
  success : Option Nat := none     -- `_success` (`none` = `_UNSET`)
  failure : Option Res := none     -- `_failure`: `raised e` or `timeout`
  spinning : Bool := false
  tcall : TState := .unset
  junk : List Junk := []
  saved : List Nat := []           -- `_saved_signals`: the handlers found by the last `_save_signals()` ([] = none saved)
deriving Repr

/-- reactor + process state + spinner + the user's state -/
structure World (A U : Type) where
  now : Nat := 0
  calls : List (DCall (QAct A)) := []
  sels : List Nat := []                 -- registered selectables (by the label of the registering action)
  crashed : Bool := false
  running : Bool := false
  stopPatched : Bool := false           -- `reactor.stop` currently is `Spinner._fake_stop`
  sigs : List Nat := [0, 0, 0, 0]       -- installed handler (0 = the one found at the start) per signal
  sp : Spinner := {}
  t0 : Nat := 0                         -- virtual time at the start of the current `Spinner.run`
  events : List (Nat × Lbl) := []       -- calls executed in the current run: (time - t0, label)
  u : U

variable {A U : Type}

def schedule (t : Nat) (q : QAct A) (w : World A U) : World A U :=
  { w with calls := insert ⟨t, q⟩ w.calls }

def logEvent (l : Lbl) (w : World A U) : World A U :=
  { w with events := w.events ++ [(w.now - w.t0, l)] }

/-- `Spinner._stop_reactor` -/
def stopReactor (w : World A U) : World A U :=
  if w.sp.spinning then { w with crashed := true, sp := { w.sp with spinning := false } } else w

/-- `_got_success` / `_got_failure` followed by `_stop_reactor` (the callbacks `run_function` adds).
`_cancel_timeout()` raises `AlreadyCalled`/`AlreadyCancelled` unless the timeout call is still pending; the
exception is swallowed by the callback chain and the result is **not** recorded. -/
def deliver (r : Res) (w : World A U) : World A U :=
  let w := match w.sp.tcall with
    | .pending =>
      let sp := { w.sp with tcall := .cancelled }
      let sp := match r with
        | .value v => { sp with success := some v }
        | f => { sp with failure := some f }
      { w with calls := w.calls.filter (fun c => !c.act.isTimeout), sp := sp }
    | _ => w
  stopReactor w

/-- `Spinner._timed_out` -/
def execTimeout (w : World A U) : World A U :=
  let w := logEvent .timeout w
  stopReactor { w with sp := { w.sp with tcall := .called, failure := some .timeout } }

def execCall (exec : Nat → A → World A U → World A U) (c : DCall (QAct A)) (w : World A U) : World A U :=
  match c.act with
  | .timeout => execTimeout w
  | .user l a => exec l a (logEvent (.user l) w)

/-- `Clock.advance`'s loop: `while calls and calls[0].time <= now: pop it and call it` -/
def drain (exec : Nat → A → World A U → World A U) : Nat → World A U → World A U
  | 0, w => w
  | n + 1, w =>
    match w.calls with
    | [] => w
    | c :: rest => if c.time ≤ w.now then drain exec n (execCall exec c { w with calls := rest }) else w

/-- the loop of `reactor.run()`.  `n` outer iterations are left; `fuelD w` bounds the inner loop of the iteration that starts in `w`.
An empty queue while not crashed would block for ever (the harness's reactor raises); it cannot happen
under `Spinner.run`, whose timeout call is pending until the reactor is crashed. -/
def spin (exec : Nat → A → World A U → World A U) (fuelD : World A U → Nat) : Nat → World A U → World A U
  | 0, w => w
  | n + 1, w =>
    if w.crashed then w else
    match w.calls with
    | [] => w
    | c :: _ =>
      let w := { w with now := max w.now c.time }
      spin exec fuelD n (drain exec (fuelD w) w)

/-- `Spinner._get_result` -/
def getResult (sp : Spinner) : Res :=
  match sp.failure with
  | some f => f
  | none => match sp.success with
    | some v => .value v
    | none => .noresult

/-- what `_clean` finds: the pending calls in queue order, then the selectables -/
def leftovers (w : World A U) : List Junk :=
  w.calls.map (fun c => Junk.call c.act.lbl) ++ w.sels.map Junk.sel

end TTV.Reactor
