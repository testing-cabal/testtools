import TTV.Model.ConcSuite
/-! Control skeleton of the worker side of the concurrent suites - `ConcurrentTestSuite._run_test` and
`ConcurrentStreamTestSuite._run_test` (testtools/testsuite.py) - as data.

`harness/suiteskel.py` re-reads the two methods from the tree under test on every run and emits their
`try / except / finally` structure as terms of `WSkel` (`TTV/Generated/SuiteSkel.lean`).  `interp` gives a skeleton
its meaning in the vocabulary of the C13 model: the segments (critical sections of the worker's forwarder, `put`s
into the queue) the worker thread performs and whether its thread ends with an exception.  `C13_src_run_test_suite` / `_stream`
(TTV/Props/C13.lean) prove that the worker programs `suiteProg` / `streamProg` the interleaving theorems are about
*are* the interpretation of the skeletons found in the source.

What is trusted: the interpreter's reading of sequencing, `try … except <class>: …` and `try … finally`; that
`test.run(process_result)` / `case.run(process_result)` / `queue.put(test)` / `process_result.stopTestRun()` are what `WAct`
says (the sub-suite's tests reported through the worker's result; the `broken-runner` error holder reported through
it; one item put); that every exception of the model's domain is an `Exception` (so `except Exception` catches it -
the handler class is part of the compared term all the same).  `run()` itself (the `for` / `while` loops of the calling
thread) is not translated: its tie to the model is the correspondence check only. -/
namespace TTV.SuiteSkel
open TTV.Conc

inductive WAct where
  | runTest          -- `test.run(process_result)`
  | runBroken        -- `case = testtools.ErrorHolder("broken-runner…", error=sys.exc_info()); case.run(process_result)`
  | putFin           -- `queue.put(test)`
  | stopTestRun      -- `process_result.stopTestRun()`
  | startTestRun     -- `process_result.startTestRun()` (not in the worker any more: `run()` does it before `start()`)
deriving DecidableEq, Repr

/-- the class an `except` clause names -/
inductive ExcClass where
  | exception        -- `except Exception:`
  | all              -- `except:` / `except BaseException:`
  | other
deriving DecidableEq, Repr

inductive WSkel where
  | done
  | unknown (k : WSkel)
  | act (a : WAct) (k : WSkel)
  | tryFinally (body fin : WSkel) (k : WSkel)
  | tryExcept (cls : ExcClass) (body handler : WSkel) (k : WSkel)
deriving DecidableEq, Repr

structure WSt where
  segs : List Seg := []
  loc : Loc := {}
  raised : Bool := false
  bad : Bool := false

def doAct (fl : Flavour) (wi tb : Nat) (w : Worker) : WAct → WSt → WSt
  | .runTest, s =>
    match fl with
    | .suite =>
      let r := sectionsAbort w.faults s.loc (workerOps w)
      { s with segs := s.segs ++ r.1.map Seg.sec, loc := r.2.1, raised := r.2.2 || w.boom }
    | .stream => { s with segs := s.segs ++ (testsEvents wi 0 w.tests).map (fun e => Seg.put (.status e)), raised := w.boom }
  | .runBroken, s =>
    match fl with
    | .suite =>
      let b := sectionsAbort w.faults s.loc brokenOps
      { s with segs := s.segs ++ b.1.map Seg.sec, loc := b.2.1, raised := b.2.2 }
    | .stream => { s with segs := s.segs ++ (brokenEvents wi tb).map (fun e => Seg.put (.status e)) }
  | .putFin, s =>
    match fl with
    | .suite => { s with segs := s.segs ++ [.put (.fin wi)] }
    | .stream => { s with bad := true }
  | .stopTestRun, s =>
    match fl with
    | .suite => { s with bad := true }
    | .stream => { s with segs := s.segs ++ [.put (.stopRun wi)] }
  | .startTestRun, s => { s with bad := true }

/-- once an exception propagates the rest of a block is skipped; `except` catches it (every exception of the
model's domain is an `Exception`) unless the class is not recognised; `finally` runs in any case -/
def interp (fl : Flavour) (wi tb : Nat) (w : Worker) : WSkel → WSt → WSt
  | .done, s => s
  | .unknown k, s => if s.raised then s else interp fl wi tb w k { s with bad := true }
  | .act a k, s => if s.raised then s else interp fl wi tb w k (doAct fl wi tb w a s)
  | .tryFinally body fin k, s =>
    if s.raised then s else
      let s1 := interp fl wi tb w body s
      let s2 := interp fl wi tb w fin { s1 with raised := false }
      interp fl wi tb w k { s2 with raised := s1.raised || s2.raised }
  | .tryExcept cls body handler k, s =>
    if s.raised then s else
      let s1 := interp fl wi tb w body s
      let s2 := if s1.raised && cls != .other then interp fl wi tb w handler { s1 with raised := false } else s1
      interp fl wi tb w k s2

def refSuiteRunTest : WSkel :=
  .tryFinally (.tryExcept .exception (.act .runTest .done) (.act .runBroken .done) .done) (.act .putFin .done) .done

def refStreamRunTest : WSkel :=
  .tryFinally (.tryExcept .exception (.act .runTest .done) (.act .runBroken .done) .done) (.act .stopTestRun .done) .done

end TTV.SuiteSkel
