import TTV.Model.Conc
/-! # M-Conc, part 2 — `ConcurrentTestSuite.run` and `ConcurrentStreamTestSuite.run`  (C13)

Transcription of testtools/testsuite.py lines 65-195.

* Thread 0 is the caller of `run()` (*main*); thread `w+1` is the worker of the `w`-th sub-suite that
  `make_tests` yields.  Workers are static lists of micro-steps run by the shared `Conc.stepThread`
  (`acq | rel | call | put`); main is a small state machine (`MainPc`) because what it does next depends
  on what it takes out of the queue.
* `ConcurrentTestSuite` (*suite* flavour): a worker drives its own `ThreadsafeForwardingResult` (the
  forwarder of `Conc.stepOp`) through its tests; the first raise abandons the rest (`PlaceHolder.run` has
  no handler) and the `broken-runner` error holder is reported through the same forwarder;
  `queue.put(threading.current_thread())` in `finally` - the worker hands back its own Thread object, the key under
  which `run()` registered it (`Item.fin w`; a worker IS its position in what `make_tests` yields: the sub-suite object
  may be unhashable, equal to another one or the very same object again - the model never looks at it).  A sub-suite that
  is a stock `unittest.TestSuite` reads `result.shouldStop` - one more critical section of the forwarder - before each
  element it holds (`Worker.polls`).  Main: `start()` each, then `get · join` until no thread is registered; in the `except:`
  clause `process_result.stop()` (a forwarder control section) for every registered worker, then re-raise.
* `ConcurrentStreamTestSuite` (*stream* flavour): for each sub-suite MAIN registers the worker, calls
  `process_result.startTestRun()` itself - `ExtendedToStreamDecorator.startTestRun` first forwards (the
  `put` of the `startTestRun` item, a scheduling point of main: `MainPc.announce`) and *then* assigns
  `self.shouldStop = False` - and only then starts the thread (`MainPc.spawn`).  A worker's test is a
  TestResult-API test or one that calls `result.status(...)` itself (the per-worker result is
  `ExtendedToStreamDecorator(TimestampingStreamResult(StreamToQueue))`; `TimestampingStreamResult.status`
  replaces a missing or `None` `timestamp` by the wall clock, a given one travels unchanged).  The worker puts its status
  events (`inprogress`, final status; for a broken runner `inprogress`, the traceback chunks, `fail`) and
  `stopTestRun` into the queue.  A worker's program counter still lists all the items that travel under its
  route code, the first of them (`startTestRun`) being put by main on its behalf before the thread exists.
  Main forwards `status` items to the caller's result, and pops + joins on `stopTestRun`; in the `except:`
  clause it sets `shouldStop` of every registered worker's result (no shared-object operation), then
  re-raises.  (The code enters the worker into `threads` just before `startTestRun()` / `start()`; the model
  does it in the `start()` step - nothing can raise in between, so this is indistinguishable.)
* Exceptions reaching main: `make_tests` raises after yielding `k` sub-suites; the `m`-th `queue.get()` is
  interrupted (how a `KeyboardInterrupt` is modelled); the caller's result raises at main's `j`-th call on
  it (stream: a `status` call; suite: a `stop` call of the abort path, which then aborts the abort).
* Inside the machine a status event carries the index of the worker that emitted it (`SEv.w`; the code keys its table by
  the worker's `StreamToQueue` OBJECT, and the `stopTestRun` item carries that object: a worker is its position in what
  `make_tests` yields, whatever route code it was given).  What the caller's result can see of that is the route code:
  `traceOf` relabels every delivered event with `routeOf` - two workers given the same code (`None` twice, the same string)
  are then told apart by nothing but the content and order of their events.
* `threads[...]` is main-local: removing the entry when the finished sub-suite is taken from the queue
  (stream: as the code does; suite: the code deletes it after the join) is indistinguishable, because
  nothing can raise between `get` and the end of `join` in this model. -/
namespace TTV.Conc

inductive Flavour where
  | suite | stream
deriving DecidableEq, Repr, Inhabited

/-- how a natively emitted event states its time: keyword omitted, `timestamp=None`, or a given instant -/
inductive TsMode where
  | omitted
  | none
  | given (n : Nat)
deriving DecidableEq, Repr, Inhabited

/-- one scripted `result.status(...)` call of a test that speaks the stream protocol itself -/
structure NEv where
  id : Nat
  kind : SKind
  tags : Option (List Nat)
  ts : TsMode
deriving Repr, Inhabited

/-- a test of a sub-suite: a TestResult-API test (`PlaceHolder` with outcome `kind` and `tags`), or - stream flavour
only, `native = some evs` - a test whose `run(result)` calls `result.status(...)` for each scripted event -/
structure WTest where
  kind : Kind
  tags : List Nat
  native : Option (List NEv) := none
deriving Repr, Inhabited

/-- a sub-suite: runs its placeholder tests in order, then raises from `run()` if `boom` -/
structure Worker where
  tests : List WTest
  boom : Bool
  faults : List Nat        -- suite flavour: this worker's calls on the target that raise
  polls : Bool := false    -- suite flavour: the sub-suite is a stock `unittest.TestSuite`, whose `run()` reads `result.shouldStop`
                           -- (the forwarder's property: `acquire · target.shouldStop · release`) before each test it holds
deriving Repr, Inhabited

inductive Cause where
  | interrupt | makeTests | injected
deriving DecidableEq, Repr, Inhabited

inductive MainRes where
  | returned
  | raised (c : Cause)
deriving DecidableEq, Repr, Inhabited

structure SInput where
  flavour : Flavour
  workers : List Worker
  mkRaise : Option Nat          -- make_tests raises after yielding this many sub-suites
  intr : Option Nat        -- main's queue.get() number … is interrupted
  mfaults : List Nat       -- main's calls on the caller's result that raise
  tb : Nat                 -- chunks of a broken-runner traceback (measured on the implementation)
  sched : List Nat
  routes : List Nat := []  -- stream flavour: the route code `make_tests` gives to each worker, as a small number; codes may REPEAT
                           -- (several workers given `None`, or the same string); a worker without an entry has its own index
deriving Repr, Inhabited

/-- the route code of worker `w` (equal codes for different workers are allowed) -/
def routeOf (i : SInput) (w : Nat) : Nat := (i.routes[w]?).getD w

/-! ## worker programs -/

def testOps (j : Nat) (t : WTest) : List Op :=
  [.tags t.tags [], .startTest (.t j), .outcome t.kind (.t j), .stopTest (.t j), .tags [] t.tags]

def testsOps : Nat → List WTest → List Op
  | _, [] => []
  | j, t :: ts => testOps j t ++ testsOps (j + 1) ts

/-- what a sub-suite does with its forwarder.  A stock `unittest.TestSuite` (`polls`) reads `result.shouldStop` before every
element it holds - its tests and, if the run is to break, the element whose `run()` raises.  The value read is not modelled:
it is taken to be `False` (the worker goes on); a worker that reads `True` leaves the loop and does a prefix of this. -/
def testsOpsP (p : Bool) : Nat → List WTest → List Op
  | _, [] => []
  | j, t :: ts => (if p then [Op.ctl .shouldStop] else []) ++ testOps j t ++ testsOpsP p (j + 1) ts

def workerOps (w : Worker) : List Op :=
  testsOpsP w.polls 0 w.tests ++ (if w.polls && w.boom then [.ctl .shouldStop] else [])

def brokenOps : List Op :=
  [.tags [] [], .startTest .broken, .outcome .error .broken, .stopTest .broken, .tags [] []]

structure WProg where
  segs : List Seg
  died : Bool              -- the worker's thread ends with an exception
deriving Repr

/-- `_run_test` of ConcurrentTestSuite -/
def suiteProg (wi : Nat) (w : Worker) : WProg :=
  let r := sectionsAbort w.faults {} (workerOps w)
  if r.2.2 || w.boom then
    let b := sectionsAbort w.faults r.2.1 brokenOps
    { segs := (r.1 ++ b.1).map Seg.sec ++ [.put (.fin wi)], died := b.2.2 }
  else
    { segs := r.1.map Seg.sec ++ [.put (.fin wi)], died := false }

def statusOf : Kind → Status
  | .success => .success | .error => .fail | .failure => .fail
  | .skip => .skip | .xfail => .xfail | .uxsuccess => .uxsuccess

/-- a natively emitted event as it is delivered: `TimestampingStreamResult` replaces a missing or `None` time stamp
by the wall clock and leaves a given one alone; everything else travels unchanged -/
def nativeEvent (wi : Nat) (e : NEv) : SEv :=
  { w := wi, id := .t e.id, kind := e.kind, tags := e.tags.map normTags,
    ts := match e.ts with
      | .given n => some n
      | _ => none }

/-- the events of one test: `inprogress` (no tags) and the final status with the test's tags current, or the
scripted events of a native emitter -/
def testEvents (wi j : Nat) (t : WTest) : List SEv :=
  match t.native with
  | some evs => evs.map (nativeEvent wi)
  | none => [{ w := wi, id := .t j, kind := .st .inprogress },
             { w := wi, id := .t j, kind := .st (statusOf t.kind), tags := some (normTags t.tags) }]

def testsEvents (wi : Nat) : Nat → List WTest → List SEv
  | _, [] => []
  | j, t :: ts => testEvents wi j t ++ testsEvents wi (j + 1) ts

/-- the traceback of the broken runner: `n` chunks (at least one event), the last with `eof` -/
def fileEvents (wi : Nat) : Nat → List SEv
  | 0 => [{ w := wi, id := .broken, kind := .file true }]
  | 1 => [{ w := wi, id := .broken, kind := .file true }]
  | n + 2 => { w := wi, id := .broken, kind := .file false } :: fileEvents wi (n + 1)

/-- the final event of the errored `broken-runner` test of worker `wi` -/
def brokenFail (wi : Nat) : SEv := { w := wi, id := .broken, kind := .st .fail, tags := some [] }

def brokenEvents (wi tb : Nat) : List SEv :=
  { w := wi, id := .broken, kind := .st .inprogress } :: (fileEvents wi tb ++ [brokenFail wi])

/-- the status events worker `wi` emits, in order -/
def streamEvents (wi tb : Nat) (w : Worker) : List SEv :=
  testsEvents wi 0 w.tests ++ (if w.boom then brokenEvents wi tb else [])

/-- `_run_test` of ConcurrentStreamTestSuite -/
def streamProg (wi tb : Nat) (w : Worker) : WProg :=
  { segs := .put (.startRun wi) :: ((streamEvents wi tb w).map (fun e => Seg.put (.status e)) ++ [.put (.stopRun wi)]),
    died := false }

def progOf (i : SInput) (wi : Nat) (w : Worker) : WProg :=
  match i.flavour with
  | .suite => suiteProg wi w
  | .stream => streamProg wi i.tb w

def progsFrom (i : SInput) : Nat → List Worker → List WProg
  | _, [] => []
  | k, w :: ws => progOf i k w :: progsFrom i (k + 1) ws

def progs (i : SInput) : List WProg := progsFrom i 0 i.workers

/-! ## main -/

inductive MainPc where
  | announce (k : Nat)     -- stream: parked at the `put` of worker k's `startTestRun` item (`process_result.startTestRun()`)
  | spawn (k : Nat)        -- parked at `start()` of worker k's thread
  | get                    -- parked at `queue.get()`
  | join (w : Nat)         -- parked at `join()` of worker w's thread
  | fwd (e : SEv)          -- parked at `result.status(e)` (stream)
  | abort                  -- running the `process_result.stop()` sections of the `except:` clause (suite)
  | done
deriving DecidableEq, Repr, Inhabited

structure CSt where
  base : St                       -- semaphore, queue, worker program counters (index w+1; index 0: main's abort path), log
  mpc : MainPc := .done
  nsp : Nat := 0                  -- workers started so far: 0 … nsp-1
  reg : List Nat := []            -- keys of `threads`, in insertion order
  flags : List Bool := []         -- stream: `shouldStop` of each worker's ExtendedToStreamDecorator
  sink : List (SEv × Bool) := []  -- stream: status calls the caller's result received, with "raised"
  nstatus : Nat := 0
  ngets : Nat := 0
  result : Option MainRes := none
  pending : Cause := .injected    -- suite: what is re-raised after the stop() calls
  joined : List Nat := []
  liveAtReturn : List Nat := []
  msecs : List Section := []      -- suite: the stop() sections of the abort path, once main has entered it
deriving Repr, Inhabited

def spawnCount (i : SInput) : Nat :=
  match i.mkRaise with
  | some k => min k i.workers.length
  | none => i.workers.length

def workerDone (s : CSt) (w : Nat) : Bool := s.base.pcs[w + 1]? == some []

def unfinished (s : CSt) : List Nat := (List.range s.nsp).filter fun w => !workerDone s w

def finishMain (s : CSt) (r : MainRes) : CSt :=
  { s with mpc := .done, result := some r, liveAtReturn := unfinished s }

/-- the `stop()` sections of the abort path: one per registered worker, abandoned after one that raises -/
def stopSections (mf : List Nat) : Nat → Nat → List Section
  | _, 0 => []
  | k, n + 1 => if mf.contains k then [[(.ctl .stop, true)]] else [(.ctl .stop, false)] :: stopSections mf (k + 1) n

def stopsRaise (mf : List Nat) : Nat → Nat → Bool
  | _, 0 => false
  | k, n + 1 => mf.contains k || stopsRaise mf (k + 1) n

def setFlags (flags : List Bool) : List Nat → List Bool
  | [] => flags
  | w :: ws => setFlags (flags.set w true) ws

/-- the `except:` clause of `run()` -/
def abortMain (i : SInput) (s : CSt) (c : Cause) : CSt :=
  match i.flavour with
  | .stream => finishMain { s with flags := setFlags s.flags s.reg } (.raised c)
  | .suite =>
    if s.reg.isEmpty then finishMain s (.raised c)
    else
      { s with base := { s.base with pcs := s.base.pcs.set 0 (progSteps (stopSections i.mfaults 0 s.reg.length)) },
               mpc := .abort,
               msecs := stopSections i.mfaults 0 s.reg.length,
               pending := if stopsRaise i.mfaults 0 s.reg.length then .injected else c }

/-- `while threads:` -/
def loopHead (s : CSt) : CSt :=
  if s.reg.isEmpty then finishMain s .returned else { s with mpc := .get }

/-- where main parks next once `make_tests` has yielded sub-suite `k`: stream - at the `put` of
`process_result.startTestRun()`; suite - at `start()` -/
def parkPc (i : SInput) (k : Nat) : MainPc :=
  match i.flavour with
  | .stream => .announce k
  | .suite => .spawn k

/-- the `for` loop asks `make_tests` for sub-suite number `k` -/
def nextSpawn (i : SInput) (s : CSt) (k : Nat) : CSt :=
  if k < spawnCount i then { s with mpc := parkPc i k }
  else if i.mkRaise.isSome then abortMain i s .makeTests
  else loopHead s

def mainEnabled (i : SInput) (s : CSt) : Bool :=
  match s.mpc with
  | .announce _ => true
  | .spawn _ => true
  | .get => i.intr == some s.ngets || !s.base.queue.isEmpty
  | .join w => workerDone s w
  | .fwd _ => true
  | .abort => enabled s.base 0
  | .done => false

/-- `ExtendedToStreamDecorator.startTestRun`: forward (the `put`), then `self.shouldStop = False` -/
def flagsAfter (s : CSt) (t : Nat) : List Bool :=
  match s.base.pcs[t]? with
  | some (.put (.startRun w) :: _) => s.flags.set w false
  | _ => s.flags

def stepMain (i : SInput) (s : CSt) : CSt :=
  match s.mpc with
  | .announce k =>
    -- main puts worker k's `startTestRun` item (the head of that worker's item list), then clears its stop flag
    { s with base := stepThread s.base (k + 1), flags := flagsAfter s (k + 1), mpc := .spawn k }
  | .spawn k => nextSpawn i { s with nsp := k + 1, reg := s.reg ++ [k] } (k + 1)
  | .get =>
    if i.intr == some s.ngets then abortMain i { s with ngets := s.ngets + 1 } .interrupt
    else
      match s.base.queue with
      | [] => s
      | x :: q =>
        let s' : CSt := { s with base := { s.base with queue := q }, ngets := s.ngets + 1 }
        match x with
        | .fin w => { s' with reg := s'.reg.erase w, mpc := .join w }
        | .stopRun w => { s' with reg := s'.reg.erase w, mpc := .join w }
        | .startRun _ => loopHead s'
        | .status e => { s' with mpc := .fwd e }
  | .join w => if workerDone s w then loopHead { s with joined := s.joined ++ [w] } else s
  | .fwd e =>
    let r := i.mfaults.contains s.nstatus
    let s' : CSt := { s with sink := s.sink ++ [(e, r)], nstatus := s.nstatus + 1 }
    if r then abortMain i s' .injected else loopHead s'
  | .abort =>
    let s' : CSt := { s with base := stepThread s.base 0 }
    if (s'.base.pcs[0]?.getD []).isEmpty then finishMain s' (.raised s.pending) else s'
  | .done => s

/-! ## the whole system -/

def enabledC (i : SInput) (s : CSt) (t : Nat) : Bool :=
  if t = 0 then mainEnabled i s else decide (t - 1 < s.nsp) && enabled s.base t

/-- thread `t` takes its next step (a no-op if it is not started, finished or blocked) -/
def stepC (i : SInput) (s : CSt) (t : Nat) : CSt :=
  if t = 0 then (if mainEnabled i s then stepMain i s else s)
  else if t - 1 < s.nsp then { s with base := stepThread s.base t, flags := flagsAfter s t }
  else s

def runC (i : SInput) (s : CSt) (sched : List Nat) : CSt := sched.foldl (stepC i) s

def firstEnabledC (i : SInput) (s : CSt) : Option Nat := (List.range s.base.pcs.length).find? (enabledC i s)

def drainC (i : SInput) : Nat → CSt → CSt
  | 0, s => s
  | fuel + 1, s =>
    match firstEnabledC i s with
    | none => s
    | some t => drainC i fuel (stepC i s t)

def finishedC (s : CSt) : Bool := s.mpc == .done && (unfinished s).isEmpty

def initC (i : SInput) : CSt :=
  nextSpawn i { base := { pcs := [] :: (progs i).map fun p => segSteps p.segs },
                flags := i.workers.map fun _ => false } 0

/-- enough fuel for every run (`TTV.Conc.pot_init_le`, `TTV.Conc.finalC_ends` in `TTV/Lemmas/ConcSuite.lean`) -/
def fuelC (i : SInput) : Nat := 3 * remaining (initC i).base + 12 * i.workers.length + 8

def finalC (i : SInput) : CSt := drainC i (fuelC i) (runC i (initC i) i.sched)

structure STrace where
  log : List Ev                        -- suite: semaphore/target events (thread 0 = main, w+1 = worker w)
  sink : List (SEv × Bool × Bool)      -- stream: events received by the caller's result: (event, has timestamp, raised); the `w` of
                                       -- an observed event is its ROUTE CODE - all that tells the caller who emitted it
  result : Option MainRes              -- how run() ended (none: it never did)
  spawned : List Nat                   -- workers started, in order
  joined : List Nat                    -- workers joined, in order
  liveAtReturn : List Nat              -- started workers still running when run() ended
  runs : List Nat                      -- per worker: number of times its run() was called
  flags : List Bool                    -- per worker: final shouldStop of its result (stream)
  died : List Bool                     -- per worker: its thread ended with an exception
  finished : Bool                      -- every started thread ended (no deadlock)
deriving Repr, Inhabited

def traceOf (i : SInput) (s : CSt) : STrace :=
  let n := i.workers.length
  { log := s.base.log,
    sink := s.sink.map fun p => ({ p.1 with w := routeOf i p.1.w }, true, p.2),
    result := s.result,
    spawned := List.range s.nsp,
    joined := s.joined,
    liveAtReturn := s.liveAtReturn,
    runs := (List.range n).map fun w => if w < s.nsp then 1 else 0,
    flags := s.flags,
    died := (progs i).zipIdx.map fun p => decide (p.2 < s.nsp) && p.1.died,
    finished := finishedC s }

def modelC (i : SInput) : STrace := traceOf i (finalC i)

/-! ## histories: several `run()` calls on ONE suite object

`run()` keeps nothing on the suite object: `make_tests` is called again, the queue, the semaphore, the table of threads and the
per-worker results are locals of the call.  A history of runs - each with its own worker programs, fault plan and schedule, the
earlier ones possibly aborted, their leftover workers finishing before or while the next run goes on - is therefore modelled as
what it should be: every run by itself, on a fresh machine. -/

abbrev HInput := List SInput
abbrev HTrace := List STrace

def modelH (h : HInput) : HTrace := h.map modelC

end TTV.Conc
