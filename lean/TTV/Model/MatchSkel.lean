import TTV.Model.Matchers
import TTV.Model.Describe
/-! Meaning of the data that `harness/pymatch2lean.py` re-reads from `testtools/matchers/*.py`, `testtools/testcase.py`
and `testtools/assertions.py` on every run (`TTV/Generated/MatchSrc.lean`): skeleton types, interpreters over the
verdicts of M-Match, and the reference terms (what the pinned tree contains).  `TTV.Props.C06` / `C07` prove
`generated = reference` (by `rfl`) and `interpreter reference = hand-written model` (`C06_src_*`, `C07_src_*`).

Trusted: the recogniser (its docstring lists the accepted spellings) and that the interpreters read the recognised
forms as Python does.  Anything the recogniser does not recognise becomes `.unknown`, which no reference contains.
Import-free apart from the models (the driver does not link this file, but keep it Mathlib-free). -/
namespace TTV.MatchSkel
open TTV.Matchers

/-- how the result of a sub-matcher's `match()` (None or a mismatch object) is tested -/
inductive ResTest | isNone | isNotNone | truthy | falsy | unknown
deriving DecidableEq, Repr

/-- what a loop over sub-results does with a result for which an arm's test holds -/
inductive OnRes
  | returnNone                      -- `return None`
  | returnIt                        -- `return mismatch`
  | collect                         -- `results.append(mismatch)`
  | returnItIfFirstOnlyElseCollect  -- `if self.first_only: return mismatch` / `results.append(mismatch)`
  | unknown
deriving DecidableEq, Repr

structure Arm where
  test : ResTest
  act : OnRes
deriving DecidableEq, Repr

inductive LoopOver
  | matchersSameValue       -- `for matcher in self.matchers: r = matcher.match(matchee)`
  | valuesSameMatcher       -- `for value in values: r = self.matcher.match(value)`
  | zipMatchersValues       -- `for matcher, value in zip(self.matchers, values): r = matcher.match(value)`
  | unknown
deriving DecidableEq, Repr

inductive LoopEnd
  | mismatchesAll           -- `return MismatchesAll(collected)` whatever was collected
  | mismatchesAllIfAny      -- `if collected: return MismatchesAll(collected)`, otherwise None
  | unknown
deriving DecidableEq, Repr

/-- a loop over the results of sub-matchers: the first arm whose test holds of a result acts, a result no arm claims is
passed over -/
structure LoopSkel where
  over : LoopOver
  arms : List Arm
  atEnd : LoopEnd
deriving DecidableEq, Repr

/-- does the test hold of a result?  (`match` = None, falsy; every stock mismatch object is truthy) -/
def ResTest.holds : ResTest → Verdict → Bool
  | .isNone, .match => true
  | .isNotNone, .mismatch => true
  | .truthy, .mismatch => true
  | .falsy, .match => true
  | _, _ => false

def firstArm : List Arm → Verdict → Option OnRes
  | [], _ => none
  | a :: as, r => if a.test.holds r then some a.act else firstArm as r

/-- the loop, replayed over the results of the sub-matchers in order (`any`: something was collected so far); an
exception raised by a sub-matcher propagates -/
def loopI (sk : LoopSkel) (firstOnly : Bool) : Bool → List Verdict → Verdict
  | any, [] => match sk.atEnd with
      | .mismatchesAll => .mismatch
      | .mismatchesAllIfAny => if any then .mismatch else .match
      | .unknown => .raised .oracleMiss
  | _, .raised c :: _ => .raised c
  | any, r :: rs => match firstArm sk.arms r with
      | none => loopI sk firstOnly any rs
      | some .returnNone => .match
      | some .returnIt => r
      | some .collect => loopI sk firstOnly true rs
      | some .returnItIfFirstOnlyElseCollect => if firstOnly then r else loopI sk firstOnly true rs
      | some .unknown => .raised .oracleMiss

/-! ### wrappers around one sub-matcher: Not, Annotate -/
inductive WrapRet | none | newMismatch | wrappedMismatch | unknown
deriving DecidableEq, Repr

/-- `r = self.matcher.match(other)`; `if <test r>: return <hit> else: return <miss>` -/
structure WrapSkel where
  test : ResTest
  hit : WrapRet
  miss : WrapRet
deriving DecidableEq, Repr

def WrapRet.verdict : WrapRet → Verdict
  | .none => .match
  | .newMismatch => .mismatch
  | .wrappedMismatch => .mismatch
  | .unknown => .raised .oracleMiss

def wrapI (w : WrapSkel) : Verdict → Verdict
  | .raised c => .raised c
  | r => if w.test.holds r then w.hit.verdict else w.miss.verdict

/-- `AfterPreprocessing.match`: the preprocessor is applied first, the (possibly annotated) inner matcher decides -/
structure AfterSkel where
  preprocessFirst : Bool          -- `after = self.preprocessor(value)` before anything else
  annotateGuarded : Bool          -- `if self.annotate: matcher = Annotate(…, self.matcher) else: matcher = self.matcher`
  returnsInnerOnAfter : Bool      -- `return matcher.match(after)`
deriving DecidableEq, Repr

/-- `MatchesPredicate.match` / `_MatchesPredicateWithParams.match` -/
structure PredSkel where
  negatedPredicate : Bool         -- `if not self.predicate(x …):`
  oneTupleFormat : Bool           -- `self.message % (x,)`   (WithParams: `.format(*((x,) + self.args), **self.kwargs)`)
  fallsOffToNone : Bool
deriving DecidableEq, Repr

/-! ### `_BinaryComparison` and its subclasses -/
inductive CmpOp | eq | ne | is_ | lt | gt | le | ge | unknown
deriving DecidableEq, Repr

structure BinRow where
  cls : String
  op : CmpOp
  mismatchString : String
deriving DecidableEq, Repr

structure BinSkel where
  otherThenExpected : Bool        -- `self.comparator(other, self.expected)`
  truthyReturnsNone : Bool        -- `if <that>: return None`
  elseBinaryMismatch : Bool       -- `return _BinaryMismatch(other, self.mismatch_string, self.expected)`
  rows : List BinRow
deriving DecidableEq, Repr

/-- Python's comparison operators on the value universe (`none` = TypeError) -/
def cmpI : CmpOp → V → V → Option Bool
  | .eq, a, b => some (veq a b)
  | .ne, a, b => some (!veq a b)
  | .is_, a, b => some (veq a b)          -- identity = structural equality under the harness's interning
  | .lt, a, b => pyLt a b
  | .gt, a, b => pyLt b a
  | _, _, _ => none

def rowOf (sk : BinSkel) (cls : String) : Option BinRow := sk.rows.find? (fun r => r.cls == cls)

/-- `_BinaryComparison.match` of the class `cls` with expectation `e` on `v` -/
def binI (sk : BinSkel) (cls : String) (e v : V) : Verdict :=
  match rowOf sk cls with
  | none => .raised .oracleMiss
  | some r =>
    if sk.otherThenExpected && sk.truthyReturnsNone && sk.elseBinaryMismatch then
      match cmpI r.op v e with
      | some b => .ofBool b
      | none => .raised .typeError
    else .raised .oracleMiss

/-! ### the other leaves of `_basic.py` -/
/-- `Contains.match`: `needle not in matchee` → mismatch; which exceptions of `in` are turned into a mismatch -/
structure ContainsSkel where
  notInReturnsMismatch : Bool
  caught : List String
  elseNone : Bool
deriving DecidableEq, Repr

structure SameMembersSkel where
  expectedMinusObserved : Bool    -- `list_subtract(self.expected, observed)`
  observedMinusExpected : Bool    -- `list_subtract(observed, self.expected)`
  bothEmptyReturnsNone : Bool     -- `if expected_only == observed_only == []: return`
deriving DecidableEq, Repr

/-- `StartsWith` / `EndsWith` / `MatchesRegex` / `IsInstance`: one call decides -/
structure CallSkel where
  call : String                   -- canonical text of the deciding call (`x0` = the matchee parameter)
  negated : Bool                  -- `if not <call>: return <mismatch>`
  otherwiseNone : Bool
deriving DecidableEq, Repr

/-! ### `_datastructures.py` -/
structure ListwiseSkel where
  lengthFirst : Bool              -- `Annotate("Length mismatch", HasLength(len(self.matchers))).match(values)` before the loop
  lengthTest : ResTest            -- how that result is tested before it is collected
  loop : LoopSkel
deriving DecidableEq, Repr

structure StructureSkel where
  sortedItems : Bool              -- `for attr, matcher in sorted(self.kws.items())`
  annotatesWithAttr : Bool        -- `Annotate(attr, matcher)`
  getattrInLoop : Bool            -- `values.append(getattr(value, attr))`: every attribute is read before anything is matched
  delegatesToListwise : Bool      -- `MatchesListwise(matchers).match(values)`
deriving DecidableEq, Repr

inductive MatcherColl | occurrences | distinctObjects | hashSet | unknown
deriving DecidableEq, Repr
inductive Pairing | augmentingPaths | firstAccepting | unknown
deriving DecidableEq, Repr

/-- `MatchesSetwise.match`; the augmenting-path search is recognised by its shape, not translated: what it computes is a
maximum pairing, so "nothing left over" = "a perfect pairing exists" -/
structure SetwiseSkel where
  matchers : MatcherColl          -- `list(self.matchers)`: a matcher given twice counts twice
  valuesListed : Bool             -- `values = list(observed)`
  acceptValueMajor : Bool         -- `[[matcher.match(value) <test> for matcher in matchers] for value in values]`
  acceptTest : ResTest
  pairing : Pairing
  leftoversFromPairing : Bool     -- not_matched = values whose `pair(index)` failed; remaining = matchers not in `value_of`
  mismatchIffLeftover : Bool      -- `if not_matched or remaining_matchers:` … every branch returns a mismatch; else None
deriving DecidableEq, Repr

structure ContainsAllSkel where
  allOfContains : Bool            -- `MatchesAll(*map(Contains, items), first_only=False)`
deriving DecidableEq, Repr

/-! ### `_dict.py` -/
inductive DictPart | extra | missing | differences | unknown
deriving DecidableEq, Repr

structure DictRow where
  cls : String
  parts : List (String × DictPart)     -- `matcher_factories`, in order
deriving DecidableEq, Repr

structure DictSkel where
  rows : List DictRow
  combinedBuildsAllDict : Bool    -- `_CombinedMatcher.match`: every factory applied to the expectation, `MatchesAllDict(matchers).match(observed)`
  allDictAsksEveryLabel : Bool    -- `MatchesAllDict.match`: no short-circuit
  keptIfTruthy : Bool             -- `_dict_to_mismatch`: `filter_values(bool, data)`; a mismatch iff something is kept
  extraIsObservedMinusExpected : Bool   -- `_SubDictOf.match`: `dict_subtract(observed, self.super_dict)`
  missingSwapsRoles : Bool        -- `_SuperDictOf.match`: `_SubDictOf(super_dict, …).match(self.sub_dict)`
  commonKeysIntersection : Bool   -- `set(expected.keys()) & set(observed.keys())`
  commonTest : ResTest            -- how a common key's result is tested before it is kept
  keysEqualBothSubtractions : Bool      -- `KeysEqual.match`: `list_subtract` both ways decides
deriving DecidableEq, Repr

def dictRow (sk : DictSkel) (cls : String) : List (String × DictPart) :=
  match sk.rows.find? (fun r => r.cls == cls) with
  | some r => r.parts
  | none => []

/-- which key-set conditions a dict matcher reports (`extra`: observed keys outside the expectation, `missing`: expected
keys absent from the observed dict) -/
def dictOwnI (parts : List (String × DictPart)) (extra missing : Bool) : Bool :=
  parts.any fun p => match p.2 with
    | .extra => extra
    | .missing => missing
    | _ => false

def dictClass : DictKind → String
  | .exact => "MatchesDict" | .contains => "ContainsDict" | .containedBy => "ContainedByDict"

/-! ### `_exception.py` -/
inductive ExcStep
  /- the constructor -/
  | strValueReIsRegexOnStr        -- `if isinstance(value_re, str): value_re = AfterPreprocessing(str, MatchesRegex(value_re), False)`
  | instanceUnlessClassOrTuple    -- `_is_instance` = `type(expected)` is NOT a subclass of `type` or of `tuple` (a class with a
                                  --  metaclass is a class, a named tuple of classes is a tuple of classes)
  /- match() -/
  | notTupleMismatch              -- `if not isinstance(other, tuple): return Mismatch(…)`
  | notSubclassMismatch           -- `if not issubclass(other[0], expected_class): return Mismatch(…)`
  | instanceArgsDifferMismatch    -- `if self._is_instance: if other[1].args != self.expected.args: return Mismatch(…)`
  | valueMatcherIfNotNone         -- `elif self.value_re is not None: return self.value_re.match(other[1])`
  | unknown
deriving DecidableEq, Repr

structure RaisesSkel where
  callsMatcheeInTry : Bool
  returnedIsMismatch : Bool       -- `return Mismatch(f"{matchee!r} returned {result!r}")` right after the call
  catchesBaseException : Bool
  matcherGuard : ResTest          -- `if self.exception_matcher:` (truthiness of the matcher object)
  innerTest : ResTest             -- `if not mismatch: return` (the exception matched)
  propagatesNonUser : Bool        -- `if _is_exception(exception) and not _is_user_exception(exception): raise`
  otherwiseReturnsMismatch : Bool
deriving DecidableEq, Repr

/-! ### C07: `_impl.py`, `testcase.py`, `assertions.py` -/
structure MismatchSrc where
  descriptionKeptIf : ResTest     -- `if description is not None: self._description = description`
  detailsDefaultEmptyDict : Bool
  describeReturnsDescription : Bool
  describeMissingIsNotImplemented : Bool   -- `except AttributeError: raise NotImplementedError(self.describe)`
  getDetailsReturnsDetails : Bool
  decoratorForwardsDescribe : Bool         -- MismatchDecorator.describe / get_details forward to `self.original`
  decoratorForwardsDetails : Bool
  /-- classes of `testtools/matchers/*.py` that define `__bool__` or `__len__`: with none, every stock mismatch object is truthy,
  which is what `ResTest.holds` assumes when it reads `if mismatch:` as "a mismatch was returned" -/
  truthOverrides : List String
deriving DecidableEq, Repr

structure ErrStrSrc where
  describesFirst : Bool           -- `difference = self.mismatch.describe()`
  verboseGuard : Bool             -- `if self.verbose:`
  textReprFor : List String       -- `isinstance(self.matchee, (str, bytes))` → `text_repr(self.matchee, multiline=False)`
  multilineFalse : Bool
  otherwiseRepr : Bool
  formatOrder : List String       -- what is interpolated into "Match failed. Matchee: %s\nMatcher: %s\nDifference: %s\n"
  terseReturnsDifference : Bool
deriving DecidableEq, Repr

/-- `_warnings.py`: how `Warnings.match` gets at the LIST of warnings the callable emits -/
structure WarningsSkel where
  recordsInCatchWarnings : Bool    -- `with warnings.catch_warnings(record=True) as w:` (the caller's filters come back afterwards)
  /-- the statements between entering the block and calling the matchee, e.g. `["warnings.simplefilter('always')"]`: with the action
  "always" EVERY warning reaches `w` — repeats of one (text, category, line) included, whatever filters the caller had -/
  beforeCall : List String
  callsMatcheeInside : Bool        -- `matchee()` inside the block, nothing else after the filter
  matcherGuard : ResTest           -- `if self.warnings_matcher is not None: return self.warnings_matcher.match(w)`
  matcherGetsRecorded : Bool
  otherwiseMismatchIfNone : Bool   -- `elif not w: return Mismatch(...)` and None when there was a warning
  isDeprecatedIsListwiseOfOne : Bool  -- `Warnings(MatchesListwise([WarningMessage(category_type=DeprecationWarning, message=message)]))`
  categoryByIdentity : Bool        -- `WarningMessage`: `category=… Is(category_type)`, the message matched after `str`
deriving DecidableEq, Repr

structure AssertSrc where
  helperAnnotates : Bool          -- `matcher = Annotate.if_message(message, matcher)`
  helperTest : ResTest            -- `if not mismatch: return`
  helperDetailsUnique : Bool      -- `for name, value in mismatch.get_details().items(): self.addDetailUniqueName(name, value)`
  helperReturnsError : Bool       -- `return MismatchError(matchee, matcher, mismatch, verbose)`
  assertRaisesIf : ResTest        -- `if mismatch_error is not None: raise mismatch_error`
  expectTest : ResTest            -- `if mismatch_error is not None:`
  expectDetailUnique : Bool       -- `self.addDetailUniqueName("Failed expectation", …)`
  expectForcesFailure : Bool      -- `self.force_failure = True`
  expectNeverRaises : Bool        -- no `raise` in expectThat
  uniqWhileTaken : Bool           -- `while full_name in existing_details:`
  uniqSuffixFrom : Nat            -- `suffix = 1`
  uniqFormat : String             -- `"%s-%d" % (name, suffix)`
  uniqIncrements : Bool
  uniqAddsDetail : Bool
  fnAnnotates : Bool              -- assertions.assert_that
  fnTest : ResTest
  fnRaisesError : Bool
  fnAttachesDetails : Bool        -- (it has no test to attach them to)
deriving DecidableEq, Repr

open TTV.Describe in
/-- the three entry points, from the data: was a `MismatchError` raised, which detail names exist afterwards, is the
failure forced — given what `match()` returned -/
def assertI (s : AssertSrc) (i : AssertIn) : Bool × List Name × Bool :=
  let mismatched (t : ResTest) : Bool := match i.mismatch with
    | none => t.holds .match
    | some _ => t.holds .mismatch
  let withDetails : List Name := match i.mismatch with
    | some ds => if s.helperDetailsUnique then ds.foldl addUnique i.existing else i.existing
    | none => i.existing
  match i.api with
  | .assert_that =>
    -- returns when the helper test says "no mismatch", raises otherwise
    (s.fnRaisesError && !mismatched s.fnTest, i.existing, false)
  | .assertThat =>
    let err := s.helperReturnsError && !mismatched s.helperTest
    (err && mismatched' s.assertRaisesIf err, if err then withDetails else i.existing, false)
  | .expectThat =>
    let err := s.helperReturnsError && !mismatched s.helperTest
    let hit := err && mismatched' s.expectTest err
    (false && !s.expectNeverRaises,
     if hit then (if s.expectDetailUnique then addUnique withDetails 0 else withDetails) else (if err then withDetails else i.existing),
     hit && s.expectForcesFailure)
where
  /-- the test applied to the helper's return value (None or the error object) -/
  mismatched' (t : ResTest) (err : Bool) : Bool := t.holds (if err then .mismatch else .match)

/-! ## reference terms: what the pinned tree contains -/
def refAny : LoopSkel :=
  { over := .matchersSameValue, arms := [⟨.isNone, .returnNone⟩, ⟨.isNotNone, .collect⟩], atEnd := .mismatchesAll }
def refAll : LoopSkel :=
  { over := .matchersSameValue, arms := [⟨.isNotNone, .returnItIfFirstOnlyElseCollect⟩], atEnd := .mismatchesAllIfAny }
def refAllMatch : LoopSkel :=
  { over := .valuesSameMatcher, arms := [⟨.truthy, .collect⟩], atEnd := .mismatchesAllIfAny }
def refAnyMatch : LoopSkel :=
  { over := .valuesSameMatcher, arms := [⟨.falsy, .returnNone⟩, ⟨.truthy, .collect⟩], atEnd := .mismatchesAll }
def refNot : WrapSkel := { test := .isNone, hit := .newMismatch, miss := .none }
def refAnnotate : WrapSkel := { test := .isNotNone, hit := .wrappedMismatch, miss := .none }
def refAfter : AfterSkel := { preprocessFirst := true, annotateGuarded := true, returnsInnerOnAfter := true }
def refPredicate : PredSkel := { negatedPredicate := true, oneTupleFormat := true, fallsOffToNone := true }
def refBin : BinSkel :=
  { otherThenExpected := true, truthyReturnsNone := true, elseBinaryMismatch := true,
    rows := [⟨"Equals", .eq, "!="⟩, ⟨"NotEquals", .ne, "=="⟩, ⟨"Is", .is_, "is not"⟩, ⟨"LessThan", .lt, ">="⟩,
             ⟨"GreaterThan", .gt, "<="⟩] }
def refContains : ContainsSkel :=
  { notInReturnsMismatch := true, caught := ["TypeError", "ValueError"], elseNone := true }
def refSameMembers : SameMembersSkel :=
  { expectedMinusObserved := true, observedMinusExpected := true, bothEmptyReturnsNone := true }
def refStartsWith : CallSkel := { call := "x0.startswith(self.expected)", negated := true, otherwiseNone := true }
def refEndsWith : CallSkel := { call := "x0.endswith(self.expected)", negated := true, otherwiseNone := true }
def refRegex : CallSkel := { call := "re.match(self.pattern, x0, self.flags)", negated := true, otherwiseNone := true }
def refIsInstance : CallSkel := { call := "isinstance(x0, self.types)", negated := true, otherwiseNone := true }
def refListwise : ListwiseSkel :=
  { lengthFirst := true, lengthTest := .truthy,
    loop := { over := .zipMatchersValues, arms := [⟨.truthy, .returnItIfFirstOnlyElseCollect⟩], atEnd := .mismatchesAllIfAny } }
def refStructure : StructureSkel :=
  { sortedItems := true, annotatesWithAttr := true, getattrInLoop := true, delegatesToListwise := true }
def refSetwise : SetwiseSkel :=
  { matchers := .occurrences, valuesListed := true, acceptValueMajor := true, acceptTest := .isNone,
    pairing := .augmentingPaths, leftoversFromPairing := true, mismatchIffLeftover := true }
def refContainsAll : ContainsAllSkel := { allOfContains := true }
def refDict : DictSkel :=
  { rows := [⟨"MatchesDict", [("Extra", .extra), ("Missing", .missing), ("Differences", .differences)]⟩,
             ⟨"ContainsDict", [("Missing", .missing), ("Differences", .differences)]⟩,
             ⟨"ContainedByDict", [("Extra", .extra), ("Differences", .differences)]⟩],
    combinedBuildsAllDict := true, allDictAsksEveryLabel := true, keptIfTruthy := true,
    extraIsObservedMinusExpected := true, missingSwapsRoles := true, commonKeysIntersection := true,
    commonTest := .truthy, keysEqualBothSubtractions := true }
def refMatchesException : List ExcStep :=
  [.strValueReIsRegexOnStr, .instanceUnlessClassOrTuple,
   .notTupleMismatch, .notSubclassMismatch, .instanceArgsDifferMismatch, .valueMatcherIfNotNone]
def refRaises : RaisesSkel :=
  { callsMatcheeInTry := true, returnedIsMismatch := true, catchesBaseException := true, matcherGuard := .truthy,
    innerTest := .falsy, propagatesNonUser := true, otherwiseReturnsMismatch := true }
def refMismatch : MismatchSrc :=
  { descriptionKeptIf := .isNotNone, detailsDefaultEmptyDict := true, describeReturnsDescription := true,
    describeMissingIsNotImplemented := true, getDetailsReturnsDetails := true, decoratorForwardsDescribe := true,
    decoratorForwardsDetails := true, truthOverrides := [] }
def refErrStr : ErrStrSrc :=
  { describesFirst := true, verboseGuard := true, textReprFor := ["str", "bytes"], multilineFalse := true,
    otherwiseRepr := true, formatOrder := ["matchee", "self.matcher", "difference"], terseReturnsDifference := true }
def refWarnings : WarningsSkel :=
  { recordsInCatchWarnings := true, beforeCall := ["warnings.simplefilter('always')"], callsMatcheeInside := true,
    matcherGuard := .isNotNone, matcherGetsRecorded := true, otherwiseMismatchIfNone := true,
    isDeprecatedIsListwiseOfOne := true, categoryByIdentity := true }
def refAssert : AssertSrc :=
  { helperAnnotates := true, helperTest := .falsy, helperDetailsUnique := true, helperReturnsError := true,
    assertRaisesIf := .isNotNone, expectTest := .isNotNone, expectDetailUnique := true, expectForcesFailure := true,
    expectNeverRaises := true, uniqWhileTaken := true, uniqSuffixFrom := 1, uniqFormat := "%s-%d", uniqIncrements := true,
    uniqAddsDetail := true, fnAnnotates := true, fnTest := .falsy, fnRaisesError := true, fnAttachesDetails := false }

end TTV.MatchSkel
