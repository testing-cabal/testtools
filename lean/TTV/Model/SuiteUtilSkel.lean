import TTV.Model.Suite
/-! The suite utilities of `testtools/testsuite.py` and the `--load-list` block of `testtools/run.py`, as data.

`harness/pysuite2lean.py` re-reads `iterate_tests`, `filter_by_ids`, `_flatten_tests`, `sorted_tests` and
`TestProgram.__init__` from the tree under test on every run and emits what it finds as terms of the types below
(`TTV/Generated/SuiteSrc.lean`).  The interpreters give the data its meaning over the M-Suite trees; `C19_src_*` prove that
the hand-written `iterate`, `filterIds`, `flatten`, `sortedTests` and the `--load-list` step are the interpretation of exactly
what was found.  An edit of the case order, of what replaces a filtered-out case, of the order "take the first id / call
sort_tests", of the duplicate check, or dropping the assignment of the filtered suite changes the generated term and breaks
a proof.

Trusted here: that the interpreters read the recognised forms as Python does (cases tried in order, the first whose test
holds decides; a suite with its own `filter_by_ids` / `sort_tests` implements them by the documented idioms of
`harness/props/c19.py`; `list.sort` is stable).  Object identity is not modelled: that the replacement suite is a *new* object
is carried by the flag of `keepIfIdIn` only.  Forms the translator does not recognise become `unknown`, on which the
interpreters answer something no model function answers; no reference term contains one. -/
namespace TTV.SuiteUtilSkel
open TTV.Suite

/-! ### `iterate_tests` -/
inductive IterArm | yieldSelf | yieldFromChildren | unknown
deriving DecidableEq, Repr

structure IterSrc where
  nonIterable : IterArm      -- `except TypeError:` arm
  iterable : IterArm         -- `else:` arm
deriving DecidableEq, Repr

mutual
def iterateI (s : IterSrc) : T → List Nat
  | .case id => if s.nonIterable = .yieldSelf then [id] else []
  | .suite _ cs => if s.iterable = .yieldFromChildren then iterateIL s cs else []
def iterateIL (s : IterSrc) : List T → List Nat
  | [] => []
  | t :: ts => iterateI s t ++ iterateIL s ts
end

def refIter : IterSrc := { nonIterable := .yieldSelf, iterable := .yieldFromChildren }

/-! ### `filter_by_ids` -/
inductive FTest | hasOwnFilter | hasId | isTestSuite | unknown
deriving DecidableEq, Repr

inductive FAct
  | delegate                      -- `return x.filter_by_ids(ids)`
  | keepIfIdIn (fresh : Bool)     -- `if x.id() in ids: return x else: return <r>`; fresh: `<r>` is the call `unittest.TestSuite()`
  | filterChildrenInPlace         -- `x._tests[:] = [filter_by_ids(item, ids) for item in x]`, then on to the final `return x`
  | unknown
deriving DecidableEq, Repr

structure FilterSrc where
  cases : List (FTest × FAct)
  finalReturnsSame : Bool
deriving DecidableEq, Repr

def FTest.holds : FTest → T → Bool
  | .hasOwnFilter, .suite .cfilter _ => true
  | .hasId, .case _ => true
  | .isTestSuite, .suite _ _ => true
  | _, _ => false

def chooseAct : List (FTest × FAct) → T → Option FAct
  | [], _ => none
  | (.unknown, _) :: _, _ => some .unknown        -- a test the translator could not read: nothing is known from here on
  | (t, a) :: rest, x => if t.holds x then some a else chooseAct rest x

/-- the answer where the source is not understood: `filterIds` gives it only on trees of this shape, `.suite .plain [.suite .plain [y]]`
(a case where a suite is expected to stay and vice versa does not arise) -/
def junk : T := .suite .plain [.suite .plain [.suite .plain []]]

mutual
def filterI (s : FilterSrc) (S : Nat → Bool) : T → T
  | .case id =>
    match chooseAct s.cases (.case id) with
    | some (.keepIfIdIn fresh) => if S id then .case id else if fresh then .suite .plain [] else junk
    | none => if s.finalReturnsSame then .case id else junk
    | _ => junk
  | .suite k cs =>
    match chooseAct s.cases (.suite k cs) with
    | some .delegate => .suite k (filterIL s S cs)                       -- the custom suite's own method (documented idiom)
    | some .filterChildrenInPlace => if s.finalReturnsSame then .suite k (filterIL s S cs) else junk
    | none => if s.finalReturnsSame then .suite k cs else junk
    | _ => junk
def filterIL (s : FilterSrc) (S : Nat → Bool) : List T → List T
  | [] => []
  | t :: ts => filterI s S t :: filterIL s S ts
end

def refFilter : FilterSrc :=
  { cases := [(.hasOwnFilter, .delegate), (.hasId, .keepIfIdIn true), (.isTestSuite, .filterChildrenInPlace)], finalReturnsSame := true }

/-! ### `_flatten_tests` -/
inductive FlatNon | single | unknown
deriving DecidableEq, Repr
inductive FlatTest | plainTypeOrOuter | unknown
deriving DecidableEq, Repr
inductive FlatBody | extendRecursive | unknown
deriving DecidableEq, Repr
/-- the steps of the branch that keeps a custom suite whole, in the order they occur -/
inductive WholeStep | firstId | sortIfHas | returnPair | unknown
deriving DecidableEq, Repr

structure FlattenSrc where
  nonIterable : FlatNon
  unpackTest : FlatTest
  unpackBody : FlatBody
  wholeSteps : List WholeStep
deriving DecidableEq, Repr

/-- run the steps on a custom suite: `cur` = the suite as it is now, `key` = `suite_id` if assigned -/
def wholeI (k : Kind) (sortedChildren : List T) : List WholeStep → T → Option (Option Nat) → List Item
  | [], _, _ => []
  | .firstId :: rest, cur, _ => wholeI k sortedChildren rest cur (some (iterate cur).head?)
  | .sortIfHas :: rest, cur, key => wholeI k sortedChildren rest (if k = .csort then .suite k sortedChildren else cur) key
  | .returnPair :: _, cur, some key => [(key, cur)]
  | .returnPair :: _, _, none => []
  | .unknown :: _, _, _ => []

mutual
def flattenI (s : FlattenSrc) (outer : Bool) : T → List Item
  | .case id => if s.nonIterable = .single then [(some id, .case id)] else []
  | .suite k cs =>
    if s.unpackTest = .plainTypeOrOuter && (k = .plain || outer) then
      (if s.unpackBody = .extendRecursive then flattenIL s cs else [])
    else
      -- `sort_tests` of the documented idiom: `self._tests = sorted_tests(self, True)._tests`
      wholeI k ((sortItems (flattenIL s cs)).map (·.2)) s.wholeSteps (.suite k cs) none
def flattenIL (s : FlattenSrc) : List T → List Item
  | [] => []
  | t :: ts => flattenI s false t ++ flattenIL s ts
end

def refFlatten : FlattenSrc :=
  { nonIterable := .single, unpackTest := .plainTypeOrOuter, unpackBody := .extendRecursive,
    wholeSteps := [.firstId, .sortIfHas, .returnPair] }

/-- the `sort_tests` method of a suite class as found in the source: `self._tests = list(sorted_tests(self, True))` - the children
become the items of `sorted_tests` of the suite itself, its own (outer) level unpacked and nothing else: plain suites below it
dissolved, every other suite below it kept whole (and sorted in turn) -/
inductive SortSelf | itemsOfSortedOuter | unknown
deriving DecidableEq, Repr

/-- the children after `sort_tests` (`none`: not interpreted) -/
def sortSelfI (s : FlattenSrc) : SortSelf → List T → Option (List T)
  | .itemsOfSortedOuter, cs => some ((sortItems (flattenIL s cs)).map (·.2))
  | .unknown, _ => none

def refSortSelf : SortSelf := .itemsOfSortedOuter

/-! ### `sorted_tests` -/
inductive DupOver | iterateTests | unknown
deriving DecidableEq, Repr
inductive SortedStep | dupCheck (over : DupOver) | flatten | sortByKey | returnPlainSuite | unknown
deriving DecidableEq, Repr

inductive SortedOut | bad | valueError | ok (t : T)

def sortedI (it : IterSrc) (fl : FlattenSrc) (x : T) : List SortedStep → Option (List Item) → SortedOut
  | [], _ => .bad
  | .dupCheck .iterateTests :: rest, items => if hasDup (iterateI it x) then .valueError else sortedI it fl x rest items
  | .dupCheck .unknown :: _, _ => .bad
  | .flatten :: rest, _ => sortedI it fl x rest (some (flattenI fl false x))
  | .sortByKey :: rest, some items => sortedI it fl x rest (some (sortItems items))
  | .sortByKey :: _, none => .bad
  | .returnPlainSuite :: _, some items => .ok (.suite .plain (items.map (·.2)))
  | .returnPlainSuite :: _, none => .bad
  | .unknown :: _, _ => .bad

def refSorted : List SortedStep := [.dupCheck .iterateTests, .flatten, .sortByKey, .returnPlainSuite]

/-! ### `TestProgram.__init__`: `--load-list` -/
inductive LLStep | openRead | readLines | idsFromLines | assignFiltered | unknown
deriving DecidableEq, Repr

structure LoadListSrc where
  placedBetweenParseAndRun : Bool
  steps : List LLStep
deriving DecidableEq, Repr

/-- ids of the tests that are run: `self.test` after the block, iterated -/
def loadedI (l : LoadListSrc) (it : IterSrc) (f : FilterSrc) (S : Nat → Bool) (x : T) : Option (List Nat) :=
  if l.placedBetweenParseAndRun && l.steps == [.openRead, .readLines, .idsFromLines, .assignFiltered] then
    some (iterateI it (filterI f S x))
  else none

def refLoadList : LoadListSrc :=
  { placedBetweenParseAndRun := true, steps := [.openRead, .readLines, .idsFromLines, .assignFiltered] }

end TTV.SuiteUtilSkel
