import TTV.Model.StreamRouter
/-! Executable specification of C18 — *routing picks exactly one destination; route prefixes push and pop
inversely* — over observed traces.  It is written against the **history** of operations: which rule applies to an
event is decided by looking back at the registrations made so far ("the latest registration for a key wins"),
not by replaying the router's dictionaries.

**Interpretations** (taken from the code, stated plainly because an independent audit - audit/C18 - read the prose more
widely; the code is left as it is):
* an event is a `status(**kwargs)` call: `StreamResultRouter.status` takes keywords only, a positional call raises
  TypeError and reaches no sink (audit/C18 v3).  `CopyStreamResult`, `StreamTagger` and `TimestampingStreamResult` hand
  positional arguments on as they got them, so a positional call made through one of them into a router raises as well.
* registration for start/stop is for good and per sink OBJECT (see `flagged`): a sink whose rule is replaced stays
  registered; a sink object is registered at most once (repaired, see KNOWN_FINDINGS: it used to be once per rule).
* sinks are told apart by identity; their truth value and what they compare equal to do not matter (repaired for the
  fallback, which used to be registered only if truthy).
* route codes with empty segments are read literally (`"0/"` forwards `None` after consuming, `""` is not `None`); a sink
  that raises ends the operation there (`_in_run` keeps its old value, later sinks are not called); without a fallback an
  unrouted event raises AttributeError; nothing is said about calls from several threads. -/
namespace TTV.Spec.C18
open TTV.Stream TTV.Stream.Router

/-- a registration that succeeded -/
inductive Reg where
  | pfx (sink : Nat) (p : Str) (consume flag : Bool)
  | tid (sink : Nat) (t : Option Nat) (flag : Bool)
deriving DecidableEq, Repr

def regOf : Op → Option Reg
  | .addPrefix sink p consume flag => if p.contains '/' then none else some (.pfx sink p consume flag)
  | .addId sink t flag => some (.tid sink t flag)
  | _ => none

/-- the registrations made by the operations `hist` -/
def regs (hist : List Op) : List Reg := hist.filterMap regOf

/-- latest prefix rule for a segment -/
def prefixRule (rs : List Reg) (seg : Str) : Option (Nat × Bool) :=
  rs.reverse.findSome? fun
    | .pfx sink p consume _ => if p = seg then some (sink, consume) else none
    | _ => none
/-- latest test-id rule for an id -/
def idRule (rs : List Reg) (t : Option Nat) : Option Nat :=
  rs.reverse.findSome? fun
    | .tid sink t' _ => if t' = t then some sink else none
    | _ => none

/-- the first segment of a route code (up to the first `/`), and what is left after that `/` (`None` when nothing) -/
def segments : Str → Str × Option Str
  | [] => ([], none)
  | c :: cs =>
    if c = '/' then ([], match cs with | [] => none | d :: ds => some (d :: ds))
    else ((c :: (segments cs).1), (segments cs).2)

/-- the one destination of an event: the rule of the first segment of its route code if there is one, else the
rule of its test id, else the fallback, else none (the call raises); a consuming route rule strips that segment,
every other field is forwarded unchanged -/
def destination (hasFallback : Bool) (rs : List Reg) (e : Event) : Option (Nat × Event) :=
  match e.route.bind fun rc => (prefixRule rs (segments rc).1).map fun r => (r, (segments rc).2) with
  | some ((sink, consume), rest) => some (sink, if consume then { e with route := rest } else e)
  | none =>
    match idRule rs e.testId with
    | some sink => some (sink, e)
    | none => if hasFallback then some (0, e) else none

/-- who is registered for startTestRun / stopTestRun, in registration order (the fallback first).  The history holds
registrations as they took effect (see `entered`): a sink OBJECT is in this list at most once, however many rules point at
it and whether or not it is the fallback as well.  A registration is for good: a sink whose rule is later replaced by a
rule for another sink stays registered (it keeps getting one start and one stop per run) - that much, and no more, is
guaranteed about replaced rules. -/
def flagged (hasFallback fbFlag : Bool) (rs : List Reg) : List Nat :=
  (if hasFallback && fbFlag then [0] else []) ++ rs.filterMap fun
    | .pfx sink _ _ flag => if flag then some sink else none
    | .tid sink _ flag => if flag then some sink else none

def isCtl : Op → Bool
  | .start => true
  | .stop => true
  | _ => false

/-- is a run in progress after the operations `hist` -/
def inRun (hist : List Op) : Bool :=
  match hist.reverse.find? isCtl with
  | some .start => true
  | _ => false

/-! ### reading the observed history
`H` = the operations that took effect so far, in order: every `add_rule` call — by the driver, or by a sink from inside
one of its methods — and every `startTestRun` / `stopTestRun` of the router that returned normally.  Which rule applies,
who is registered and whether a run is in progress are read off `H` (`regs`, `flagged`, `inRun`). -/

/-- the sink of a registration made with `do_start_stop_run` -/
def flaggedSink (o : Op) : Option Nat :=
  match regOf o with
  | some (.pfx sink _ _ true) => some sink
  | some (.tid sink _ true) => some sink
  | _ => none

def clearFlag : Op → Op
  | .addPrefix sink p consume _ => .addPrefix sink p consume false
  | .addId sink t _ => .addId sink t false
  | o => o

/-- an `add_rule` call as it takes effect after the history `h`: `do_start_stop_run` for a sink that is registered for
start/stop already (by an earlier rule, or as the fallback) adds the rule and nothing else -/
def entered (hb ff : Bool) (h : List Op) (o : Op) : Op :=
  match flaggedSink o with
  | some y => if (flagged hb ff (regs h)).contains y then clearFlag o else o
  | none => o

/-- an `add_rule` call enters the history if its policy method succeeded -/
def effAdd (o : Op) : List Op :=
  match regOf o with
  | some _ => [o]
  | none => []

/-- what the router itself must call during an operation: for `startTestRun` / `stopTestRun` one call per sink
registered for them — including sinks registered while the dispatch is under way —, otherwise a fixed list -/
inductive Mode where
  | ctl (ev : SinkEv)
  | fixed (ds : List (Nat × SinkEv))

def nextTop (hb ff : Bool) (m : Mode) (h : List Op) (i : Nat) : Option (Nat × SinkEv) :=
  match m with
  | .ctl ev => ((flagged hb ff (regs h))[i]?).map (·, ev)
  | .fixed ds => ds[i]?

def allDone (hb ff : Bool) (m : Mode) (h : List Op) (i : Nat) : Bool :=
  match m with
  | .ctl _ => i == (flagged hb ff (regs h)).length
  | .fixed ds => i == ds.length

/-- walk through what was observed during one operation.  `running` = a run was in progress when the operation
began (it stays so until the operation returns); `i` = calls made by the router so far; `h` = history so far;
`pend` = a sink just registered re-entrantly with the flag while running: its `startTestRun` must come next;
`st` = the router has called a sink already (only then can a sink add rules or raise).
Result: the exception that ended the operation (if any) and the history; `none` = not what the property allows. -/
def walk (hb ff running : Bool) (m : Mode) : Nat → List Op → Option Nat → Bool → List Item → Option (Option String × List Op)
  | i, h, some y, st, .del x .start true :: r => if x = y then walk hb ff running m i h none st r else none
  | _, _, some _, _, _ => none
  | i, h, none, _, [] => if allDone hb ff m h i then some (none, h) else none
  | _, h, none, st, [.exc x] => if st then some (some x, h) else none
  | i, h, none, st, .radd o :: r =>
    if st then walk hb ff running m i (h ++ effAdd (entered hb ff h o))
      (if running then flaggedSink (entered hb ff h o) else none) st r else none
  | i, h, none, _, .del x ev false :: r =>
    if nextTop hb ff m h i = some (x, ev) then walk hb ff running m (i + 1) h none true r else none
  | _, _, none, _, _ => none

def closes (res : Res) (w : Option (Option String × List Op)) (completed : List Op) : Option (List Op) :=
  match w with
  | some (none, h) => if res == .ok then some (h ++ completed) else none
  | some (some x, h) => if res == .raised x then some h else none
  | none => none

/-- an `add_rule` of the driver whose policy method succeeds: the sink is started at once iff it is newly registered
with the flag and a run is in progress -/
def addOk (hb ff : Bool) (H : List Op) (o : Op) (seg : List Item) (res : Res) : Option (List Op) :=
  closes res (walk hb ff (inRun H)
    (.fixed (match flaggedSink (entered hb ff H o) with | some y => if inRun H then [(y, .start)] else [] | none => []))
    0 (H ++ [entered hb ff H o]) none false seg) []

/-- one operation of the driver against what was observed during it and what it returned; result: the history
afterwards, `none` = the property is violated -/
def opOk (hb ff : Bool) (H : List Op) (o : Op) (seg : List Item) (res : Res) : Option (List Op) :=
  match o with
  | .start => closes res (walk hb ff (inRun H) (.ctl .start) 0 H none false seg) [.start]
  | .stop => closes res (walk hb ff (inRun H) (.ctl .stop) 0 H none false seg) [.stop]
  | .status e =>
    match destination hb (regs H) e with
    | none => if seg.isEmpty && res == .raised "AttributeError" then some H else none
    | some (sink, e') => closes res (walk hb ff (inRun H) (.fixed [(sink, .status e')]) 0 H none false seg) []
  | .roundTrip codes e =>
    if seg.isEmpty && (codes.any (fun c => c.contains '/' || c.isEmpty) || e.route == some [] || res == .arrived e)
    then some H else none
  | o =>
    match regOf o with
    | none => if seg.isEmpty && res != .ok then some H else none
    | some _ => addOk hb ff H o seg res

/-- the history after all operations; `none` = the property is violated somewhere -/
def finalHist (hb ff : Bool) : List Op → List Op → List (List Item) → List Res → Option (List Op)
  | H, [], [], [] => some H
  | H, o :: os, seg :: segs, r :: rs =>
    match opOk hb ff H o seg r with
    | some H' => finalHist hb ff H' os segs rs
    | none => none
  | _, _, _, _ => none

def historyOk (hb ff : Bool) (H : List Op) (os : List Op) (segs : List (List Item)) (rs : List Res) : Bool :=
  (finalHist hb ff H os segs rs).isSome

/-- **the property over whole histories**: every status goes to the one sink `destination` names (rules registered
so far, by whatever path), unchanged but for a consumed route segment; `startTestRun` / `stopTestRun` call each sink
registered for them — before or during the dispatch — exactly once, in registration order, and nothing else; a rule
added with the flag while a run is in progress is started at once, otherwise not; an exception raised by a sink ends
the operation there and reaches the driver; a push/pop round trip returns the event unchanged -/
def cHistory (i : Input) (t : Trace) : Bool := historyOk i.hasFallback i.fbFlag [] i.ops t.segments t.results

/-! ### per sink: starts and stops alternate -/
def ctlOf (x : Nat) : List Item → List Bool
  | [] => []
  | .del y .start _ :: r => if y = x then true :: ctlOf x r else ctlOf x r
  | .del y .stop _ :: r => if y = x then false :: ctlOf x r else ctlOf x r
  | _ :: r => ctlOf x r

/-- `true` = start; alternating, beginning with a start -/
def alternates : Bool → List Bool → Bool
  | _, [] => true
  | expectStart, b :: r => b == expectStart && alternates (!expectStart) r

def hasExc (seg : List Item) : Bool := seg.any fun | .exc _ => true | _ => false

/-- the driver starts a run only when none is in progress and stops only a run in progress -/
def runsWellFormed : Bool → List Op → Bool
  | _, [] => true
  | running, .start :: os => !running && runsWellFormed true os
  | running, .stop :: os => running && runsWellFormed false os
  | running, _ :: os => runsWellFormed running os

def sinksOf (t : Trace) : List Nat :=
  (t.segments.flatten.filterMap fun | .del x _ _ => some x | _ => none).eraseDups

/-- no sink raises and runs do not nest (the driver starts a run only when none is in progress and stops only a run in
progress).  Nothing is asked of the rule set: a sink may serve any number of rules, be the fallback as well, be
registered by the driver or re-entrantly. -/
def clean (i : Input) (t : Trace) : Bool :=
  !(t.segments.any hasExc) && runsWellFormed false i.ops &&
    (finalHist i.hasFallback i.fbFlag [] i.ops t.segments t.results).isSome

/-- in such a history every sink OBJECT sees `startTestRun` and `stopTestRun` strictly alternating, beginning with a
start: at most one start per run - however many rules point at it -, never a stop without a start -/
def cAlternate (i : Input) (t : Trace) : Bool :=
  !clean i t || (sinksOf t).all fun x => alternates true (ctlOf x t.segments.flatten)

def clauses : List (String × (Input → Trace → Bool)) :=
  [("history", cHistory), ("alternate", cAlternate)]

def holds (i : Input) (t : Trace) : Bool := clauses.all fun c => c.2 i t

end TTV.Spec.C18
