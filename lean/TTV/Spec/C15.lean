import TTV.Model.Spinner
/-! Executable specification of C15 over observed traces of `Spinner.run` histories.

The expected result of a run is computed **declaratively** from the scenario (no event loop, no queue):
the first of "the Deferred fires / fails" and "the timeout call" in the reactor's order
`(time, scheduling order)` decides, unless the reactor was stopped at a strictly earlier instant.
`TTV.Props.C15` proves that the discrete-event model computes exactly this.
A history interleaves calls of `run` (also with a timeout the reactor rejects), `clear_junk()` and handler
installations by the process; the clause `signals` is stated for **every** call, skipped or not (unless `lateHandler`). -/
namespace TTV.Spec.C15
open TTV.Reactor TTV.Spinner

/-! ## the expected result of one run -/

def fireRes : Act → Option Res
  | .fire v => some (.value v)
  | .fail e => some (.raised e)
  | _ => none

def nowAct : Op → Option Act
  | .now a => some a
  | .later _ _ => none

/-- the result the scenario's Deferred already has when `f` returns -/
def syncFire (sc : Scen) : Option Res := (sc.body.filterMap nowAct).findSome? fireRes

/-- the result `run_function` sees at once: `f` returned a value, raised, or returned a fired Deferred -/
def syncRes (sc : Scen) : Option Res :=
  match sc.term with
  | .ret v => some (.value v)
  | .raise e => some (.raised e)
  | .deferred => syncFire sc

/-- `f` itself asked the reactor to stop -/
def syncStop (sc : Scen) : Bool := (sc.body.filterMap nowAct).any (· == .stop)

/-- what a delayed call means for the outcome -/
inductive Kind | decisive (r : Res) | stop | other
deriving DecidableEq, Repr

def kindOf : Act → Kind
  | .fire v => .decisive (.value v)
  | .fail e => .decisive (.raised e)
  | .stop => .stop
  | _ => .other

def laterKind : Op → Option (Nat × Kind)
  | .later d a => some (d, kindOf a)
  | .now _ => none

/-- the delayed calls `(delay, kind)` in scheduling order: those made before `run`, the spinner's timeout
call, those made by `f` -/
def delayed (sc : Scen) : List (Nat × Kind) :=
  sc.pre.map (fun p => (p.1, kindOf p.2)) ++ (sc.timeout, Kind.decisive .timeout) :: sc.body.filterMap laterKind

/-- the first decisive call in the order (time, scheduling order): scan in scheduling order, a later call
replaces the best one only if it is due strictly earlier -/
def winner : List (Nat × Kind) → Option (Nat × Res) → Option (Nat × Res)
  | [], best => best
  | (t, .decisive r) :: rest, none => winner rest (some (t, r))
  | (t, .decisive r) :: rest, some (tb, rb) => winner rest (if t < tb then some (t, r) else some (tb, rb))
  | _ :: rest, best => winner rest best

/-- no stop request at an instant strictly before `t` -/
def noStopBefore (t : Nat) (cs : List (Nat × Kind)) : Bool :=
  cs.all fun c => c.2 != Kind.stop || t ≤ c.1

def expected (sc : Scen) : Res :=
  match syncRes sc with
  | some r => r
  | none =>
    if syncStop sc then .noresult else
    match winner (delayed sc) none with
    | none => .noresult
    | some (t, r) => if noStopBefore t (delayed sc) then r else .noresult

/-! ## labels -/

/-- label `l` belongs to: the l-th `pre` call, or the (l - |pre|)-th operation of `f` -/
def actOf (sc : Scen) (l : Nat) : Option Act :=
  if l < sc.pre.length then sc.pre[l]?.map (·.2)
  else match sc.body[l - sc.pre.length]? with
    | some (.later _ a) => some a
    | some (.now a) => some a
    | none => none

def laterLabels : Nat → List Op → List Nat
  | _, [] => []
  | i, .later _ _ :: rest => i :: laterLabels (i + 1) rest
  | i, .now _ :: rest => laterLabels (i + 1) rest

/-- labels of the delayed calls of the scenario -/
def delayedLabels (sc : Scen) : List Nat := List.range sc.pre.length ++ laterLabels sc.pre.length sc.body

def junkSel : Junk → Option Nat
  | .sel n => some n
  | .call _ => none

def evLabels (o : RunObs) : List Lbl := o.events.map (·.2)

/-- the event is the execution of a re-entry attempt -/
def isReenterEv (sc : Scen) (e : Nat × Lbl) : Bool :=
  match e.2 with
  | .user l => (match actOf sc l with | some (.reenter _) => true | _ => false)
  | .timeout => false

/-- the event is the execution of "register a selectable": its label -/
def selEv (sc : Scen) (e : Nat × Lbl) : Option Nat :=
  match e.2 with
  | .user l => (match actOf sc l with | some .addSel => some l | _ => none)
  | .timeout => none

/-- junk that is a delayed call of the scenario carries the label of one -/
def junkKnown (sc : Scen) (j : Junk) : Bool :=
  match j with
  | .call (.user l) => (delayedLabels sc).contains l
  | _ => true

/-! ## clauses over one run: scenario, junk in the spinner before the call, observation -/

def refused (jb : List Junk) : Bool := !jb.isEmpty

/-- the reactor rejects the timeout (and the run is not refused for stale junk before that): `reactor.callLater` raises,
`run` raises out of the statements before its `try … finally` -/
def rejects (sc : Scen) (jb : List Junk) : Bool := !refused jb && sc.bad

/-- `f` is never called: the run is refused or the timeout rejected -/
def skipped (sc : Scen) (jb : List Junk) : Bool := refused jb || sc.bad

/-- refuses to run while there is junk (and only then); a refusal changes nothing -/
def cStale (sc : Scen) (jb : List Junk) (o : RunObs) : Bool :=
  (o.result == .stalejunk) == refused jb &&
  (!refused jb ||
    (o.events.isEmpty && o.reentries.isEmpty && o.junk == jb && o.pending == sc.pre.length && o.sels == 0
      && !o.running && o.stopRestored && o.sigAfter == o.sigBefore && o.elapsed == 0))

/-- a timeout the reactor does not accept makes `run` raise what `reactor.callLater` raised (and only that does); such
a call changes nothing: no event, no junk, what the caller scheduled is still pending, every signal handler (preserved
or not), `reactor.stop` and the reactor's state are what they were -/
def cRejected (sc : Scen) (jb : List Junk) (o : RunObs) : Bool :=
  (o.result == .rejected) == rejects sc jb &&
  (!rejects sc jb ||
    (o.events.isEmpty && o.reentries.isEmpty && o.junk == jb && o.pending == sc.pre.length && o.sels == 0
      && !o.running && o.stopRestored && o.sigAfter == o.sigBefore && o.elapsed == 0))

/-- every re-entrant call was refused with ReentryError, one per attempt -/
def cReentry (sc : Scen) (_ : List Junk) (o : RunObs) : Bool :=
  o.reentries.all (· == .reentry) && o.result != .reentry &&
  o.reentries.length == (o.events.filter (isReenterEv sc)).length

def cResult (sc : Scen) (jb : List Junk) (o : RunObs) : Bool :=
  skipped sc jb || o.result == expected sc

/-- the signals the property names (independent of what the code's table says) -/
def mustPreserve (s : Nat) : Bool :=
  match sigNames[s]? with
  | some n => ["SIGINT", "SIGTERM", "SIGCHLD"].contains n
  | none => false

def preservedSame : Nat → List Nat → List Nat → Bool
  | _, [], [] => true
  | s, a :: as, b :: bs => (!mustPreserve s || a == b) && preservedSame (s + 1) as bs
  | _, _, _ => false

def opAct' : Op → Act
  | .later _ a => a
  | .now a => a

/-- some call of the scenario installs a signal handler -/
def installsHandler (sc : Scen) : Bool :=
  (sc.pre.map (·.2) ++ sc.body.map opAct').any fun a => match a with
    | .setSig _ _ => true
    | _ => false

/-- with obligatory iterations (`_OBLIGATORY_REACTOR_ITERATIONS > 0`) a leftover call of the scenario that installs a signal
handler may be run by `_clean` AFTER `_restore_signals`: then - and only then - the handlers need not be the old ones -/
def lateHandler (sc : Scen) : Bool := decide (sc.oblig > 0) && installsHandler sc

/-- afterwards: not running, nothing pending, no selectables, `reactor.stop` and the preserved signal
handlers are what they were -/
def cClean (sc : Scen) (jb : List Junk) (o : RunObs) : Bool :=
  skipped sc jb ||
    (!o.running && o.pending == 0 && o.sels == 0 && o.stopRestored && (lateHandler sc || preservedSame 0 o.sigBefore o.sigAfter))

/-- **whenever `run` returns or raises** - its own result, a timeout, a refusal, an exception of `reactor.callLater` - the
SIGINT / SIGTERM / SIGCHLD handlers are what they were immediately before *that* call, whatever this spinner did or
failed to do before and whatever the process installed in between (unless `lateHandler sc`) -/
def cSignals (sc : Scen) (_ : List Junk) (o : RunObs) : Bool := lateHandler sc || preservedSame 0 o.sigBefore o.sigAfter

def isOwnResult : Res → Bool
  | .value _ => true
  | .raised _ => true
  | _ => false

/-- the leftovers are exactly the recorded junk: every delayed call of the scenario either ran or is junk
(exactly one of the two, once); the timeout call ran, or was cancelled (a result was recorded), or is junk;
nothing else is junk; the selectables registered by executed actions are junk, in order -/
def cJunk (sc : Scen) (jb : List Junk) (o : RunObs) : Bool :=
  -- (the exact accounting is for the plain Spinner; with obligatory iterations leftovers run, and schedule, after the loop:
  -- then `clean` - nothing pending, no selectables - and the differential check speak)
  skipped sc jb || decide (sc.oblig > 0) ||
    ((delayedLabels sc).all (fun l => o.junk.count (.call (.user l)) + (evLabels o).count (.user l) == 1)
     && o.junk.count (.call .timeout) + (evLabels o).count .timeout + (if isOwnResult o.result then 1 else 0) == 1
     && o.junk.all (junkKnown sc)
     && o.junk.filterMap junkSel == o.events.filterMap (selEv sc))

/-- the run never lasts beyond the timeout -/
def cBounded (sc : Scen) (jb : List Junk) (o : RunObs) : Bool :=
  skipped sc jb || o.elapsed ≤ sc.timeout

/-! ## lifting to histories -/

def shape : List Step → List Obs → Bool
  | [], [] => true
  | .run _ :: ss, .run _ :: os => shape ss os
  | .clearJunk :: ss, .cleared _ :: os => shape ss os
  | .setSig _ _ :: ss, .sigs _ :: os => shape ss os
  | .swap :: ss, .swapped :: os => shape ss os
  | _, _ => false

/-- `p` holds of every run; the junk before a run is what the previous observation left -/
def forRuns (p : Scen → List Junk → RunObs → Bool) : List Step → List Obs → List Junk → List Junk → Bool
  | .run sc :: ss, .run o :: os, jb, jo => p sc jb o && forRuns p ss os o.junk jo
  | .clearJunk :: ss, .cleared _ :: os, _, jo => forRuns p ss os [] jo
  | .setSig _ _ :: ss, .sigs _ :: os, jb, jo => forRuns p ss os jb jo
  | .swap :: ss, .swapped :: os, jb, jo => forRuns p ss os jo jb
  | _, _, _, _ => true

/-- `clear_junk()` returns the junk and empties it -/
def clearOk : List Step → List Obs → List Junk → List Junk → Bool
  | .run _ :: ss, .run o :: os, _, jo => clearOk ss os o.junk jo
  | .clearJunk :: ss, .cleared j :: os, jb, jo => j == jb && clearOk ss os [] jo
  | .setSig _ _ :: ss, .sigs _ :: os, jb, jo => clearOk ss os jb jo
  | .swap :: ss, .swapped :: os, jb, jo => clearOk ss os jo jb
  | _, _, _, _ => true

/-- the handlers through the history: a call of `run` finds what the previous step left; between calls only the process
changes them (`cur`: the handlers now) -/
def sigThread : List Step → List Obs → List Nat → Bool
  | .run _ :: ss, .run o :: os, cur => o.sigBefore == cur && sigThread ss os o.sigAfter
  | .clearJunk :: ss, .cleared _ :: os, cur => sigThread ss os cur
  | .setSig s h :: ss, .sigs l :: os, cur => l == cur.set s h && sigThread ss os l
  | .swap :: ss, .swapped :: os, cur => sigThread ss os cur
  | _, _, _ => true

def lift (p : Scen → List Junk → RunObs → Bool) (i : Input) (t : Trace) : Bool := forRuns p i.steps t [] []

def clauses : List (String × (Input → Trace → Bool)) :=
  [("shape", fun i t => shape i.steps t),
   ("stale-junk", lift cStale),
   ("rejected", lift cRejected),
   ("reentry", lift cReentry),
   ("result", lift cResult),
   ("clean", lift cClean),
   ("signals", lift cSignals),
   ("handlers-thread", fun i t => sigThread i.steps t [0, 0, 0, 0]),
   ("junk", lift cJunk),
   ("bounded", lift cBounded),
   ("clear-junk", fun i t => clearOk i.steps t [] [])]

def holds (i : Input) (t : Trace) : Bool := clauses.all fun c => c.2 i t

end TTV.Spec.C15
