import TTV.Model.RunTest
/-! Spec-level vocabulary shared by C01, C02, C03, C05: what a program's stages do *statically* (which
exceptions a stage function hands to the runner, what it registers), and what can be read off an
observed trace.  Nothing here looks at how the model schedules things. -/
namespace TTV.Spec.Run
open TTV.Run

/-! ### static facts about a program -/
mutual
def stagesOf : Stage → List Stage
  | .mk i acts t => .mk i acts t :: stagesOfActs acts
def stagesOfActs : List Act → List Stage
  | [] => []
  | .cleanup s :: as => stagesOf s ++ stagesOfActs as
  | .useFixture _ _ s :: as => stagesOf s ++ stagesOfActs as
  | _ :: as => stagesOfActs as
end

def allStages (p : Program) : List Stage := stagesOf p.setUp ++ stagesOf p.body ++ stagesOf p.tearDown

def findStage (p : Program) (id : Nat) : Option Stage := (allStages p).find? (fun s => s.id == id)

/-- exceptions a stage function hands to `_got_user_exception` -/
def termExcs : Term → List Exc
  | .ret => []
  | .raise1 e => [e]
  | .raiseMulti es me => if es.isEmpty then [me] else es
  | .assertFail e _ => [e]
  | .expectFailure _ _ x => [x]
  | .fixtureFail _ e ces se => e :: ces ++ [se]

/-- the single exception object that propagates out of the stage function -/
def termObj : Term → Option Exc
  | .ret => none
  | .raise1 e => some e
  | .raiseMulti _ me => some me
  | .assertFail e _ => some e
  | .expectFailure _ _ x => some x
  | .fixtureFail _ _ _ se => some se

/-- the same, seen through `@expectedFailure` -/
def decoExcs (t : Term) : List Exc :=
  match termObj t with
  | none => [⟨.uxs, 0⟩]
  | some obj => if isSub obj.cls .exc then [⟨.xfail, 0⟩] else termExcs t

def stageExcs (p : Program) (st : Stage) : List Exc :=
  if p.xfailDeco && st.id == p.body.id then decoExcs st.term else termExcs st.term

def actIsExpect : Act → Bool
  | .expect _ _ => true
  | _ => false

/-- stage cleanups a stage registers, in registration order -/
def regsOf : List Act → List Nat
  | [] => []
  | .cleanup s :: as => s.id :: regsOf as
  | .useFixture _ _ s :: as => s.id :: regsOf as
  | _ :: as => regsOf as

def setUpOk (p : Program) : Bool := (termExcs p.setUp.term).isEmpty

def idsNodup : List Nat → Bool
  | [] => true
  | x :: xs => !xs.contains x && idsNodup xs

def namesNodup : List DName → Bool
  | [] => true
  | x :: xs => !xs.contains x && namesNodup xs

/-- every details dict handed over by a mismatch or a fixture: names are dict keys, hence distinct -/
def dictsOf (st : Stage) : List (List (DName × UC)) :=
  (st.acts.filterMap fun
    | .expect _ ds => some ds
    | .useFixture _ ds _ => some ds
    | _ => none) ++
  (match st.term with
   | .assertFail _ ds => [ds]
   | .fixtureFail ds _ _ _ => [ds]
   | _ => [])

/-- names under which a stage attaches details by plain `addDetail` -/
def plainNames : List Act → List DName
  | [] => []
  | .addDetail n _ :: as => n :: plainNames as
  | .cleanup _ :: as => plainNames as
  | .expect _ _ :: as => plainNames as
  | .patch _ _ :: as => plainNames as
  | .useFixture _ _ _ :: as => plainNames as

/-- the detail names user code of a stage supplies (plain, in mismatches, in fixtures) -/
def userNames (st : Stage) : List DName := plainNames st.acts ++ (dictsOf st).flatMap fun ds => ds.map (·.1)

/-- identities of the contents user code of a stage supplies to `addDetail` / mismatches / fixtures: `(0, id)` for a
content object, `(1, mid)` for the marker of the failed expectation `mid` -/
def dictKeys (ds : List (DName × UC)) : List (Nat × Nat) := ds.map fun x => (0, x.2.id)

def actKeys : List Act → List (Nat × Nat)
  | [] => []
  | .addDetail _ c :: as => (0, c.id) :: actKeys as
  | .expect mid ds :: as => dictKeys ds ++ [(1, mid)] ++ actKeys as
  | .useFixture _ ds _ :: as => dictKeys ds ++ actKeys as
  | .cleanup _ :: as => actKeys as
  | .patch _ _ :: as => actKeys as

def termKeys : Term → List (Nat × Nat)
  | .assertFail _ ds => dictKeys ds
  | .fixtureFail ds _ _ _ => dictKeys ds
  | .ret => []
  | .raise1 _ => []
  | .raiseMulti _ _ => []
  | .expectFailure _ _ _ => []

def stageKeys (st : Stage) : List (Nat × Nat) := actKeys st.acts ++ termKeys st.term

def pairsNodup : List (Nat × Nat) → Bool
  | [] => true
  | x :: xs => !xs.contains x && pairsNodup xs

/-- input well-formedness assumed by the clauses: distinct stage ids; user handlers only for classes
deriving from `Exception` (KeyboardInterrupt & co. are not claimed by configuration); the case's own skip
reporter (which reads the reason off the exception) is only reused for skip classes; the initial
attribute store of the scratch object is a dict (distinct attribute names); no user-supplied detail is named
`reason` (the framework's own skip / expected-failure reason is attached by a plain `addDetail('reason')`);
the content objects handed to `addDetail`, mismatches and fixtures are pairwise distinct objects, and so are the
failed expectations (contents are compared by identity) -/
def wf (p : Program) : Bool :=
  idsNodup ((allStages p).map Stage.id) && p.userHandlers.all (fun h => isSub h.1 .exc) &&
  p.userHandlers.all (fun h => h.2 != .std .skip || isSub h.1 .skip) &&
  (allStages p).all (fun st => (dictsOf st).all fun ds => namesNodup (ds.map (·.1))) &&
  idsNodup (p.attrs0.map (·.1)) &&
  (allStages p).all (fun st => (userNames st).all fun n => n != nmReason) &&
  pairsNodup ((allStages p).flatMap stageKeys)

/-! ### reading a trace -/
def stageIds (t : Trace) : List Nat := t.events.filterMap fun | .stage i => some i | _ => none

def isResultEv : Ev → Bool
  | .stage _ => false
  | .onExc _ _ => false
  | .startTestRun | .stopTestRun | .startTest | .stopTest | .outcome _ _ => true

def resultEvents (t : Trace) : List Ev := t.events.filter isResultEv

def evOutcome : Ev → Option (Outcome × Details)
  | .outcome o d => some (o, d)
  | .startTestRun | .stopTestRun | .startTest | .stopTest | .stage _ | .onExc _ _ => none

def outcomeOf (t : Trace) : Option (Outcome × Details) := t.events.findSome? evOutcome

def executed (p : Program) (t : Trace) : List Stage := (stageIds t).filterMap (findStage p)

/-- `force_failure` at the end of this run: left over, or some executed stage had a failing expectThat -/
def ffNow (p : Program) (ff0 : Bool) (t : Trace) : Bool :=
  ff0 || (executed p t).any (fun st => st.acts.any actIsExpect)

/-- every exception handed to the runner in this run, in order; the forced failure last (it is due whenever
`force_failure` is set at the end of the run - also when setUp gave up, whatever it gave up with) -/
def raisedAll (p : Program) (ff0 : Bool) (t : Trace) : List Exc :=
  (executed p t).flatMap (stageExcs p) ++ (if ffNow p ff0 t then [forcedFailure] else [])

/-- a per-run clause lifted to the list of traces of repeated runs (`force_failure` threads through) -/
def perRun (c : Program → Bool → Trace → Bool) (p : Program) : Bool → List Trace → Bool
  | _, [] => true
  | ff0, t :: ts => c p ff0 t && perRun c p t.ffAfter ts

def lift (c : Program → Bool → Trace → Bool) (i : Input) (ts : List Trace) : Bool :=
  !wf i.prog || (ts.length == i.runs && perRun c i.prog false ts)

end TTV.Spec.Run
