import TTV.Model.Stream
/-! Executable specification of C10 — *stream consumers account for every test exactly once* — over
observed traces.  It is written against the **lifetimes** reading of the property and does not mention
the in-progress table of the implementation:

* the events carrying a test id are split by key `(test id, route code)`; within a key a *lifetime* is a
  maximal run of events ended by an event with a final status (or by the end of the run: an *open* lifetime);
* `report` says declaratively what must be reported for a lifetime: last non-`None` status (else
  `unknown`), latest non-`None` tags, first and last timestamp, per file name the concatenation of its
  non-empty chunks in arrival order (content type of the first of them);
* closed lifetimes are reported when their final event arrives (so: in the order of those events), the
  open ones when the run stops (most recently begun first), with no second timestamp.

The tables `specBucket`/`specOutcome`/`finalStatus` are the property's reading of the status names; the
theorems prove that the tables extracted from the code (`TTV.Generated.Stream`) agree with them.

**Interpretations** (readings this specification takes *from the code*; an independent audit - audit/C10 - read the
prose the other way, the code is left as it is, so they are stated plainly here):
* *an attachment exists from its first non-empty chunk*: `_update_case` tests `if file_name is not None and file_bytes:`,
  so empty chunks are skipped altogether - an attachment all of whose chunks are empty (also a skip `reason` that is
  the empty string) is not reported at all, and its content type is the `mime_type` of the first NON-empty chunk (a
  type sent only with an empty first chunk is lost).  "each attachment's chunks concatenated" is read over the
  non-empty chunks.
* *a test reported "exactly once" is a lifetime*: repeated finals and events after a final open a new lifetime of the
  same key, which is reported again (the licence `StreamResult.status` documents).
* `StreamToExtendedDecorator` drops `exists` events BEFORE its table (the clauses for that consumer filter them out of the stream first): `inprogress` then
  `exists` leaves the test open and it is flushed as a failure at `stopTestRun`, while `StreamToDict` reports `exists`
  and `StreamSummary` ignores the test.  The extended API has no outcome for `exists`; the clause for that consumer is
  about the exists-free stream.
* `fail` lands in `StreamSummary.errors` (`failures` stays empty); timestamps are those of the first and the last
  *event* of the lifetime (`None` if that event carried none).
* calling convention: events are passed by keyword (`StreamToExtendedDecorator.status(test_id, test_status, *args)`
  rejects a third positional argument with TypeError; C11 covers the positional conventions of the decorators). -/
namespace TTV.Spec.C10
open TTV.Stream

/-! ### the property's own tables -/
/-- `None` and `inprogress` are the interim statuses; every other status ends a lifetime -/
def finalStatus : Option Status → Bool
  | none => false
  | some .inprogress => false
  | some _ => true

/-- the list of `StreamSummary` a reported status names (`fail` and the incomplete statuses: the error
lists, see `rErrors`) -/
def specBucket : Status → Bucket
  | .success | .exist => .none
  | .skip => .skipped
  | .xfail => .expectedFailures
  | .uxsuccess => .unexpectedSuccesses
  | .fail | .inprogress | .unknown => .errors

/-- the extended-API outcome a reported status is replayed as (incomplete tests are failures) -/
def specOutcome : Status → Option Outcome
  | .success => some .success
  | .skip => some .skip
  | .xfail => some .xfail
  | .uxsuccess => some .uxsuccess
  | .fail | .inprogress | .unknown => some .failure
  | .exist => none

def failedOrIncomplete (s : Status) : Bool := s == .fail || s == .inprogress || s == .unknown

/-! ### lifetimes -/
def evFinal (e : Event) : Bool := finalStatus e.status

/-- the events of key `k` -/
def proj (k : Key) (es : List Event) : List Event := es.filter fun e => key e == some k

/-- the events after the last final one (`acc` = those seen since) -/
def openTail : List Event → List Event → List Event
  | acc, [] => acc
  | acc, e :: es => if evFinal e then openTail [] es else openTail (acc ++ [e]) es

/-- the open lifetime of key `k` after the events `es` -/
def cur (k : Key) (es : List Event) : List Event := openTail [] (proj k es)

/-! ### what is reported for a lifetime -/
def lastSome {α : Type} (xs : List (Option α)) : Option α := (xs.filterMap id).getLast?

/-- the non-empty chunk an event carries: (file name, mime type, bytes) -/
def chunk (e : Event) : Option (Nat × Option Nat × Bytes) :=
  match e.fileName, e.fileBytes with
  | some n, some (b :: bs) => some (n, e.mime, b :: bs)
  | _, _ => none

/-- names in order of first occurrence -/
def firsts (xs : List Nat) : List Nat := xs.foldl (fun acc x => if x ∈ acc then acc else acc ++ [x]) []

def detailOf (cs : List (Nat × Option Nat × Bytes)) (n : Nat) : Detail :=
  let mine := cs.filter fun c => c.1 == n
  { name := n, mime := (mine.head?.bind (·.2.1)).getD 0, bytes := (mine.map (·.2.2)).flatten }

def report (id : Nat) (l : List Event) (closed : Bool) : Report :=
  let cs := l.filterMap chunk
  { id := id
    tags := (lastSome (l.map (·.tags))).getD []
    details := (firsts (cs.map (·.1))).map (detailOf cs)
    status := (lastSome (l.map (·.status))).getD .unknown
    ts0 := l.head?.bind (·.timestamp)
    ts1 := if closed then l.getLast?.bind (·.timestamp) else none }

/-! ### which lifetimes are reported, and in which order -/
/-- a final event closes the lifetime made of the open events of its key before it and itself -/
def closedReports (pre : List Event) : List Event → List Report
  | [] => []
  | e :: post =>
    (match key e with
     | some k => if evFinal e then [report k.1 (cur k pre ++ [e]) true] else []
     | none => []) ++ closedReports (pre ++ [e]) post

/-- an event begins a lifetime that is still open at the end: it is not final, its key has no open
lifetime before it and no final event after it; listed in the order in which they begin -/
def openReports (pre : List Event) : List Event → List Report
  | [] => []
  | e :: post =>
    (match key e with
     | some k =>
        if !evFinal e && (cur k pre).isEmpty && !(proj k post).any evFinal
        then [report k.1 (e :: proj k post) false] else []
     | none => []) ++ openReports (pre ++ [e]) post

/-- everything reported for one run `startTestRun; status*; stopTestRun` -/
def reports (es : List Event) : List Report := closedReports [] es ++ (openReports [] es).reverse

/-! ### reading an extended-API call log back (TestResult semantics of `tags` and `time`) -/
structure Seen where
  id : Nat
  outcome : Outcome
  tags : List Nat            -- tags in force at the outcome
  details : List Detail
  tStart : Option Ts         -- time in force at startTest
  tEnd : Option Ts           -- time in force at the outcome
deriving DecidableEq, Repr

structure ISt where
  gtags : List Nat := []                 -- run-level tags
  time : Option Ts := none
  test : Option (Nat × List Nat × Option Ts) := none          -- current test: id, its tags, time at startTest
  got : Option (Outcome × List Nat × List Detail × Option Ts) := none

def applyTags (cur new gone : List Nat) : List Nat := (cur ++ new).filter fun x => !gone.contains x

/-- `none` = the log is not a sequence of well-formed `startTest · outcome · stopTest` brackets -/
def interp : ISt → List ExtEv → Option (List Seen)
  | s, [] => if s.test.isNone then some [] else none
  | s, .time t :: es => interp { s with time := some t } es
  | s, .tags n g :: es =>
    match s.test with
    | none => interp { s with gtags := applyTags s.gtags n g } es
    | some (id, tg, t0) => interp { s with test := some (id, applyTags tg n g, t0) } es
  | s, .startTest id :: es =>
    match s.test with
    | none => interp { s with test := some (id, s.gtags, s.time), got := none } es
    | some _ => none
  | s, .outcome o id ds :: es =>
    match s.test, s.got with
    | some (id', tg, _), none => if id' = id then interp { s with got := some (o, tg, ds, s.time) } es else none
    | _, _ => none
  | s, .stopTest id :: es =>
    match s.test, s.got with
    | some (id', _, t0), some (o, tg, ds, t1) =>
      if id' = id then
        (interp { s with test := none, got := none } es).map
          ({ id := id, outcome := o, tags := tg, details := ds, tStart := t0, tEnd := t1 } :: ·)
      else none
    | _, _ => none
  | _, .startTestRun :: _ => none
  | _, .stopTestRun :: _ => none

def sameSet (a b : List Nat) : Bool := a.all (b.contains ·) && b.all (a.contains ·)

/-- a supplied timestamp must be the time in force; an absent one demands nothing -/
def timeOk : Option Ts → Option Ts → Bool
  | none, _ => true
  | some t, s => s == some t

def replays (r : Report) (s : Seen) : Bool :=
  s.id == r.id && some s.outcome == specOutcome r.status && sameSet s.tags r.tags && s.details == r.details
    && timeOk r.ts0 s.tStart && timeOk r.ts1 s.tEnd

def all2 {α β : Type} (p : α → β → Bool) : List α → List β → Bool
  | [], [] => true
  | a :: as, b :: bs => p a b && all2 p as bs
  | _, _ => false

def body : List ExtEv → Option (List ExtEv)
  | .startTestRun :: rest =>
    match rest.reverse with
    | .stopTestRun :: mid => some mid.reverse
    | _ => none
  | _ => none

def ascending (xs : List Nat) : List Nat := xs.mergeSort (fun a b => a ≤ b)

def idsWith (rs : List Report) (b : Bucket) : List Nat := (rs.filter fun r => specBucket r.status == b).map (·.id)

/-! ### clauses (per run) -/
/-- the ids for which the extended result saw a `startTest` -/
def startIds : List ExtEv → List Nat
  | [] => []
  | .startTest id :: es => id :: startIds es
  | _ :: es => startIds es

/-- every lifetime is handed to the consumer exactly once — when its final status arrives, or as incomplete when the
run stops — **whether or not the consumer raises at a hand-over** (the fault plan does not occur on the right) -/
def rDict (r : Run) (t : RunTrace) : Bool := t.dict == reports r.events
def rTestsRun (r : Run) (t : RunTrace) : Bool :=
  t.summary.testsRun == ((reports r.events).filter fun x => x.status != .exist).length
/-- skip / xfail / uxsuccess land in the list their status names, in report order -/
def rBuckets (r : Run) (t : RunTrace) : Bool :=
  t.summary.skipped == idsWith (reports r.events) .skipped
    && t.summary.expectedFailures == idsWith (reports r.events) .expectedFailures
    && t.summary.unexpectedSuccesses == idsWith (reports r.events) .unexpectedSuccesses
/-- failed and incomplete tests land in exactly one of the two error lists (`fail` covers error and
failure; testtools uses `errors`), nothing else does -/
def rErrors (r : Run) (t : RunTrace) : Bool :=
  ascending (t.summary.errors ++ t.summary.failures) == ascending (idsWith (reports r.events) .errors)
def rVerdict (r : Run) (t : RunTrace) : Bool :=
  !((reports r.events).any fun x => failedOrIncomplete x.status) || !t.summary.wasSuccessful
/-- the extended result is started exactly once for each report of the stream without its `exists` events, in
order, whether or not it raises at an outcome; and when it never raises it sees one well-formed bracket per report:
same id, the status's outcome, the report's tags, the supplied times, the same details -/
def rExtended (r : Run) (t : RunTrace) : Bool :=
  let rs := reports (r.events.filter fun e => e.status != some .exist)
  startIds t.ext == rs.map (·.id) &&
  (r.faults.any (· < rs.length) ||
    match body t.ext with
    | none => false
    | some mid =>
      match interp {} mid with
      | none => false
      | some seen => all2 replays rs seen)

/-- a real `testtools.TestResult` behind `StreamToExtendedDecorator` is started exactly once per report, in order —
also when one of its outcome methods raises (e.g. `addSkip` for a reason attachment that is not text) -/
def rReal (r : Run) (t : RunTrace) : Bool :=
  t.realStarted == (reports (r.events.filter fun e => e.status != some .exist)).map (·.id)

def perRun (c : Run → RunTrace → Bool) (i : Input) (t : Trace) : Bool :=
  t.length == i.runs.length && (i.runs.zip t).all fun p => c p.1 p.2

def clauses : List (String × (Input → Trace → Bool)) :=
  [("reports", perRun rDict), ("tests-run", perRun rTestsRun), ("buckets", perRun rBuckets),
   ("error-lists", perRun rErrors), ("verdict", perRun rVerdict), ("to-extended", perRun rExtended),
   ("real-result", perRun rReal)]

def holds (i : Input) (t : Trace) : Bool := clauses.all fun c => c.2 i t

end TTV.Spec.C10
