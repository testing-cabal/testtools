import TTV.Spec.RunCommon
/-! C05 — all details and every traceback reach the result; none is dropped or overwritten; bytes are
those read at reporting time (gathered details: at gathering time); onException handlers are called once
per exception, before the outcome.  Judged on flavours that receive the details dict (extended,
testtools.TestResult, result=None); the skip reason also on 2.7-style/Twisted-style results. -/
namespace TTV.Spec.C05
open TTV.Run TTV.Spec.Run

def detailsOf (t : Trace) : Details := ((outcomeOf t).map (·.2)).getD []

def finalClock (t : Trace) : Nat := (stageIds t).length

def evalAt (v : Nat) (c : UC) : Content := if c.lazy then .frozen c.id v else .user c

/-- executed stages with the logical time at which each started (1-based) -/
def timed (p : Program) (t : Trace) : List (Nat × Stage) :=
  ((stageIds t).zipIdx 1).filterMap fun (id, k) => (findStage p id).map fun st => (k, st)

/-- plain `addDetail` calls executed, in order -/
def plainAdds (p : Program) (t : Trace) : List (DName × UC) :=
  (timed p t).flatMap fun (_, st) => st.acts.filterMap fun | .addDetail n c => some (n, c) | _ => none

/-- every user detail attached under a distinct name arrives under that name (for a name used twice,
the later value) -/
def cUserDetails (p : Program) (_ff0 : Bool) (t : Trace) : Bool :=
  !showsDetails p.flavour || p.skipDeco.isSome ||
    let adds := plainAdds p t
    let D := detailsOf t
    (adds.zipIdx).all fun ((n, c), i) =>
      -- last add for this name?
      ((adds.drop (i + 1)).any (fun x => x.1 == n)) ||
        (D.find? (fun x => x.1 == n)).map (·.2) == some (evalAt (finalClock t) c)

/-- details that must arrive under their name or a `-k` renaming of it: mismatch details, the failed
expectation marker, fixture details (also of a fixture whose setUp failed) — each with the bytes due -/
def uniqueAdds (p : Program) (t : Trace) : List (DName × Content) :=
  let ids := stageIds t
  let fin := finalClock t
  (timed p t).flatMap fun (k, st) =>
    (st.acts.flatMap fun
      | .expect mid ds => ds.map (fun (n, c) => (n, evalAt fin c)) ++ [(nmExpectation, .expectation mid)]
      | .useFixture _ ds cu => ds.map (fun (n, c) => (n, evalAt (ids.idxOf cu.id) c))
      | _ => []) ++
    (match st.term with
      | .assertFail _ ds => ds.map (fun (n, c) => (n, evalAt fin c))
      | .fixtureFail ds _ _ _ => ds.map (fun (n, c) => (n, evalAt k c))
      | _ => [])

def isRenaming (n m : DName) : Bool :=
  m == n || (m.base == n.base && m.sufs.dropLast == n.sufs && m.sufs.length == n.sufs.length + 1)

def cUniqueDetails (p : Program) (_ff0 : Bool) (t : Trace) : Bool :=
  !showsDetails p.flavour || p.skipDeco.isSome ||
    let D := detailsOf t
    (uniqueAdds p t).all fun (n, c) =>
      (D.filter fun x => x.2 == c).length == 1 && D.any fun x => x.2 == c && isRenaming n x.1

/-- exceptions denoting a failure or an error by the documented mapping (anything that is not a skip, an
expected failure or an unexpected success): their traceback MUST be among the details -/
def needsTb (c : Cls) : Bool := !(isSub c .skip || isSub c .xfail || isSub c .uxs)

/-- other exceptions whose traceback MAY be present: every exception handed to the runner, the assertion
behind an expected failure, the object caught by the expectedFailure decorator -/
def relatedTbs (p : Program) (ff0 : Bool) (t : Trace) : List Exc :=
  raisedAll p ff0 t ++
  ((executed p t).flatMap fun st =>
    (match st.term with
     | .expectFailure _ (some e) _ => [e]
     | _ => []) ++
    (if p.xfailDeco && st.id == p.body.id then
       (match termObj st.term with
        | some obj => if isSub obj.cls .exc then [obj] else []
        | none => [])
     else []))

/-- tracebacks that must be present: of every raised failure / error (constituents of MultipleExceptions
counted separately, forced failure included), of the assertion behind an expected failure, and of the
failure caught by the expectedFailure decorator -/
def requiredTbs (p : Program) (ff0 : Bool) (t : Trace) : List Exc :=
  ((raisedAll p ff0 t).filter fun e => needsTb e.cls) ++
  ((executed p t).flatMap fun st =>
    (match st.term with
     | .expectFailure _ (some e) _ => [e]
     | _ => []) ++
    (if p.xfailDeco && st.id == p.body.id then
       (match termObj st.term with
        | some obj => if isSub obj.cls .exc then [obj] else []
        | none => [])
     else []))

def tbsIn (D : Details) : List Exc := D.filterMap fun | (_, .tb e) => some e | _ => none

/-- `xs` is a sub-multiset of `ys` -/
def subMulti : List Exc → List Exc → Bool
  | [], _ => true
  | x :: xs, ys => ys.contains x && subMulti xs (ys.erase x)

/-- one traceback per failure / error raised by user code, none invented, none twice -/
def cTracebacks (p : Program) (ff0 : Bool) (t : Trace) : Bool :=
  !showsDetails p.flavour || p.skipDeco.isSome ||
    (subMulti (requiredTbs p ff0 t) (tbsIn (detailsOf t)) && subMulti (tbsIn (detailsOf t)) (relatedTbs p ff0 t))

def cNamesDistinct (_p : Program) (_ff0 : Bool) (t : Trace) : Bool :=
  idsNodupN ((detailsOf t).map (·.1))
where idsNodupN : List DName → Bool
  | [] => true
  | x :: xs => !xs.contains x && idsNodupN xs

/-- a reported skip carries its reason -/
def cReason (p : Program) (ff0 : Bool) (t : Trace) : Bool :=
  p.flavour == .py26 || p.flavour == .stream ||
  p.userHandlers.any (fun h => match h.2 with | .user _ .skip => true | _ => false) ||   -- skips reported by user code are the user's
    match outcomeOf t with
    | some (.skip, D) =>
      (match p.skipDeco with
       | some r => (D.find? (fun x => x.1 == nmReason)).map (·.2) == some (.reason r)
       | none =>
         -- reported by the case's own skip reporter: the reason of one of the skips raised
         let rs := ((raisedAll p ff0 t).filter fun e => handlerFor (handlers p) e == some (.std .skip)).map (·.tag)
         rs.isEmpty || (match ((D.find? (fun x => x.1 == nmReason)).map (·.2) : Option Content) with
           | some (Content.reason r) => rs.contains r
           | _ => false))
    | _ => true

def onExcOf (t : Trace) : List (Nat × Exc) := t.events.filterMap fun | .onExc h e => some (h, e) | _ => none

/-- each handler once per exception, in registration order, all before the outcome -/
def cOnException (p : Program) (ff0 : Bool) (t : Trace) : Bool :=
  p.skipDeco.isSome ||
    (onExcOf t == (raisedAll p ff0 t).flatMap (fun e => (List.range p.nOnExc).map fun h => (h, e)) &&
     ((t.events.dropWhile fun | .outcome _ _ => false | _ => true).all fun | .onExc _ _ => false | _ => true))

def clauses : List (String × (Input → List Trace → Bool)) :=
  [("user-details", lift cUserDetails), ("mismatch-fixture-details", lift cUniqueDetails),
   ("tracebacks", lift cTracebacks), ("names-distinct", lift cNamesDistinct), ("skip-reason", lift cReason),
   ("on-exception-handlers", lift cOnException)]

def holds (i : Input) (ts : List Trace) : Bool := clauses.all fun c => c.2 i ts

/-- known finding D3 (`lateCollision`): in some run a plain `addDetail(n)` replaced an entry that no plain `addDetail` had
set: a traceback, or a detail stored by `addDetailUniqueName` / `gather_details`, under a renamed name or under its own -/
def clobberedRuns (p : Program) : Nat → Bool → Bool
  | 0, _ => false
  | n + 1, ff0 =>
    (p.skipDeco.isNone && (runCore p ff0).1.clobbered) || clobberedRuns p n (runOnce p ff0).ffAfter

def lateCollision (i : Input) : Bool := clobberedRuns i.prog i.runs false

end TTV.Spec.C05
