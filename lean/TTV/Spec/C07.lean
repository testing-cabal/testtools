import TTV.Model.Matchers
import TTV.Model.Describe
/-! Executable specification of C07 over observed traces (four kinds of input, see `Describe.Input`). -/
namespace TTV.Spec.C07
open TTV.Matchers hiding Input Trace model
open TTV.Describe

def isRaised : Verdict → Bool
  | .raised _ => true
  | _ => false

/-- the expression without the `Annotate` wrappers at its root -/
def stripAnnot : M → M
  | .annotate m => stripAnnot m
  | m => m

/-- a `MatchesPredicate` with a well-formed message (one conversion) whose predicate is false of `v`
(and `str(v)`, which `'%s' % (v,)` calls, works: it does for every value but the instances of the harness's
`StrRaisesError`) -/
def predicateSaysNo (m : M) (v : V) : Bool :=
  match stripAnnot m with
  | .leaf (.predicate _ .one dom res) => lookupTbl v dom res == .mismatch && !strRaises v
  | _ => false

/-! clauses for `describe` inputs -/
def cStrTotal : Input → Trace → Bool
  | .describe .., .describe str _ _ _ _ => str.isNone
  | .describe .., _ => false
  | .ctor .., .ctor str _ _ _ => str.isNone
  | .ctor .., _ => false
  | _, _ => true
def cDescribeTotal : Input → Trace → Bool
  | .describe .., .describe _ matched d details _ => matched != .mismatch || (d.isNone && details.isNone)
  | .describe .., _ => false
  | .ctor .., .ctor _ d details _ => d.isNone && details.isNone
  | .ctor .., _ => false
  | _, _ => true
def cErrorStrTotal : Input → Trace → Bool
  | .describe .., .describe _ matched _ _ e => matched != .mismatch || e.isNone
  | .describe .., _ => false
  | .ctor .., .ctor _ _ _ e => e.isNone
  | .ctor .., _ => false
  | _, _ => true
/-- when the documented verdict is "mismatch", `match()` returns a Mismatch (it does not raise while
building one) -/
def cMismatchBuilt : Input → Trace → Bool
  | .describe m v annotated _, .describe _ matched _ _ _ =>
    if predicateSaysNo (withMessage annotated m) v then matched == .mismatch else true
  | .describe .., _ => false
  | _, _ => true

/-- the text is a real str / bytes: code points below 0x110000 / bytes below 256 -/
def validText (isBytes : Bool) (s : List Nat) : Bool :=
  s.all fun c => if isBytes then decide (c < 256) else decide (c < 1114112)

/-! clause for `text_repr` inputs -/
def cTextReprRoundTrip : Input → Trace → Bool
  | .textRepr b _ _ s, .textRepr _ back _ _ => !validText b s || back == some s
  | .textRepr .., _ => false
  | _, _ => true

/-! clauses for assertThat / assert_that / expectThat -/
def cRaisesIff : Input → Trace → Bool
  | .assert a, .assert o =>
    (match a.api with
     | .expectThat => !o.raised && o.continued
     | _ => o.raised == a.mismatch.isSome && o.continued == a.mismatch.isNone)
  | .assert _, _ => false
  | _, _ => true
def allRet (a : AssertIn) : Bool := a.after == .ret && a.tearDown == .ret && a.cleanups.all (· == .ret)
/-- the run is reported as a problem: addFailure, or addError (an error that has to propagate, e.g. a
KeyboardInterrupt, outranks every other exception of the run) -/
def failureClass (o : Outcome) : Bool := o == .failure || o == .error

/-- a mismatch recorded by `expectThat` makes the test fail once it has finished — in whatever stage the
expectation was recorded (`setUp` included, before or after its upcall to the base `setUp`: `AssertIn.place`) and whatever else the test goes on to do (return,
skip, expected failure, unexpected success, failure, error, interrupt; in the rest of that stage, `tearDown` or a
cleanup): never success / skip / expected failure / unexpected success.  In particular an expectation that failed
in `setUp` is not forgotten when `setUp` then gives up with a skip or an expected failure (the test method and
`tearDown` do not run then, the cleanups do, and the run is still reported as a failure).  (What a later stage does
to the `MismatchError` that `assertThat` raised is the subject of C03; here only: if nothing else happens the run
is a failure.)

The instance carries no `force_failure` from an earlier run: `force_failure` survives `TestCase._reset()`, so a
second run of the same instance fails again (M-Run models that flag as `ff0`; C03 judges those runs). -/
def cFailsAfterwards : Input → Trace → Bool
  | .assert a, .assert o =>
    (if a.mismatch.isSome then
       (match a.api with
        | .expectThat => failureClass o.outcome
        | _ => !allRet a || o.outcome == .failure)
     else (!allRet a || o.outcome == .success)) &&
    (match a.api with
     | .expectThat => o.forceFailure == a.mismatch.isSome
     | _ => true)
  | .assert _, _ => false
  | _, _ => true

/-- every name of `added` is different from all names before it -/
def freshAll : List Name → List Name → Bool
  | _, [] => true
  | before, n :: ns => !before.contains n && freshAll (before ++ [n]) ns

def cNonClobbering : Input → Trace → Bool
  | .assert a, .assert o =>
    let expected : List Nat := match a.mismatch, a.api with
      | none, _ => []
      | some _, .assert_that => []
      | some ds, .assertThat => ds
      | some ds, .expectThat => ds ++ [0]
    let added := o.names.drop a.existing.length
    o.names.take a.existing.length == a.existing && added.map (·.base) == expected && freshAll a.existing added
  | .assert _, _ => false
  | _, _ => true

def clauses : List (String × (Input → Trace → Bool)) :=
  [("str-total", cStrTotal), ("describe-total", cDescribeTotal), ("error-str-total", cErrorStrTotal),
   ("mismatch-built", cMismatchBuilt), ("text-repr-roundtrip", cTextReprRoundTrip),
   ("raises-iff", cRaisesIff), ("fails-afterwards", cFailsAfterwards), ("details-non-clobbering", cNonClobbering)]

def holds (i : Input) (t : Trace) : Bool := clauses.all fun c => c.2 i t

end TTV.Spec.C07
