import TTV.Lemmas.RunTrace
import TTV.Generated.RunSkel
import TTV.Spec.C02
import TTV.Lemmas.RunRestore
import TTV.Lemmas.RunRerun
/-! # C02 — stages in order; every cleanup exactly once, LIFO; nothing left registered; patches undone;
re-running the instance repeats the same sequence and outcome

Same quantifier as C01 (`Props/C01.lean`): every program (any nesting of cleanups / fixtures / patches, any
exception kinds in any stages, decorators, handler tables, flavours), every left-over `force_failure`, any
number of repeated runs.  Hypothesis `wf p` (`Spec/RunCommon.lean`): distinct stage ids, user handlers only for
`Exception` subclasses, the initial attribute store is a dict (distinct attribute names) — its further
conjuncts (about detail names and content identities) concern C05 only. -/
namespace TTV.Props.C02
open TTV.Run TTV.Spec.Run TTV.Spec.C02

/-- C02 (nothing left): no cleanup is left registered after the run. -/
theorem C02_empty (p : Program) (ff0 : Bool) (hwf : wf p = true) : (runOnce p ff0).stackAfter = 0 := by
  cases hskip : p.skipDeco with
  | some r => rw [runOnce_skip p ff0 r hskip]
  | none =>
    obtain ⟨o, r, sel, v⟩ := runOnce_view p ff0 hwf hskip
    -- the 0 is written into `traceOf`: `runOnce_shape` has it from `runCore_stack`
    rw [v.shape]

/-- C02 (patches restored): after the run the attributes are those before the run (existing attributes
have their old values, attributes that did not exist are gone), however many times an attribute was patched
and wherever (setUp, test method, tearDown, cleanups). -/
theorem C02_patch_restored (p : Program) (ff0 : Bool) (hwf : wf p = true) :
    (runOnce p ff0).attrsAfter = sortAttrs p.attrs0 := by
  cases hskip : p.skipDeco with
  | some r => rw [runOnce_skip p ff0 r hskip]
  | none =>
    obtain ⟨o, r, sel, v⟩ := runOnce_view p ff0 hwf hskip
    have h2 := runCore_undoInv p ff0 hwf
    rw [v.shape]
    -- with the stack empty, nothing is left to undo: the store is, as a finite map, the one before the run
    refine sortAttrs_eq_of_aget_eq _ _ h2.keys (wf_attrs p hwf) fun k => ?_
    have := h2.undo k
    rwa [runCore_stack] at this

/-- C02 (order): the stages of a run are setUp; then the test method and tearDown iff setUp completed
(returned without raising); then only cleanups (stages registered by `addCleanup` / `useFixture` at any
depth) — whatever any stage raises. -/
theorem C02_order (p : Program) (ff0 : Bool) (hwf : wf p = true) (hskip : p.skipDeco = none) :
    ∃ cleanups : List Stage, (∀ c ∈ cleanups, c ∈ nested p) ∧
      stageIds (runOnce p ff0) =
        (if setUpOk p then [p.setUp.id, p.body.id, p.tearDown.id] else [p.setUp.id]) ++ cleanups.map Stage.id := by
  refine ⟨_, cleanupOrder_nested p, ?_⟩
  rw [runOnce_stageIds p ff0 hwf hskip, runOrder, mainStages]
  split <;> simp

/-- C02 (order, corollary): the test method runs iff setUp completed, and then exactly once; likewise
tearDown. -/
theorem C02_order_iff (p : Program) (ff0 : Bool) (hwf : wf p = true) (hskip : p.skipDeco = none) :
    (stageIds (runOnce p ff0)).count p.body.id = (if setUpOk p then 1 else 0) ∧
    (stageIds (runOnce p ff0)).count p.tearDown.id = (if setUpOk p then 1 else 0) := by
  obtain ⟨l, hn, hids⟩ := C02_order p ff0 hwf hskip
  obtain ⟨hsb, hst, hbt⟩ := root_ids p hwf
  have hroot : ∀ r : Stage, isRoot p r → (l.map Stage.id).count r.id = 0 := by
    intro r hr
    rw [List.count_eq_zero]
    intro hm
    obtain ⟨c, hc, he⟩ := List.mem_map.mp hm
    exact nested_id_ne_root p hwf c (hn c hc) r hr he
  have hb := hroot p.body .body
  have ht := hroot p.tearDown .tearDown
  rw [hids]
  cases setUpOk p
  · simp [hb, ht, hsb, hst]
  · simp [hb, ht, hsb, hst, hbt, Ne.symm hbt]

/-- C02 (every cleanup exactly once): the cleanups executed in a run (ghost record `ran`: stages, fixture
detail gathering, attribute restores) are, as a multiset, exactly the cleanups registered at any time during
the run (ghost record `regd`: in setUp, the test method, tearDown, inside cleanups, by `patch`, by
`useFixture`) — whatever was raised. -/
theorem C02_cleanups_once (p : Program) (ff0 : Bool) (hwf : wf p = true) (hskip : p.skipDeco = none) :
    (runCore p ff0).1.ran.Perm (runCore p ff0).1.regd := by
  have h2 := (runCore_undoInv p ff0 hwf).once
  rw [runCore_stack] at h2
  simpa [pendingRan] using h2

/-- C02 (LIFO): the sequence of executed stages is accepted by the spec's stack machine — each executed
cleanup is, at that moment, the most recently registered pending one, and none is pending at the end.  (`Spec/C02` takes
this clause from `Spec/C01`: the statement is that of `C01_all_stages_run`.) -/
theorem C02_lifo (p : Program) (ff0 : Bool) (hwf : wf p = true) :
    Spec.C01.cStages p ff0 (runOnce p ff0) = true := C01.clause_stages p ff0 hwf

/-- C02 (at most once, on the trace): no stage — setUp, test method, tearDown, any cleanup at any depth — occurs
twice in the stage sequence of a run (with `C02_lifo`: every registered cleanup stage runs exactly once). -/
theorem C02_each_stage_once (p : Program) (ff0 : Bool) (hwf : wf p = true) : (stageIds (runOnce p ff0)).Nodup := by
  cases hskip : p.skipDeco with
  | some r =>
    rw [stageIds_of_events (congrArg Trace.events (runOnce_skip p ff0 r hskip))]
    exact List.nodup_nil
  | none =>
    rw [runOnce_stageIds p ff0 hwf hskip]
    exact runOrder_nodup p hwf

/-- some executed stage has a mismatching `expectThat`: read off the program, since the stages a run executes are `runOrder p`
whatever is raised (`runCore_execd_eq`) -/
def expects (p : Program) : Bool := (runOrder p).any hasExpect

theorem runCore_ff (p : Program) (ff0 : Bool) (hwf : wf p = true) (hskip : p.skipDeco = none) :
    (runCore p ff0).1.ff = (ff0 || expects p) := by
  rw [(runCore_facts p ff0 hwf hskip).ff, runCore_execd_eq]; rfl

/-- `force_failure` is read only through `ff0 || expects p` -/
theorem runOnce_congr (p : Program) (a b : Bool) (hwf : wf p = true) (hskip : p.skipDeco = none)
    (h : (a || expects p) = (b || expects p)) : runOnce p a = runOnce p b := by
  have : runCore p a = runCore p b :=
    runCore_agree p a b (by rw [runCore_ff p a hwf hskip, runCore_ff p b hwf hskip, h])
  unfold runOnce
  simp only [hskip, this]

theorem runOnce_ffAfter (p : Program) (ff0 : Bool) (hwf : wf p = true) (hskip : p.skipDeco = none) :
    (runOnce p ff0).ffAfter = (ff0 || expects p) := by
  obtain ⟨o, r, sel, v⟩ := runOnce_view p ff0 hwf hskip
  rw [v.shape]; exact runCore_ff p ff0 hwf hskip

/-- a run started with the flag its predecessor left is that predecessor again, flag included -/
theorem runOnce_ffAfter_idem (p : Program) (hwf : wf p = true) (ff0 : Bool) :
    runOnce p (runOnce p ff0).ffAfter = runOnce p ff0 := by
  cases hskip : p.skipDeco with
  | some r => rw [runOnce_skip p ff0 r hskip, runOnce_skip p ff0 r hskip]
  | none =>
    rw [runOnce_ffAfter p ff0 hwf hskip]
    exact runOnce_congr p _ _ hwf hskip (by cases ff0 <;> simp)

/-- `n` runs are `n` copies of the first, whatever flag it starts with, skipped by decorator or not -/
theorem runMany_eq_replicate (p : Program) (hwf : wf p = true) :
    ∀ (n : Nat) (ff0 : Bool), runMany p n ff0 = List.replicate n (runOnce p ff0)
  | 0, _ => rfl
  | n + 1, ff0 => by
    simp only [runMany, List.replicate_succ]
    rw [runMany_eq_replicate p hwf n, runOnce_ffAfter_idem p hwf ff0]

/-- C02 (re-run): every further run of the same instance produces the same events (stages, handler calls,
result calls with their details) and propagates the same exception as the first — including the effect of
`force_failure`, which `_reset` does not clear. -/
theorem C02_rerun (p : Program) (hwf : wf p = true) (n : Nat) :
    ∀ t ∈ runMany p n false, t.events = (runOnce p false).events ∧ t.raised = (runOnce p false).raised := by
  intro t ht
  rw [runMany_eq_replicate p hwf] at ht
  obtain rfl := (List.mem_replicate.mp ht).2
  exact ⟨rfl, rfl⟩

theorem clause_rerun (i : Input) : cRerun i (model i) = true := by
  unfold cRerun model
  cases hwf : wf i.prog with
  | false => rfl
  | true =>
    cases i.runs with
    | zero => rfl
    | succ n => simp [runMany, runMany_eq_replicate _ hwf, runOnce_ffAfter_idem _ hwf, sameRun]

theorem holds_model (i : Input) : holds i (model i) = true := by
  simp only [holds, clauses, List.all_cons, List.all_nil, Bool.and_true, Bool.and_eq_true]
  exact ⟨lift_model _ i (fun hwf ff0 => C01.clause_stages _ ff0 hwf),
    lift_model _ i (fun hwf ff0 => by simp [cEmpty, C02_empty _ ff0 hwf]),
    lift_model _ i (fun hwf ff0 => by simp [cAttrs, C02_patch_restored _ ff0 hwf]), clause_rerun i⟩

/-! ## non-vacuity: patches of an existing and of an absent attribute, a cleanup registering a cleanup, a
fixture, a mismatching `expectThat` (sets `force_failure`), a failing tearDown -/
def demo : Program :=
  { skipDeco := none, xfailDeco := false
    setUp := .mk 1 [.patch 0 5, .cleanup (.mk 4 [.patch 1 6, .cleanup (.mk 5 [] (.raise1 ⟨.exc, 7⟩))] .ret)] .ret
    body := .mk 2 [.useFixture 0 [] (.mk 6 [] .ret), .expect 0 [], .patch 0 8] (.raise1 ⟨.failure, 1⟩)
    tearDown := .mk 3 [] (.raise1 ⟨.ki, 2⟩)
    userHandlers := [], nOnExc := 1, attrs0 := [(0, 10)], flavour := .ext }

example : wf demo = true ∧ demo.skipDeco = none ∧ setUpOk demo = true := by decide

/-! ### tie to the source: the loop of `RunTest._run_cleanups`
`TTV.Generated.RunSkel.cleanupsShape` is produced by `harness/pyskel.py` from `testtools/runtest.py` on every run. -/
/-- the loop found in the source is the one `runCleanups` models: pop the live stack until it is empty, each cleanup
through `_run_user`, failure sticky (shape recognition: any other loop is reported as `other`) -/
theorem C02_src_run_cleanups : Generated.RunSkel.cleanupsShape = RunSkel.CleanupsShape.liveStackLifo := by decide

end TTV.Props.C02
