import TTV.Model.Result
import TTV.Generated.C17
import TTV.Model.ResC17
import TTV.Spec.C17
import TTV.Lemmas.ResEmit
import TTV.Lemmas.TagViews
import TTV.Lemmas.FoldView
/-! # C17 — tags are scoped: test-local changes never leak, run-level changes persist

Theorems over the tree model M-Res (`TTV/Model/Result.lean`), for any adapter graph and any call history.

Both parts rest on what each adapter does with one call, read on the tag-relevant alphabet `TEv` of
`Lemmas/TagViews.lean`: the calls it sends to its target are, as events, its view (`etodVT`, `tfrVT`, `e2sVT`) of the
call's event, and the tag-relevant part of its own state moves as the abstract machine (`tfrNext`, `e2sNextT`).
Part A: `current_tags` is read through the decorators down to the first object that keeps a context of its own (`ctxOf`);
each `Tagger` on the way applies its change after `startTest` (`chain`), and if that object is an
`ExtendedToStreamDecorator` it has to have been started (`chainStarted`).  Part B: what every observer records is a function
of the events at the root (`specV`, by `TReach`), and on the histories in scope that function is the specification's
(`specV_specT`) — outside the finding class `taggerBelowBuffer` (a `Tagger` below a `ThreadsafeForwardingResult` or a stream
pipeline), inside which `C17_finding_witness` shows the model reproducing the defect.
-/
namespace TTV.Props.C17
open TTV.Result TTV.ResC17 TTV.Spec.C17 TTV.Lemmas.ResEmit TTV.Lemmas.TagViews TTV.Lemmas.TagSet TTV.Lemmas.FoldView
open TTV.Spec.C08 (decoPass taggerPass)

theorem tevs_etodMain (caps : Caps) (c : Call) : tevs (etodMain caps c) = etodVT caps (tevs [c]) := by
  cases c with
  | startTestRun | stopTestRun | tags n g =>
    simp only [etodMain, etodVT, tevs_c_run, tevs_c_stopRun, tevs_c_tags, tevs_nil, List.filter_cons, List.filter_nil]
    split <;> rfl
  | time d | progress | done | setFailfast b => simp only [etodMain]; split <;> rfl
  | stop | startTest t | stopTest t | add k t a => rfl

theorem tevs_etodSent (caps : Caps) (c : Call) (k : Nat) :
    tevs (etodMain caps c ++ List.replicate k Call.stop) = etodVT caps (tevs [c]) := by
  rw [tevs_append, tevs_stops, List.append_nil, tevs_etodMain]

def absOf (own : TfrOwn) : TfrAbs := { inTest := own.inTest, g := own.globalTags, t := own.testTags }

theorem tevs_tfrSent (own : TfrOwn) (c : Call) : tevs (tfrSent own c) = tfrVT (absOf own) (tevs [c]) := by
  cases c with
  | add k t a =>
    have hst : tevs (tfrStops own k) = [] := by unfold tfrStops; split <;> rfl
    simp only [tfrSent, tfrBlock, tevs_append, hst, tevs_tagsIf, tevs_c_add, tevs_nil, tfrVT, tfrEmitT, List.append_nil]
    rfl
  | _ => rfl

theorem tfrStep_abs {σ : Type} (I : Iface σ) (own : TfrOwn) (inner : σ) (c : Call) :
    absOf (tfrStep I own inner c).1 = (tevs [c]).foldl tfrNext (absOf own) := by
  cases c with
  | tags n g =>
    simp only [tfrStep, absOf, tevs_c_tags, tevs_nil, List.foldl_cons, List.foldl_nil, tfrNext]
    split <;> rfl
  | _ => rfl

theorem tevs_decoPass (c : Call) : tevs (decoPass [c]) = tevs [c] := by cases c <;> rfl

/-- what a `Tagger` passes on (`Spec.C08.taggerPass`, which `step_tagger` speaks of) reads as the view `Spec.C17.taggerV` of the
specification does (`taggerV_tevs`): the two differ in `done` only, which is no tag event -/
theorem tevs_taggerPass (n g : TagSet) (c : Call) : tevs (taggerPass n g [c]) = taggerVT n g (tevs [c]) := by
  cases c <;> rfl

def absE (own : E2S) : E2sAbs := { started := own.started, ctx := own.tags, inprog := own.inprog.map (·.1) }

section stream
variable {σ : Type} (I : Iface σ)

/-- `x` is the target `inner` after calls that read, as tag events, as `v` -/
def Emits (inner x : σ) (v : List TEv) : Prop := ∃ cs, x = cs.foldl I.step inner ∧ tevs cs = v

theorem Emits.nil (a : σ) : Emits I a a [] := ⟨[], rfl, rfl⟩

theorem Emits.append {a b c : σ} {v w : List TEv} : Emits I a b v → Emits I b c w → Emits I a c (v ++ w)
  | ⟨cs, h1, h2⟩, ⟨cs', h3, h4⟩ => ⟨cs ++ cs', by rw [List.foldl_append, ← h1, h3], by rw [tevs_append, h2, h4]⟩

/-- the `stop()`s of fail-fast (`etodStep_emits`) are no tag events -/
theorem etodStep_tevs (own : EtodOwn) (inner : σ) (c : Call) :
    Emits I inner (etodStep I own inner c).2 (etodVT I.caps (tevs [c])) := by
  obtain ⟨k, hk⟩ := etodStep_emits I own inner c
  exact ⟨_, hk, tevs_etodSent ..⟩

theorem etodFold_emits : ∀ (calls : List Call) (own : EtodOwn) (inner : σ),
    Emits I inner (calls.foldl (fun (p : EtodOwn × σ) c => etodStep I p.1 p.2 c) (own, inner)).2
      (etodVT I.caps (tevs calls))
  | [], _, inner => .nil I inner
  | c :: calls, own, inner => by
      rw [tevs_cons, etodVT_append]
      exact (etodStep_tevs I own inner c).append I (etodFold_emits calls (etodStep I own inner c).1 (etodStep I own inner c).2)

theorem tevs_placeholder (t : Nat) (k : Kind) (d : Details) (T : TagSet) (t0 t1 : TimeV) :
    tevs (placeholderCalls t k d T t0 t1) = phBlock t T := by
  unfold placeholderCalls
  split <;> split <;> rfl

/-- `PlaceHolder.run` replays a test through a transient `ExtendedToOriginalDecorator`.  `hc`, here and below: the target
of the pipeline is an `ExtendedToOriginalDecorator` itself, which has `tags` and `startTestRun` (`e2sFull`). -/
theorem ph_emits (hc : I.caps.tags = true ∧ I.caps.startRun = true) (inner : σ) (t : Nat) (k : Kind) (d : Details)
    (T : TagSet) (t0 t1 : TimeV) :
    Emits I inner (placeholderRun I inner (placeholderCalls t k d T t0 t1)) (phBlock t T) := by
  have := etodFold_emits I (placeholderCalls t k d T t0 t1) {} inner
  rwa [etodVT_full _ hc.1 hc.2, tevs_placeholder] at this

theorem flush_emits (hc : I.caps.tags = true ∧ I.caps.startRun = true) : ∀ (pend : List (Nat × TimeV)) (inner : σ),
    Emits I inner (pend.foldl (fun st p => placeholderRun I st (placeholderCalls p.1 .failure [] 0 p.2 .none)) inner)
      ((pend.map (·.1)).flatMap fun t => phBlock t 0)
  | [], inner => .nil I inner
  | p :: pend, inner => (ph_emits I hc inner p.1 .failure [] 0 p.2 .none).append I (flush_emits hc pend _)

theorem e2sAuto_abs (own : E2S) (inner : σ) :
    absE (e2sAuto I own inner).1 = (e2sAutoT (absE own)).1 ∧ (e2sAuto I own inner).1.sent = own.sent := by
  unfold e2sAuto e2sAutoT
  rw [show (absE own).started = own.started from rfl]
  split <;> exact ⟨rfl, rfl⟩

theorem e2sAuto_emits (own : E2S) (inner : σ) : Emits I inner (e2sAuto I own inner).2 (e2sAutoT (absE own)).2 := by
  unfold e2sAuto e2sAutoT
  rw [show (absE own).started = own.started from rfl]
  split
  · exact .nil I inner
  · exact ⟨[.startTestRun], rfl, rfl⟩

theorem e2sStep_abs (own : E2S) (inner : σ) (c : Call) :
    absE (e2sStep I own inner c).1 = (tevs [c]).foldl e2sNextT (absE own) ∧
    (e2sStep I own inner c).1.sent = own.sent ++ sentT (absE own) (tevs [c]) := by
  cases c with
  | startTest t =>
    obtain ⟨ha, hs⟩ := e2sAuto_abs I own inner
    simp only [e2sStep, tevs_c_start, tevs_nil, List.foldl_cons, List.foldl_nil, e2sNextT, sentT, List.append_nil, ← ha]
    generalize e2sAuto I own inner = p at hs
    have any_contains (l : List (Nat × TimeV)) : l.any (·.1 == t) = (l.map (·.1)).contains t := by
      rw [List.contains_map]; congr 1; funext a; exact BEq.comm
    exact ⟨by simp only [absE, any_contains, apply_ite (List.map _), List.map_append, List.map_cons, List.map_nil]; rfl, hs⟩
  | add k t a =>
    obtain ⟨ha, hs⟩ := e2sAuto_abs I own inner
    obtain ⟨own', d, f, ts, h0, h⟩ := Lemmas.ResEmit.e2sStep_add I own inner k t a
    simp only [h0, tevs_c_add, tevs_nil, List.foldl_cons, List.foldl_nil, e2sNextT, sentT, ← ha]
    exact ⟨by simp only [absE, h.started, h.tags, h.inprog, List.filter_map]; rfl, by rw [h.sent, hs]; rfl⟩
  | tags n g =>
    cases hs : own.started <;> simp [e2sStep, hs, absE, e2sNextT, sentT]
  | stopTestRun =>
    cases hs : own.started <;> simp [e2sStep, hs, absE, e2sNextT, sentT]
  | startTestRun | stopTest t | time d | stop | done | progress | setFailfast b =>
    exact ⟨rfl, (List.append_nil _).symm⟩

theorem e2sStep_emits (hc : I.caps.tags = true ∧ I.caps.startRun = true) (own : E2S) (inner : σ) (c : Call) :
    Emits I inner (e2sStep I own inner c).2 (e2sVT (absE own) (tevs [c])) := by
  cases c with
  | startTestRun => exact ⟨[.startTestRun], rfl, rfl⟩
  | startTest t => exact (e2sAuto_emits I own inner).append I (.nil I _)
  | add k t a =>
    have ha := (e2sAuto_abs I own inner).1
    obtain ⟨own', d, f, ts, h0, -⟩ := Lemmas.ResEmit.e2sStep_add I own inner k t a
    have := (e2sAuto_emits I own inner).append I
      (ph_emits I hc (e2sAuto I own inner).2 t (streamKind k) d (e2sAuto I own inner).1.tags.cur f ts)
    rw [h0]
    simp only [tevs_c_add, tevs_nil, e2sVT, e2sEmitT, List.append_nil, ← ha]
    exact this
  | stopTestRun =>
    cases hs : own.started
    · exact ⟨[], by simp [e2sStep, hs], by simp [e2sVT, e2sEmitT, absE, hs]⟩
    · have := (flush_emits I hc own.inprog.reverse inner).append I ⟨[.stopTestRun], rfl, rfl⟩
      simpa [e2sStep, hs, e2sVT, e2sEmitT, absE, List.map_reverse] using this
  | stopTest t | tags n g | time d | stop | done | progress | setFailfast b => exact .nil I inner
end stream

/-- the tag context `current_tags` of an object reads -/
def ctxOf : (s : Shape) → St s → TagCtx
  | .sink _, st => st.tags
  | .tt _, st => st.tags
  | .text _, st => st.tt.tags
  | .tbt, st => st.tt.tags
  | .etod c, (own, inner) => if (caps c).currentTags then ctxOf c inner else own.tags
  | .deco c, st => ctxOf c st
  | .fsink _ _ _, st => st.tags
  | .tagger _ _ c, st => ctxOf c st
  | .tfr _, (own, _) => own.tt.tags
  | .multi _, (own, _) => own.tags
  | .e2s _, (own, _) => own.tags
  | .sff, (own, _) => own.tags

theorem ctxOf_etod (c : Shape) (st : St (.etod c)) :
    ctxOf (.etod c) st = if (caps c).currentTags then ctxOf c st.2 else st.1.tags := rfl

theorem currentTags_eq : ∀ (s : Shape) (st : St s), currentTagsOf s st = (ctxOf s st).cur
  | .etod c, (own, inner) => by
      show ite _ _ _ = TagCtx.cur (ite _ _ _)
      split
      · exact currentTags_eq c inner
      · rfl
  | .deco c, st | .tagger _ _ c, st => currentTags_eq c st
  | .sink _, _ | .tt _, _ | .text _, _ | .tbt, _ | .fsink _ _ _, _ | .tfr _, _ | .multi _, _ | .e2s _, _ | .sff, _ => rfl

theorem ctx_init : ∀ (s : Shape), ctxOf s (init s) = {}
  | .etod c => by rw [ctxOf_etod]; split; exact ctx_init c; rfl
  | .deco c | .tagger _ _ c => ctx_init c
  | .sink _ | .tt _ | .text _ | .tbt | .fsink _ _ _ | .tfr _ | .multi _ | .e2s _ | .sff => rfl

/-- the `ExtendedToStreamDecorator` whose tags are read (if any) has been started -/
def chainStarted : (s : Shape) → St s → Bool
  | .etod c, (_, inner) => if (caps c).currentTags then chainStarted c inner else true
  | .deco c, st => chainStarted c st
  | .tagger _ _ c, st => chainStarted c st
  | .e2s _, (own, _) => own.started
  | .sff, (own, _) => own.started
  | _, _ => true

theorem chainStarted_etod (c : Shape) (st : St (.etod c)) :
    chainStarted (.etod c) st = if (caps c).currentTags then chainStarted c st.2 else true := rfl

theorem chainStarted_noStream : ∀ (s : Shape) (st : St s), s.noStream = true → chainStarted s st = true
  | .etod c, (_, inner), h => by
      rw [chainStarted_etod]
      split
      · exact chainStarted_noStream c inner h
      · rfl
  | .deco c, st, h | .tagger _ _ c, st, h => chainStarted_noStream c st h
  | .e2s _, _, h | .sff, _, h => nomatch h
  | .sink _, _, _ | .tt _, _, _ | .text _, _, _ | .tbt, _, _ | .fsink _ _ _, _, _ | .tfr _, _, _ | .multi _, _, _ => rfl

theorem caps_currentTags (c : Shape) :
    (caps c).tags = (caps c).currentTags ∧ ((caps c).currentTags = true → (caps c).startRun = true) := by
  cases c with
  | sink f | fsink _ _ f => cases f <;> first | exact ⟨rfl, fun _ => rfl⟩ | exact ⟨rfl, fun h => nomatch h⟩
  | _ => exact ⟨rfl, fun _ => rfl⟩

theorem inject_append (ctx : TagCtx) (a b : List (TagSet × TagSet)) :
    inject ctx (a ++ b) = inject (inject ctx a) b := List.foldl_append

theorem sinkStep_tags (s : Sink) (c : Call) : (sinkStep .ext s c).tags = refStep s.tags c := by
  cases c <;> simp [sinkStep, refStep, Call.logged] <;> (repeat' split) <;> rfl

theorem ttStep_tags (s : TT) (c : Call) : (ttStep s c).tags = refStep s.tags c := by
  cases c with
  | add k t a => cases k <;> rfl
  | _ => rfl

theorem multiOwn_tags (own : TT) (c : Call) : (multiOwn own c).tags = refStep own.tags c := by
  cases c <;> first | exact ttStep_tags own _ | rfl

theorem tfrStep_tags {σ : Type} (I : Iface σ) (own : TfrOwn) (inner : σ) (c : Call) :
    (tfrStep I own inner c).1.tt.tags = refStep own.tt.tags c := by
  rw [tfrStep_tt]
  split
  · exact ttStep_tags own.tt c
  · cases c <;> first | rfl | contradiction

theorem etodStep_own_tags {σ : Type} (I : Iface σ) (hc : I.caps.tags = false) (own : EtodOwn) (inner : σ) (c : Call) :
    (etodStep I own inner c).1.tags = refStep own.tags c := by
  obtain ⟨b, hb⟩ := etodStep_own I own inner c
  rw [hb, stopMark_tags]
  cases c <;> first | rfl | (simp only [ownAfter, hc]; rfl) | (simp only [ownAfter]; split <;> rfl)

theorem stepT_tev (ctx : TagCtx) (c : Call) :
    refStep ctx c = match tev c with | some x => stepT ctx x | none => ctx := by
  cases c <;> rfl

theorem refStepInj_nil (ctx : TagCtx) (c : Call) : refStepInj [] ctx c = refStep ctx c := by
  cases c <;> rfl

theorem e2sStep_tags {σ : Type} (I : Iface σ) (own : E2S) (inner : σ) (c : Call)
    (h : own.started = true ∨ c = .startTestRun) :
    (e2sStep I own inner c).1.tags = refStepInj [] own.tags c ∧ (e2sStep I own inner c).1.started = true := by
  rcases h with h | rfl
  · have ha := (e2sStep_abs I own inner c).1
    rw [tevs_single] at ha
    change (absE _).ctx = _ ∧ (absE _).started = true
    rw [ha, refStepInj_nil, stepT_tev]
    cases tev c with
    | none => exact ⟨rfl, h⟩
    | some x => exact (e2sNextT_ctx (a := absE own) x h).symm
  · exact ⟨rfl, rfl⟩

theorem refStepInj_neutral (inj : List (TagSet × TagSet)) (ctx : TagCtx) (c : Call)
    (h : match c with | .startTestRun | .startTest _ | .stopTest _ | .tags _ _ => False | _ => True) :
    refStepInj inj ctx c = ctx := by
  cases c <;> first | rfl | cases h

/-- `Spec.C17.refStepInj` on the small alphabet (`refStepInj_tevs`) -/
def stepTInj (inj : List (TagSet × TagSet)) (ctx : TagCtx) : TEv → TagCtx
  | .start _ => inject ctx.push inj
  | x => stepT ctx x

theorem refStepInj_tevs (inj : List (TagSet × TagSet)) : ∀ (cs : List Call) (ctx : TagCtx),
    cs.foldl (refStepInj inj) ctx = (tevs cs).foldl (stepTInj inj) ctx
  | [], _ => rfl
  | c :: cs, ctx => by
      rw [List.foldl_cons, refStepInj_tevs inj cs, tevs_cons, List.foldl_append]
      cases c <;> rfl

theorem stepTInj_tagger (inj : List (TagSet × TagSet)) (n g : TagSet) : ∀ (e : List TEv) (ctx : TagCtx),
    (taggerVT n g e).foldl (stepTInj inj) ctx = e.foldl (stepTInj (inj ++ [(n, g)])) ctx
  | [], _ => rfl
  | x :: e, ctx => by
      rw [← List.singleton_append, taggerVT_append, List.foldl_append, stepTInj_tagger inj n g e, List.foldl_append]
      congr 1
      cases x with
      | start t => exact (inject_append ctx.push inj [(n, g)]).symm
      | _ => rfl

/-- from one call to a list of calls; `ctx_step` applies it to the decorated object, which takes a list per call -/
theorem ctx_lift (s : Shape)
    (h1 : ∀ (st : St s) (c : Call), (chainStarted s st = true ∨ c = .startTestRun) →
      ctxOf s (step s st c) = refStepInj (chain s) (ctxOf s st) c ∧ chainStarted s (step s st c) = true) :
    ∀ (cs : List Call) (st : St s), (chainStarted s st = true ∨ cs.head? = some .startTestRun) →
      ctxOf s (cs.foldl (step s) st) = cs.foldl (refStepInj (chain s)) (ctxOf s st) ∧
      chainStarted s (cs.foldl (step s) st) = true
  | [], _, .inl h => ⟨rfl, h⟩
  | c :: cs, st, h => by
      obtain ⟨a, b⟩ := h1 st c (h.imp_right Option.some.inj)
      rw [List.foldl_cons, List.foldl_cons, ← a]
      exact ctx_lift s h1 cs _ (.inl b)

theorem own_step {x y : TagCtx} {c : Call} (h : x = refStep y c) : x = refStepInj [] y c :=
  h.trans (refStepInj_nil y c).symm

theorem ctx_step : ∀ (s : Shape), s.wf = true → ∀ (st : St s) (c : Call),
    (chainStarted s st = true ∨ c = .startTestRun) →
    ctxOf s (step s st c) = refStepInj (chain s) (ctxOf s st) c ∧ chainStarted s (step s st c) = true
  | .fsink _ _ _, hw, _, _, _ => nomatch hw
  -- an object that keeps a context of its own: `current_tags` is read from it directly, so no `Tagger` lies on the way
  -- (`chain s = []`, `own_step`), and `chainStarted` is `true` by computation
  | .sink f, hw, st, c, _ => by
      obtain rfl : f = .ext := eq_of_beq hw
      exact ⟨own_step (sinkStep_tags st c), rfl⟩
  | .tt ff, _, st, c, _ => ⟨own_step (ttStep_tags st c), rfl⟩
  | .text ff, _, st, c, _ => ⟨own_step ((congrArg TT.tags (textStep_tt st c)).trans (ttStep_tags st.tt c)), rfl⟩
  | .tbt, _, st, c, _ => ⟨own_step ((congrArg TT.tags (tbtStep_tt st c)).trans (ttStep_tags st.tt c)), rfl⟩
  | .multi ss, _, (own, inner), c, _ =>
      ⟨own_step ((congrArg TT.tags (step_multi_own ss own inner c)).trans (multiOwn_tags own c)), rfl⟩
  | .tfr ch, _, (own, inner), c, _ => ⟨own_step (tfrStep_tags _ own inner c), rfl⟩
  | .sff, _, (own, _), c, h => e2sStep_tags nullTarget own () c h
  | .e2s ch, _, (own, inner), c, h => e2sStep_tags ⟨caps ch, step ch, failfastOf ch⟩ own inner c h
  | .deco ch, hw, st, c, h => by
      obtain ⟨a, b⟩ := ctx_lift ch (ctx_step ch hw) (decoPass [c]) st (h.imp_right fun hc => by rw [hc]; rfl)
      rw [step_deco]
      exact ⟨a.trans (by rw [refStepInj_tevs, tevs_decoPass, ← refStepInj_tevs]; rfl), b⟩
  | .tagger n g ch, hw, st, c, h => by
      obtain ⟨a, b⟩ := ctx_lift ch (ctx_step ch hw) (taggerPass n g [c]) st (h.imp_right fun hc => by rw [hc]; rfl)
      rw [step_tagger]
      exact ⟨a.trans (by rw [refStepInj_tevs, tevs_taggerPass, stepTInj_tagger, ← refStepInj_tevs]; rfl), b⟩
  | .etod ch, hw, (own, inner), c, h => by
      obtain ⟨ht, hr⟩ := caps_currentTags ch
      cases hct : (caps ch).currentTags
      · -- the decorator's own context
        simp only [ctxOf_etod, chain, chainStarted_etod, hct, Bool.false_eq_true, ite_false, refStepInj_nil, and_true]
        exact etodStep_own_tags ⟨caps ch, step ch, failfastOf ch⟩ (ht.trans hct) own inner c
      · -- the decorated object's context, after what the decorator forwards and the `stop()`s of fail-fast
        have hw' : ch.wf = true := by
          cases ch with
          | sink f => cases f <;> first | rfl | nomatch hct
          | fsink _ _ f =>
            -- excluded: the flavour with `current_tags` has a `failfast` of its own
            cases f <;> first | exact absurd hct Bool.false_ne_true | exact absurd hw Bool.false_ne_true
          | _ => exact hw
        simp only [ctxOf_etod, chain, chainStarted_etod, hct, ite_true] at h ⊢
        obtain ⟨k, hk⟩ := etodStep_emits ⟨caps ch, step ch, failfastOf ch⟩ own inner c
        rw [show (step (.etod ch) (own, inner) c).2 = _ from hk]
        obtain ⟨a, b⟩ := ctx_lift ch (ctx_step ch hw') (etodMain (caps ch) c ++ List.replicate k Call.stop) inner
          (h.imp_right fun hc => by rw [hc, etodMain, if_pos (hr hct)]; rfl)
        exact ⟨by rw [a, refStepInj_tevs, tevs_etodSent, etodVT_full _ (ht.trans hct) (hr hct), ← refStepInj_tevs]; rfl, b⟩

theorem states_cur (s : Shape) (hw : s.wf = true) : ∀ (h : List Call) (st : St s),
    (chainStarted s st = true ∨ h.head? = some .startTestRun) →
    (states s st h).map (currentTagsOf s) = refCur (chain s) (ctxOf s st) h
  | [], _, _ => rfl
  | c :: h, st, hs => by
      obtain ⟨a, b⟩ := ctx_step s hw st c (hs.imp_right Option.some.inj)
      rw [states, List.map_cons, refCur, currentTags_eq, states_cur s hw h _ (.inl b), a]

/-- **C17 (current tags).**  On every result object and adapter graph `s`, after every call of every
history `h`, `current_tags` is what the stack-of-sets semantics gives: `startTestRun` empties, `startTest`
pushes a copy (a `Tagger` then applies its changes), `tags(new, gone)` changes the top, `stopTest` pops —
but never the run-level set (D11), so it is always defined.  (A graph with a stream pipeline in it has to be started
with `startTestRun`; all that is used is that the `ExtendedToStreamDecorator` whose tags are read, if there is one, has
been started: `chainStarted` in `states_cur`.  `hw` is used at the plain results only (`sink`, `fsink`): one of an old
flavour has no `current_tags`, and is well-formed just below an `ExtendedToOriginalDecorator`, which then answers from a
context of its own.) -/
theorem C17_current (s : Shape) (hw : s.wf = true) (h : List Call)
    (hs : s.noStream = true ∨ h.head? = some .startTestRun) :
    (states s (init s) h).map (currentTagsOf s) = refCur (chain s) {} h := by
  have := states_cur s hw h (init s) (hs.imp_left (chainStarted_noStream s _))
  rwa [ctx_init] at this

/-- **C17 (test-local).**  Whatever `tags` calls (and other calls that are not test or run boundaries)
happen between a `startTest` and its `stopTest`, after the `stopTest` the tag context is what it was before
the `startTest`: changes made inside a test are discarded, those made outside persist.  This is a fact of the stack-of-sets
semantics `refStep` alone; it speaks of testtools through `C17_current`. -/
theorem C17_test_local (ctx : TagCtx) (t t' : Nat) (body : List Call)
    (hb : ∀ c ∈ body, match c with | .startTestRun | .startTest _ | .stopTest _ => False | _ => True) :
    ([Call.startTest t] ++ body ++ [Call.stopTest t']).foldl refStep ctx = ctx := by
  -- the body leaves the enclosing sets alone
  have key : ∀ (body : List Call) (c0 : TagCtx),
      (∀ c ∈ body, match c with | .startTestRun | .startTest _ | .stopTest _ => False | _ => True) →
      (body.foldl refStep c0).parents = c0.parents := by
    intro body
    induction body with
    | nil => intro c0 _; rfl
    | cons c body ih =>
      intro c0 h
      rw [List.foldl_cons, ih _ (fun x hx => h x (List.mem_cons_of_mem _ hx))]
      have := h c List.mem_cons_self
      cases c <;> first | rfl | cases this
  have := key body (refStep ctx (.startTest t)) hb
  simp only [List.foldl_append, List.foldl_cons, List.foldl_nil, refStep, TagCtx.push, TagCtx.pop] at this ⊢
  rw [this]

/- the target of every stream pipeline takes `tags` and `startTestRun` (it is an `ExtendedToOriginalDecorator`) -/
mutual
def e2sFull : Shape → Bool
  | .e2s c => (caps c).tags && (caps c).startRun && e2sFull c
  | .etod c | .deco c | .tagger _ _ c | .tfr c => e2sFull c
  | .multi cs => e2sFullL cs
  | _ => true
def e2sFullL : List Shape → Bool
  | [] => true
  | c :: cs => e2sFull c && e2sFullL cs
end

theorem e2sFull_e2s {c : Shape} (h : e2sFull (.e2s c) = true) :
    ((caps c).tags = true ∧ (caps c).startRun = true) ∧ e2sFull c = true := by
  simpa only [e2sFull, Bool.and_eq_true] using h

mutual
theorem e2sFull_of_wf : ∀ (s : Shape), s.wf = true → e2sFull s = true
  | .sff, _ | .sink _, _ | .fsink _ _ _, _ | .tt _, _ | .text _, _ | .tbt, _ => rfl
  | .etod c, h => by
      -- an old-flavour result is well-formed only directly under the decorator, and has nothing below it
      cases c with
      | sink _ | fsink _ _ _ => rfl
      | _ => unfold e2sFull; exact e2sFull_of_wf _ h
  | .deco c, h | .tagger _ _ c, h => e2sFull_of_wf c h
  | .tfr (.etod d), h => e2sFull_of_wf (.etod d) h
  | .e2s (.etod d), h => by
      simp only [e2sFull, caps, Bool.true_and]; exact e2sFull_of_wf (.etod d) h
  | .multi [], _ => rfl
  | .multi (d :: ds), h => e2sFullL_of_wf (d :: ds) h
theorem e2sFullL_of_wf : ∀ (ss : List Shape), Shape.wfL ss = true → e2sFullL ss = true
  | [], _ => rfl
  | .etod d :: ss, h => by
      simp only [Shape.wfL, Bool.and_eq_true] at h
      simp only [e2sFullL, Bool.and_eq_true]
      exact ⟨e2sFull_of_wf (.etod d) h.1, e2sFullL_of_wf ss h.2⟩
end

def LeafT (s : Shape) (st : St s) (e : List TEv) : Prop := ∃ cs, st = run s (init s) cs ∧ tevs cs = e

mutual
/-- every node of the graph has received calls that read as `e` seen through the adapters above it: a leaf is in the state
it gets from such calls, and a `ThreadsafeForwardingResult` or `ExtendedToStreamDecorator` holds the buffers its abstract
machine has after `e`, started from `{}` as `init` leaves it — that is what lets its view be continued (`tfrVT_append`,
`e2sVT_append`) -/
def TReach : (s : Shape) → St s → List TEv → Prop
  | .sff, _, _ => True
  | .sink f, st, e => LeafT (.sink f) st e
  | .tt ff, st, e => LeafT (.tt ff) st e
  | .text ff, st, e => LeafT (.text ff) st e
  | .tbt, st, e => LeafT .tbt st e
  | .etod c, (_, inner), e => TReach c inner (etodVT (caps c) e)
  | .deco c, st, e => TReach c st e
  | .fsink l b f, st, e => LeafT (.fsink l b f) st e
  | .tagger n g c, st, e => TReach c st (taggerVT n g e)
  | .tfr c, (own, inner), e => absOf own = e.foldl tfrNext {} ∧ TReach c inner (tfrVT {} e)
  | .multi cs, (_, inner), e => TReachL cs inner e
  | .e2s c, (own, inner), e => absE own = e.foldl e2sNextT {} ∧ own.sent = sentT {} e ∧ TReach c inner (e2sVT {} e)
def TReachL : (cs : List Shape) → StL cs → List TEv → Prop
  | [], _, _ => True
  | c :: cs, (x, xs), e => TReach c x e ∧ TReachL cs xs e
end

mutual
theorem treach_steps : ∀ (s : Shape), e2sFull s = true → ∀ (cs : List Call) (st : St s) (e : List TEv),
    TReach s st e → TReach s (cs.foldl (step s) st) (e ++ tevs cs)
  | .sff, _ => fun _ _ _ _ => trivial
  | .sink _, _ | .fsink _ _ _, _ | .tt _, _ | .text _, _ | .tbt, _ => run_view tevs tevs_append _
  | .etod ch, hn => foldl_view tevs tevs_append fun (own, inner) e c h => by
      obtain ⟨cs, h1, h2⟩ := etodStep_tevs ⟨caps ch, step ch, failfastOf ch⟩ own inner c
      have := treach_steps ch hn cs inner _ h
      rw [← h1, h2, ← etodVT_append] at this
      exact this
  | .tfr ch, hn => foldl_view tevs tevs_append fun (own, inner) e c ⟨ha, hr⟩ => by
      have := treach_steps ch hn (tfrSent own c) inner _ hr
      rw [← tfrStep_sent ⟨caps ch, step ch, failfastOf ch⟩, tevs_tfrSent, ha, ← tfrVT_append] at this
      exact ⟨by rw [List.foldl_append, ← ha]; exact tfrStep_abs _ own inner c, this⟩
  | .e2s ch, hn => foldl_view tevs tevs_append fun (own, inner) e c ⟨ha, hs, hr⟩ => by
      obtain ⟨em, h1, h2⟩ := e2sStep_emits ⟨caps ch, step ch, failfastOf ch⟩ (e2sFull_e2s hn).1 own inner c
      obtain ⟨h3, h4⟩ := e2sStep_abs ⟨caps ch, step ch, failfastOf ch⟩ own inner c
      have := treach_steps ch (e2sFull_e2s hn).2 em inner _ hr
      rw [← h1, h2, ha, ← e2sVT_append] at this
      exact ⟨by rw [List.foldl_append, ← ha]; exact h3, by rw [sentT_append, ← ha, ← hs]; exact h4, this⟩
  | .deco ch, hn => foldl_view tevs tevs_append fun st e c h => by
      rw [step_deco, ← tevs_decoPass]
      exact treach_steps ch hn _ st e h
  | .tagger n g ch, hn => foldl_view tevs tevs_append fun st e c h => by
      show TReach ch _ _
      rw [taggerVT_append, step_tagger, ← tevs_taggerPass]
      exact treach_steps ch hn _ st _ h
  | .multi ss, hn => foldl_view tevs tevs_append fun (own, inner) e c h =>
      multi_keeps (X := fun st => TReachL ss st (e ++ tevs [c])) own inner c
        (fun hc => by subst hc; exact (List.append_nil e).symm ▸ h) (treachL_step ss hn inner e c h)
theorem treachL_step : ∀ (ss : List Shape), e2sFullL ss = true → ∀ (st : StL ss) (e : List TEv) (c : Call),
    TReachL ss st e → TReachL ss (stepL ss st c) (e ++ tevs [c])
  | [], _, _, _, _, _ => trivial
  | s :: ss, hn, (x, xs), e, c, h => by
      simp only [e2sFullL, Bool.and_eq_true] at hn
      exact ⟨treach_steps s hn.1 [c] x e h.1, treachL_step ss hn.2 xs e c h.2⟩
end

mutual
theorem treach_init : ∀ (s : Shape), TReach s (init s) []
  | .sff => trivial
  | .sink _ | .fsink _ _ _ | .tt _ | .text _ | .tbt => ⟨[], rfl, rfl⟩
  | .etod ch | .deco ch | .tagger _ _ ch => treach_init ch
  | .tfr ch => ⟨rfl, treach_init ch⟩
  | .multi ss => treach_initL ss
  | .e2s ch => ⟨rfl, rfl, treach_init ch⟩
theorem treach_initL : ∀ (ss : List Shape), TReachL ss (initL ss) []
  | [] => trivial
  | s :: ss => ⟨treach_init s, treach_initL ss⟩
end

theorem treachL_init : ∀ (ss : List Shape), e2sFullL ss = true → TReachL ss (initL ss) [] :=
  fun ss _ => treach_initL ss

theorem treach_run (s : Shape) (hs : e2sFull s = true) (h : List Call) :
    TReach s (run s (init s) h) (tevs h) :=
  treach_steps s hs h (init s) [] (treach_init s)

theorem addsOf_append (a b : List Ev) : addsOf (a ++ b) = addsOf a ++ addsOf b := List.filterMap_append

def outAt (T : TagSet) : Call → List (Nat × TagSet)
  | .add _ t _ => [(t, T)]
  | _ => []

theorem seen_fold {σ : Type} (stepf : σ → Call → σ) (log : σ → List Ev) (tags : σ → TagCtx)
    (hl : ∀ s c, addsOf (log (stepf s c)) = addsOf (log s) ++ outAt (tags s).cur c)
    (ht : ∀ s c, tags (stepf s c) = refStep (tags s) c) :
    ∀ (cs : List Call) (s : σ), addsOf (log (cs.foldl stepf s)) = addsOf (log s) ++ refSeen (tags s) cs
  | [], s => (List.append_nil _).symm
  | c :: cs, s => by
      rw [List.foldl_cons, seen_fold stepf log tags hl ht cs, hl, ht, List.append_assoc]
      cases c <;> rfl

theorem sink_adds (f : Flavour) (s : Sink) (c : Call) :
    addsOf (sinkStep f s c).log = addsOf s.log ++ outAt (if f = .ext then s.tags.cur else 0) c := by
  rw [sinkStep_log, addsOf_append]
  cases c <;> rfl

theorem tt_adds (s : TT) (c : Call) :
    addsOf (ttStep s c).log = addsOf s.log ++ outAt s.tags.cur c := by
  rw [ttStep_log, addsOf_append]
  cases c <;> rfl

theorem untagged_fold (f : Flavour) (hf : f ≠ .ext) : ∀ (cs : List Call) (s : Sink),
    addsOf (cs.foldl (sinkStep f) s).log = addsOf s.log ++ untagged cs
  | [], s => (List.append_nil _).symm
  | c :: cs, s => by
      rw [List.foldl_cons, untagged_fold f hf cs, sink_adds, List.append_assoc, if_neg hf]
      cases c <;> rfl

theorem sink_seen (f : Flavour) (cs : List Call) (s : Sink) (hl : s.log = []) (ht : s.tags = {}) :
    addsOf (cs.foldl (sinkStep f) s).log = if f = .ext then seenT {} (tevs cs) else outsT (tevs cs) := by
  split
  · next hf =>
    subst hf
    rw [seen_fold (sinkStep .ext) (·.log) (·.tags) (sink_adds .ext) sinkStep_tags cs s, hl, ht, refSeen_tevs]; rfl
  · next hf => rw [untagged_fold f hf cs s, hl, untagged_tevs]; rfl

theorem tt_seen {σ : Type} (stepf : σ → Call → σ) (tt : σ → TT) (h : ∀ s c, tt (stepf s c) = ttStep (tt s) c)
    (cs : List Call) (s : σ) (hl : (tt s).log = []) (ht : (tt s).tags = {}) :
    addsOf (tt (cs.foldl stepf s)).log = seenT {} (tevs cs) := by
  rw [seen_fold stepf (fun s => (tt s).log) (fun s => (tt s).tags) (fun s c => by rw [h]; exact tt_adds _ c)
    (fun s c => by rw [h]; exact ttStep_tags _ c) cs s, hl, ht, refSeen_tevs]; rfl

/- what each observation point sees, as a function of the tag-relevant events at the root -/
mutual
def specV : Shape → List TEv → List (List (Nat × TagSet))
  | .sff, _ => []
  | .sink f, e => [if f = .ext then seenT {} e else outsT e]
  | .tt _, e => [seenT {} e]
  | .text _, e => [seenT {} e]
  | .tbt, e => [seenT {} e]
  | .etod c, e => specV c (etodVT (caps c) e)
  | .deco c, e => specV c e
  | .fsink _ _ f, e => [if f = .ext then seenT {} e else outsT e]
  | .tagger n g c, e => specV c (taggerVT n g e)
  | .tfr c, e => specV c (tfrVT {} e)
  | .multi cs, e => specVL cs e
  | .e2s c, e => sentT {} e :: specV c (e2sVT {} e)
def specVL : List Shape → List TEv → List (List (Nat × TagSet))
  | [], _ => []
  | c :: cs, e => specV c e ++ specVL cs e
end

mutual
theorem treach_points : ∀ (s : Shape) (st : St s) (e : List TEv), TReach s st e → points s st = specV s e
  | .sff, _, _, _ => rfl
  | .sink f, _, _, ⟨cs, rfl, rfl⟩ | .fsink _ _ f, _, _, ⟨cs, rfl, rfl⟩ =>
      congrArg (fun x => [x]) (sink_seen f cs _ rfl rfl)
  | .tt _, _, _, ⟨cs, rfl, rfl⟩ => congrArg (fun x => [x]) (tt_seen ttStep id (fun _ _ => rfl) cs _ rfl rfl)
  | .text _, _, _, ⟨cs, rfl, rfl⟩ => congrArg (fun x => [x]) (tt_seen textStep (·.tt) textStep_tt cs _ rfl rfl)
  | .tbt, _, _, ⟨cs, rfl, rfl⟩ => congrArg (fun x => [x]) (tt_seen tbtStep (·.tt) tbtStep_tt cs _ rfl rfl)
  | .etod ch, (_, inner), _, h | .deco ch, inner, _, h | .tagger _ _ ch, inner, _, h => treach_points ch inner _ h
  | .tfr ch, (_, inner), _, ⟨_, h⟩ => treach_points ch inner _ h
  | .multi ss, (_, inner), _, h => treach_pointsL ss inner _ h
  | .e2s ch, (_, inner), _, ⟨_, hs, h⟩ => congr (congrArg List.cons hs) (treach_points ch inner _ h)
theorem treach_pointsL : ∀ (ss : List Shape) (st : StL ss) (e : List TEv), TReachL ss st e → pointsL ss st = specVL ss e
  | [], _, _, _ => rfl
  | s :: ss, (x, xs), e, h => congr (congrArg List.append (treach_points s x e h.1)) (treach_pointsL ss xs e h.2)
end

theorem treachL_points : ∀ (ss : List Shape), e2sFullL ss = true → ∀ (st : StL ss) (e : List TEv),
    TReachL ss st e → pointsL ss st = specVL ss e :=
  fun ss _ => treach_pointsL ss

/- the specification on the small alphabet: only `Tagger`s change what is seen -/
mutual
def specT : Shape → List TEv → List (List (Nat × TagSet))
  | .sff, _ => []
  | .sink f, e => [if f = .ext then seenT {} e else outsT e]
  | .tt _, e => [seenT {} e]
  | .text _, e => [seenT {} e]
  | .tbt, e => [seenT {} e]
  | .etod c, e => specT c e
  | .deco c, e => specT c e
  | .fsink _ _ f, e => [if f = .ext then seenT {} e else outsT e]
  | .tagger n g c, e => specT c (taggerVT n g e)
  | .tfr c, e => specT c e
  | .multi cs, e => specTL cs e
  | .e2s c, e => seenT {} e :: specT c e
def specTL : List Shape → List TEv → List (List (Nat × TagSet))
  | [], _ => []
  | c :: cs, e => specT c e ++ specTL cs e
end

mutual
theorem specSeen_tevs : ∀ (s : Shape) (h : List Call), specSeen s h = specT s (tevs h)
  | .sff, _ => rfl
  | .sink f, h | .fsink _ _ f, h => by simp only [specSeen, specT, refSeen_tevs, untagged_tevs]
  | .tt _, h | .text _, h | .tbt, h => by simp only [specSeen, specT, refSeen_tevs]
  | .etod c, h | .deco c, h | .tfr c, h => by simp only [specSeen, specT]; exact specSeen_tevs c h
  | .tagger n g c, h => by simp only [specSeen, specT]; rw [specSeen_tevs c, taggerV_tevs]
  | .e2s c, h => by simp only [specSeen, specT]; rw [specSeen_tevs c, refSeen_tevs]
  | .multi cs, h => by simp only [specSeen, specT]; exact specSeenL_tevs cs h
theorem specSeenL_tevs : ∀ (ss : List Shape) (h : List Call), specSeenL ss h = specTL ss (tevs h)
  | [], _ => rfl
  | s :: ss, h => congr (congrArg List.append (specSeen_tevs s h)) (specSeenL_tevs ss h)
end

/- without `Tagger`s (`taggerBelow true s = false`) every observer sees one of two lists: `a` with tags, `b` without -/
mutual
def fill : Shape → List (Nat × TagSet) → List (Nat × TagSet) → List (List (Nat × TagSet))
  | .sff, _, _ => []
  | .sink f, a, b => [if f = .ext then a else b]
  | .tt _, a, _ => [a]
  | .text _, a, _ => [a]
  | .tbt, a, _ => [a]
  | .etod c, a, b => fill c a b
  | .deco c, a, b => fill c a b
  | .fsink _ _ f, a, b => [if f = .ext then a else b]
  | .tagger _ _ c, a, b => fill c a b
  | .tfr c, a, b => fill c a b
  | .multi cs, a, b => fillL cs a b
  | .e2s c, a, b => a :: fill c a b
def fillL : List Shape → List (Nat × TagSet) → List (Nat × TagSet) → List (List (Nat × TagSet))
  | [], _, _ => []
  | c :: cs, a, b => fill c a b ++ fillL cs a b
end

mutual
theorem specT_fill : ∀ (s : Shape), taggerBelow true s = false → ∀ (e : List TEv),
    specT s e = fill s (seenT {} e) (outsT e)
  | .sff, _, _ | .sink _, _, _ | .tt _, _, _ | .text _, _, _ | .tbt, _, _ | .fsink _ _ _, _, _ => rfl
  | .etod c, h, e | .deco c, h, e | .tfr c, h, e => specT_fill c h e
  | .e2s c, h, e => congrArg (_ :: ·) (specT_fill c h e)
  | .tagger _ _ _, h, _ => nomatch h
  | .multi cs, h, e => specTL_fill cs h e
theorem specTL_fill : ∀ (ss : List Shape), taggerBelowL true ss = false → ∀ (e : List TEv),
    specTL ss e = fillL ss (seenT {} e) (outsT e)
  | [], _, _ => rfl
  | s :: ss, h, e => by
      simp only [taggerBelowL, Bool.or_eq_false_iff] at h
      exact congr (congrArg List.append (specT_fill s h.1 e)) (specTL_fill ss h.2 e)
end

/-- the histories `C17_observed_partial` speaks of, on the small alphabet -/
def Good (e : List TEv) : Prop := wfT 0 0 e = true ∧ e.all disjT = true

theorem good_tagger {e : List TEv} (n g : TagSet) (hd : n &&& g = 0) (h : Good e) : Good (taggerVT n g e) :=
  ⟨by rw [wfT_taggerVT]; exact h.1, disj_taggerVT n g hd e h.2⟩

/-- below a buffering adapter, what the observers see depends on the events only through `seenT {}`: the outcomes without
tags are read off it too (`outsT_seenT`) -/
theorem specT_congr {s : Shape} (h : taggerBelow true s = false) {e e' : List TEv} (hs : seenT {} e = seenT {} e') :
    specT s e = specT s e' := by
  rw [specT_fill s h, specT_fill s h, outsT_seenT e {}, outsT_seenT e' {}, hs]

theorem shows_reads {b : List TEv} {l : List (Nat × TagSet)} (h : Shows b l) : Good b ∧ seenT {} b = l := by
  have h1 := h.wf []
  have h2 := (h.seen []).trans (List.append_nil l)
  rw [List.append_nil] at h1 h2
  exact ⟨⟨h1, h.disj⟩, h2⟩

theorem tfr_reads {e : List TEv} (h : Good e) : Good (tfrVT {} e) ∧ seenT {} (tfrVT {} e) = seenT {} e :=
  shows_reads (tfr_shows e 0 0 {} ⟨rfl, rfl, rfl, fun _ => rfl⟩ h.1 h.2)

theorem e2s_reads : ∀ {e : List TEv}, Good e → e.head? = some .run →
    Good (e2sVT {} e) ∧ seenT {} (e2sVT {} e) = seenT {} e ∧ sentT {} e = seenT {} e
  | _ :: e, hg, hr => by
    cases Option.some.inj hr
    have hw : wfT 0 0 e = true := by simpa only [wfT, beq_self_eq_true, Bool.true_and] using hg.1
    obtain ⟨a, b⟩ := shows_reads (Shows.run.append (e2s_shows e 0 0 { started := true } ⟨rfl, rfl⟩ hw))
    exact ⟨a, b, sentT_started e _ rfl⟩

/-- an `ExtendedToOriginalDecorator` hides `tags` and run boundaries only from a result of an old flavour, which
records no tags anyway -/
theorem specV_etodVT (c : Shape) (e : List TEv) : specV c (etodVT (caps c) e) = specV c e := by
  cases c with
  | sink f | fsink _ _ f =>
    cases f <;> first | rw [etodVT_full _ rfl rfl] | (simp only [specV, outsT_etodVT]; rfl)
  | _ => rw [etodVT_full _ rfl rfl]

/- with `Tagger`s only above the buffering adapters, the views give what the specification says.  `b`: `s` lies below a
buffering adapter; no `Tagger` is left there, so `tagsDisjoint` is asked for only while `b = false`. -/
mutual
theorem specV_specT : ∀ (s : Shape) (b : Bool), taggerBelow b s = false →
    (b = false → Shape.tagsDisjoint s = true) → ∀ (e : List TEv), Good e →
    (Spec.C17.Shape.hasE2s s = true → e.head? = some .run) → specV s e = specT s e
  | .sff, _, _, _, _, _, _ | .sink _, _, _, _, _, _, _ | .fsink _ _ _, _, _, _, _, _, _
  | .tt _, _, _, _, _, _, _ | .text _, _, _, _, _, _, _ | .tbt, _, _, _, _, _, _ => rfl
  | .etod c, b, h, hd, e, hg, hr => by
      simp only [specV, specT, specV_etodVT]; exact specV_specT c b h hd e hg hr
  | .deco c, b, h, hd, e, hg, hr => specV_specT c b h hd e hg hr
  | .tagger _ _ _, true, h, _, _, _, _ => nomatch h
  | .tagger n g c, false, h, hd, e, hg, hr => by
      have hd' := hd rfl
      simp only [Shape.tagsDisjoint, Bool.and_eq_true, beq_iff_eq] at hd'
      exact specV_specT c false h (fun _ => hd'.2) _ (good_tagger n g hd'.1 hg)
        (fun h' => head_taggerVT n g e (hr h'))
  | .tfr c, _, h, _, e, hg, hr => by
      obtain ⟨hg', h1⟩ := tfr_reads hg
      simp only [specV, specT]
      rw [specV_specT c true h (fun h => nomatch h) _ hg' (fun h' => head_tfrVT _ _ (hr h')), specT_congr h h1]
  | .e2s c, _, h, _, e, hg, hr => by
      obtain ⟨hg', h1, h2⟩ := e2s_reads hg (hr rfl)
      simp only [specV, specT]
      rw [specV_specT c true h (fun h => nomatch h) _ hg' (fun _ => head_e2sVT _ e (hr rfl)), specT_congr h h1, h2]
  | .multi cs, b, h, hd, e, hg, hr => specVL_specTL cs b h hd e hg hr
theorem specVL_specTL : ∀ (ss : List Shape) (b : Bool), taggerBelowL b ss = false →
    (b = false → Shape.tagsDisjointL ss = true) → ∀ (e : List TEv), Good e →
    (Spec.C17.Shape.hasE2sL ss = true → e.head? = some .run) → specVL ss e = specTL ss e
  | [], _, _, _, _, _, _ => rfl
  | s :: ss, b, h, hd, e, hg, hr => by
      simp only [taggerBelowL, Bool.or_eq_false_iff] at h
      simp only [Shape.tagsDisjointL, Bool.and_eq_true] at hd
      simp only [Spec.C17.Shape.hasE2sL, Bool.or_eq_true] at hr
      simp only [specVL, specTL]
      rw [specV_specT s b h.1 (fun hb => (hd hb).1) e hg (fun h' => hr (.inl h')),
        specVL_specTL ss b h.2 (fun hb => (hd hb).2) e hg (fun h' => hr (.inr h'))]
end

theorem specVL_eq : ∀ (ss : List Shape), e2sFullL ss = true → taggerBelowL false ss = false →
    Shape.tagsDisjointL ss = true → ∀ (e : List TEv), Good e →
    (Spec.C17.Shape.hasE2sL ss = true → e.head? = some .run) → specVL ss e = specTL ss e :=
  fun ss _ h hd => specVL_specTL ss false h fun _ => hd

theorem specVL_fill : ∀ (ss : List Shape), e2sFullL ss = true → taggerBelowL true ss = false →
    ∀ (e : List TEv), Good e → (Spec.C17.Shape.hasE2sL ss = true → e.head? = some .run) →
    specVL ss e = fillL ss (seenT {} e) (outsT e) :=
  fun ss _ h e hg hr => (specVL_specTL ss true h (fun h => nomatch h) e hg hr).trans (specTL_fill ss h e)

/- `Shape.noStream` (model; `C17_current`) and `Spec.C17.Shape.hasE2s` (specification; `inScope`, `C17_observed_partial`) are
each other's negation; `holds_model_partial` needs this direction -/
mutual
theorem noStream_of_noE2s : ∀ (s : Shape), Spec.C17.Shape.hasE2s s = false → s.noStream = true
  | .sink _, _ | .fsink _ _ _, _ | .tt _, _ | .text _, _ | .tbt, _ => rfl
  | .etod c, h | .deco c, h | .tagger _ _ c, h | .tfr c, h => noStream_of_noE2s c h
  | .e2s _, h | .sff, h => nomatch h
  | .multi cs, h => noStreamL_of_noE2s cs h
theorem noStreamL_of_noE2s : ∀ (ss : List Shape), Spec.C17.Shape.hasE2sL ss = false → Shape.noStreamL ss = true
  | [], _ => rfl
  | s :: ss, h => by
      simp only [Spec.C17.Shape.hasE2sL, Bool.or_eq_false_iff] at h
      simp only [Shape.noStreamL, Bool.and_eq_true]
      exact ⟨noStream_of_noE2s s h.1, noStreamL_of_noE2s ss h.2⟩
end

/-- **C17 (observed tags).**  For every adapter graph of `ExtendedToOriginalDecorator`, `TestResultDecorator`,
`Tagger`, `ThreadsafeForwardingResult` (buffers + `_merge_tags`), `MultiTestResult` and the stream pipeline
`ExtendedToStreamDecorator` → `StreamToExtendedDecorator` → `PlaceHolder.run` over any leaves — with no `Tagger`
below a `ThreadsafeForwardingResult` or a stream pipeline (finding `taggerBelowBuffer`) — and every history that
is well-formed for tags (tests `startTest, (tags*, outcome)+, tags*, stopTest` or the start-less `outcome, stopTest`
pair; `tags` anywhere else; any number of runs; started with `startTestRun` if a stream pipeline is in the graph)
with disjoint `new`/`gone` sets: every wrapped result, and every final status event of a stream, carries at each
outcome exactly the tags current in the reporter at that outcome (stack-of-sets semantics), plus what the `Tagger`s
above it add at `startTest`; a result without tags sees the same outcomes.  (`e2sFull`: the target of every stream
pipeline takes `tags` and `startTestRun`; a well-formed graph has this, `e2sFull_of_wf`.) -/
theorem C17_observed_partial (s : Shape) (he : e2sFull s = true) (hb : taggerBelow false s = false)
    (hd : Shape.tagsDisjoint s = true) (h : List Call) (hw : wfTag 0 0 h = true)
    (hh : h.all Call.tagsDisjoint = true)
    (hr : Spec.C17.Shape.hasE2s s = true → h.head? = some .startTestRun) :
    points s (run s (init s) h) = specSeen s h := by
  rw [treach_points s _ _ (treach_run s he h), specSeen_tevs]
  exact specV_specT s false hb (fun _ => hd) _ ⟨wfTag_tevs h 0 0 ▸ hw, disj_tevs h ▸ hh⟩ (fun h' => tevs_head h (hr h'))

/-- The executable specification `Spec.C17.holds` is true of the model's trace for every input
(well-formed graph) outside the known-finding class `taggerBelowBuffer`. -/
theorem holds_model_partial (i : Input) (hw : i.shape.wf = true) (hc : taggerBelowBuffer i = false) :
    holds i (model i) = true := by
  simp only [holds, clauses, List.all_cons, List.all_nil, Bool.and_true, Bool.and_eq_true]
  have scope : inScope i = true →
      (Spec.C17.Shape.hasE2s i.shape = false ∨ i.hist.head? = some .startTestRun) := by
    intro h
    simp only [inScope, Bool.and_eq_true, Bool.or_eq_true, Bool.not_eq_true', beq_iff_eq] at h
    exact h.2
  constructor
  · simp only [cCurrent, Bool.or_eq_true, Bool.not_eq_true', beq_iff_eq]
    cases hs : inScope i
    · left; rfl
    · right
      exact C17_current i.shape hw i.hist ((scope hs).imp (noStream_of_noE2s _) id)
  · simp only [cObserved, Bool.or_eq_true, Bool.not_eq_true', beq_iff_eq]
    cases hs : obsScope i
    · left; rfl
    · right
      simp only [obsScope, Bool.and_eq_true] at hs
      obtain ⟨⟨⟨hin, hwf⟩, hdis⟩, hsd⟩ := hs
      refine C17_observed_partial i.shape (e2sFull_of_wf _ hw) hc hsd i.hist hwf hdis ?_
      intro he
      rcases scope hin with h0 | h0
      · rw [h0] at he; cases he
      · exact h0

/-- **C17 (`_merge_tags`).**  Applying the merge of two tag changes is applying them one after the other
(the second with disjoint `new` / `gone`). -/
theorem C17_merge (s : TagSet) (a : TagSet × TagSet) (n g : TagSet) (h : n &&& g = 0) :
    TagSet.change s (mergeTags a (n, g)).1 (mergeTags a (n, g)).2 = TagSet.change (TagSet.change s a.1 a.2) n g :=
  change_merge s a n g h

/-- witness of finding `taggerBelowBuffer`: `ThreadsafeForwardingResult(Tagger(gone={0}, extended))`, run-level tag 0 -/
def witness : Input :=
  { shape := .tfr (.etod (.tagger 0 1 (.sink .ext))),
    hist := [.startTestRun, .tags 1 0, .startTest 1, .add .success 1 .none, .stopTest 1] }

/-- inside the class the model reproduces the defect: the extended result sees tag 0, the specification says none -/
theorem C17_finding_witness :
    taggerBelowBuffer witness = true ∧ obsScope witness = true ∧ cObserved witness (model witness) = false ∧
    (model witness).seen = [[(1, 1)]] ∧ specSeen witness.shape witness.hist = [[(1, 0)]] := by
  decide

/-- not vacuous: a run-level tag, a test-local change and a late change through
`MultiTestResult(ThreadsafeForwardingResult(extended), Tagger(TestResult))` -/
example :
    let i : Input := { shape := .multi [.etod (.tfr (.etod (.sink .ext))), .etod (.tagger 4 0 (.tt false))],
                       hist := [.startTestRun, .tags 1 0, .startTest 7, .tags 2 1, .add .success 7 .none, .tags 8 0,
                                .stopTest 7, .add .skip 8 (.reason []), .stopTest 8] }
    obsScope i = true ∧ taggerBelowBuffer i = false ∧
    model i = { cur := [0, 1, 1, 2, 2, 10, 1, 1, 1], seen := [[(7, 2), (8, 1)], [(7, 6), (8, 1)]] } := by
  decide

/-! ## tie to the source: the tag arithmetic translated from the code (harness/pyset2lean.py, regenerated on
every run into `TTV/Generated/C17.lean`) is the model's -/

/-- `TagContext.change_tags` as found in testtools/tags.py computes what the model's `TagSet.change` computes -/
theorem C17_src_change_tags (cur new gone : TagSet) :
    TTV.Generated.C17.changeTags_src cur new gone = TagSet.change cur new gone := rfl

/-- `_merge_tags` as found in testtools/testresult/real.py is the model's `mergeTags` -/
theorem C17_src_merge_tags (existing changed : TagSet × TagSet) :
    TTV.Generated.C17.mergeTags_src existing changed = mergeTags existing changed := rfl

end TTV.Props.C17
