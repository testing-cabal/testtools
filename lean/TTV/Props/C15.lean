import TTV.Lemmas.SpinnerRun
import TTV.Generated.SpinnerSkel
/-! # C15 — `Spinner.run` returns the function's own result within the timeout and restores the process

All statements are about the model `TTV.Spinner` (`Model/Reactor.lean`, `Model/Spinner.lean`) and hold for
**every** history of steps on one reactor with two `Spinner` objects, one of them in use - calls of `run` (any number of
delayed calls before / inside `f`, any delays, any timeout - also one the reactor rejects, so that `run` raises before its
`try … finally` -, stop requests at any instant, any signal handlers), `clear_junk()`, the process installing signal handlers
between the calls, and `swap` = the following calls go to the other Spinner object.  They quantify over every `Scen`; the model is
validated against the code on the domain of `Act.spawn` only (`Model/Spinner.lean`, `Drv.C15.wellFormed`: a `spawn` only as a delayed
call, in a run whose `f` returns a value or raises), and the exact accounting of the junk is claimed for runs without obligatory
iterations (`C15_junk_exact`, `Spec.C15.cJunk`).

One call of `run` is `runStep_eq` (by stages, in `Lemmas/SpinnerLoop`) with its three cases (`run_cases`). -/
namespace TTV.Props.C15
open TTV.Reactor TTV.Spinner TTV.Spec.C15

/-- the observation of a call that raises `r` before anything is touched: refused for stale junk, or with a timeout the reactor
rejects (then `reactor.callLater` raised, and only the spinner's `_saved_signals` has changed) -/
def skippedObs (sc : Scen) (w0 : W) (r : Res) : RunObs :=
  { result := r, events := [], reentries := [], junk := w0.sp.junk, pending := sc.pre.length, sels := 0, running := false,
    stopRestored := true, sigBefore := w0.sigs, sigAfter := w0.sigs, elapsed := 0 }

/-- the observation of a call in which `f` ran.  The result is read after the `finally` ladder and before `_clean`
(`getResult (restored sc w0).sp` in `runStep_eq`): a timeout call run by the obligatory iterations records `TimeoutError` too late
to change it. -/
def ranObs (sc : Scen) (w0 : W) : RunObs :=
  { result := getResult (spinPhase sc (afterPre sc w0)).sp, events := (cleaned sc w0).events,
    reentries := (cleaned sc w0).u.reentries, junk := leftovers (cleaned sc w0), pending := 0, sels := 0, running := false,
    stopRestored := true, sigBefore := w0.sigs, sigAfter := (cleaned sc w0).sigs,
    elapsed := (spinPhase sc (afterPre sc w0)).now - w0.now }

theorem obsOf_afterPre (sc : Scen) (w0 : W) (hidle : Idle w0) (r : Res) : obsOf w0 (afterPre sc w0) r = skippedObs sc w0 r := by
  rw [afterPre_eq sc w0 hidle]
  simp [obsOf, skippedObs, start, hidle.sels, hidle.running, hidle.stopPatched, insAll_length, laterCalls_preOps_length]

theorem runStep_refused (sc : Scen) (w0 : W) (hidle : Idle w0) (hj : w0.sp.junk ≠ []) :
    runStep sc w0 = ({ afterPre sc w0 with calls := [] }, skippedObs sc w0 .stalejunk) := by
  rw [runStep_eq, if_pos (by simpa [afterPre_junk] using hj), obsOf_afterPre sc w0 hidle]

theorem runStep_rejected (sc : Scen) (w0 : W) (hidle : Idle w0) (hj : w0.sp.junk = []) (hb : sc.bad = true) :
    runStep sc w0 = ({ saveSignals (afterPre sc w0) with calls := [] }, skippedObs sc w0 .rejected) := by
  rw [runStep_eq, if_neg (by rw [afterPre_junk, hj]; exact Bool.false_ne_true), if_pos hb, obsOf_afterPre sc w0 hidle]

theorem runStep_ran (sc : Scen) (w0 : W) (hidle : Idle w0) (hj : w0.sp.junk = []) (hb : sc.bad = false) :
    runStep sc w0 = (swept (cleaned sc w0), ranObs sc w0) := by
  have hfr := cleaned_frame sc w0
  have hjunk : (cleaned sc w0).sp.junk = [] := hfr.junk.trans (((run_facts sc w0 hidle).junk).trans hj)
  rw [runStep_eq, if_neg (by rw [afterPre_junk, hj]; exact Bool.false_ne_true), if_neg (by rw [hb]; exact Bool.false_ne_true)]
  simp [obsOf, ranObs, swept, hjunk, show (cleaned sc w0).running = false from hfr.running,
    show (cleaned sc w0).stopPatched = false from hfr.stopPatched,
    show (cleaned sc w0).now = (spinPhase sc (afterPre sc w0)).now from hfr.now, restored, getResult]

theorem run_cases (sc : Scen) (w0 : W) (hidle : Idle w0) :
    (w0.sp.junk ≠ [] ∧ (runStep sc w0).2 = skippedObs sc w0 .stalejunk) ∨
    (w0.sp.junk = [] ∧ sc.bad = true ∧ (runStep sc w0).2 = skippedObs sc w0 .rejected) ∨
    (w0.sp.junk = [] ∧ sc.bad = false ∧ (runStep sc w0).2 = ranObs sc w0) := by
  cases hj : w0.sp.junk with
  | cons _ _ => exact Or.inl ⟨nofun, by rw [runStep_refused sc w0 hidle (by rw [hj]; nofun)]⟩
  | nil => cases hb : sc.bad with
    | true => exact Or.inr (Or.inl ⟨rfl, rfl, by rw [runStep_rejected sc w0 hidle hj hb]⟩)
    | false => exact Or.inr (Or.inr ⟨rfl, rfl, by rw [runStep_ran sc w0 hidle hj hb]⟩)

theorem runStep_idle (sc : Scen) (w0 : W) (hidle : Idle w0) : Idle (runStep sc w0).1 := by
  rw [runStep_eq, afterPre_eq sc w0 hidle]
  split
  · exact ⟨rfl, hidle.sels, hidle.running, hidle.stopPatched⟩
  · split
    · exact ⟨rfl, hidle.sels, hidle.running, hidle.stopPatched⟩
    · exact ⟨rfl, rfl, (cleaned_frame sc w0).running, (cleaned_frame sc w0).stopPatched⟩

structure Link (w0 : W) (x : W × RunObs) : Prop where
  junk : x.2.junk = x.1.sp.junk
  sigBefore : x.2.sigBefore = w0.sigs
  sigAfter : x.2.sigAfter = x.1.sigs

theorem runStep_link (sc : Scen) (w0 : W) : Link w0 (runStep sc w0) := by
  rw [runStep_eq]
  split
  · exact ⟨rfl, rfl, rfl⟩
  · split <;> exact ⟨rfl, rfl, rfl⟩

theorem refused_false {jb : List Junk} (h : jb = []) : refused jb = false := by simp [refused, h]
theorem refused_true {jb : List Junk} (h : jb ≠ []) : refused jb = true := by simp [refused, h]

/-- a clause `c` that speaks of the runs in which `f` is called only (`hc`, by `rfl` or up to brackets: it is `skipped … || X`) is
`X` of `ranObs` -/
theorem unless_skipped {sc : Scen} {w0 : W} (hidle : Idle w0) {c X : RunObs → Bool}
    (hc : ∀ o, c o = (skipped sc w0.sp.junk || X o)) (h : w0.sp.junk = [] → sc.bad = false → X (ranObs sc w0) = true) :
    c (runStep sc w0).2 = true := by
  rw [hc]
  rcases run_cases sc w0 hidle with ⟨hj, _⟩ | ⟨_, hb, _⟩ | ⟨hj, hb, ho⟩
  · simp [skipped, refused_true hj]
  · simp [skipped, hb]
  · rw [ho, h hj hb, Bool.or_true]

/-- the `finally` ladder touches nothing the bookkeeping looks at -/
theorem restored_facts (sc : Scen) (w0 : W) (hidle : Idle w0) :
    Book sc (labels sc) (restored sc w0) ∧ TJ (restored sc w0) :=
  ⟨Book.of_eq (run_facts sc w0 hidle).book rfl rfl rfl rfl, TJ.of_eq (run_facts sc w0 hidle).tj rfl rfl rfl rfl rfl⟩

theorem restored_reent (sc : Scen) (w0 : W) (hidle : Idle w0) : IterReent sc (restored sc w0) :=
  have hb := (restored_facts sc w0 hidle).1
  ⟨fun c hc l a ha => Or.inl (hb.lab c hc l a ha).1, hb.reent, hb.reent_all⟩

theorem clause_stale (sc : Scen) (w0 : W) (hidle : Idle w0) : cStale sc w0.sp.junk (runStep sc w0).2 = true := by
  rcases run_cases sc w0 hidle with ⟨hj, ho⟩ | ⟨hj, hb, ho⟩ | ⟨hj, hb, ho⟩
  · rw [ho]
    simp [cStale, skippedObs, refused_true hj]
  · rw [ho]
    simp [cStale, skippedObs, refused_false hj]
  · rw [ho]
    simp [cStale, ranObs, refused_false hj, (run_facts sc w0 hidle).tj.outcome.not_stale]

theorem clause_rejected (sc : Scen) (w0 : W) (hidle : Idle w0) : cRejected sc w0.sp.junk (runStep sc w0).2 = true := by
  rcases run_cases sc w0 hidle with ⟨hj, ho⟩ | ⟨hj, hb, ho⟩ | ⟨hj, hb, ho⟩
  · rw [ho]
    simp [cRejected, skippedObs, rejects, refused_true hj]
  · rw [ho]
    simp [cRejected, skippedObs, rejects, refused_false hj, hb]
  · rw [ho]
    simp [cRejected, ranObs, rejects, refused_false hj, hb, (run_facts sc w0 hidle).tj.outcome.not_rejected]

theorem clause_reentry (sc : Scen) (w0 : W) (hidle : Idle w0) : cReentry sc w0.sp.junk (runStep sc w0).2 = true := by
  rcases run_cases sc w0 hidle with ⟨hj, ho⟩ | ⟨hj, hb, ho⟩ | ⟨hj, hb, ho⟩
  · rw [ho]
    simp [cReentry, skippedObs]
  · rw [ho]
    simp [cReentry, skippedObs]
  · have hr := iterations_reent sc sc.oblig (restored sc w0) (restored_reent sc w0 hidle)
    rw [ho]
    simp only [cReentry, ranObs, Bool.and_eq_true, List.all_eq_true, beq_iff_eq, bne_iff_ne]
    exact ⟨⟨hr.reent.all, (run_facts sc w0 hidle).tj.outcome.not_reentry⟩, hr.reent.len⟩

theorem clause_result (sc : Scen) (w0 : W) (hidle : Idle w0) : cResult sc w0.sp.junk (runStep sc w0).2 = true :=
  unless_skipped hidle (fun _ => rfl) fun _ _ => by simp [ranObs, (run_facts sc w0 hidle).result]

theorem cleaned_sigs (sc : Scen) (w0 : W) (hidle : Idle w0) (hl : lateHandler sc = false) :
    (cleaned sc w0).sigs = restoreFrom 0 w0.sigs (spinPhase sc (afterPre sc w0)).sigs := by
  have hf := run_facts sc w0 hidle
  have hsigR : (restored sc w0).sigs = restoreFrom 0 w0.sigs (spinPhase sc (afterPre sc w0)).sigs := by
    simp only [restored, hf.saved]
  by_cases h0 : sc.oblig = 0
  · rw [cleaned_zero sc w0 h0]; exact hsigR
  · have hno : installsHandler sc = false := by
      simp only [lateHandler, Bool.and_eq_false_iff, decide_eq_false_iff_not] at hl
      rcases hl with hl | hl
      · omega
      · exact hl
    exact (iterations_sigs sc hno sc.oblig _ (restored_reent sc w0 hidle)).trans hsigR

theorem clause_signals (sc : Scen) (w0 : W) (hidle : Idle w0) : cSignals sc w0.sp.junk (runStep sc w0).2 = true := by
  cases hl : lateHandler sc with
  | true => simp [cSignals, hl]
  | false =>
    simp only [cSignals, hl, Bool.false_or]
    rcases run_cases sc w0 hidle with ⟨_, ho⟩ | ⟨_, _, ho⟩ | ⟨_, _, ho⟩
    · rw [ho]
      exact preservedSame_refl 0 _
    · rw [ho]
      exact preservedSame_refl 0 _
    · rw [ho]
      show preservedSame 0 w0.sigs (cleaned sc w0).sigs = true
      rw [cleaned_sigs sc w0 hidle hl]
      exact preservedSame_restore 0 _ _ (run_facts sc w0 hidle).sigs

theorem clause_clean (sc : Scen) (w0 : W) (hidle : Idle w0) : cClean sc w0.sp.junk (runStep sc w0).2 = true :=
  unless_skipped hidle (fun _ => rfl) fun hj hb => by
    have := clause_signals sc w0 hidle
    rw [runStep_ran sc w0 hidle hj hb] at this
    simpa [cSignals, ranObs] using this

theorem clause_bounded (sc : Scen) (w0 : W) (hidle : Idle w0) : cBounded sc w0.sp.junk (runStep sc w0).2 = true :=
  unless_skipped hidle (fun _ => rfl) fun _ _ => by
    have := (run_facts sc w0 hidle).now_le
    simp [ranObs]; omega

theorem clause_junk (sc : Scen) (w0 : W) (hidle : Idle w0) : cJunk sc w0.sp.junk (runStep sc w0).2 = true :=
  unless_skipped hidle (fun _ => Bool.or_assoc ..) fun _ _ => by
    by_cases h0 : sc.oblig = 0
    · obtain ⟨hbook, htj⟩ := restored_facts sc w0 hidle
      simp only [ranObs, cleaned_zero sc w0 h0, h0, Nat.lt_irrefl, decide_false, Bool.false_or,
        Bool.and_eq_true, List.all_eq_true, beq_iff_eq, evLabels, gt_iff_lt]
      refine ⟨⟨⟨?_, ?_⟩, ?_⟩, ?_⟩
      · intro l hl
        rw [count_leftovers_call]
        exact (hbook.cnt l).trans (if_pos (delayedLabels_lt sc l hl))
      · rw [count_leftovers_call]
        exact htj.outcome.timeout_once
      · intro j hj'
        simp only [leftovers, List.mem_append, List.mem_map] at hj'
        rcases hj' with ⟨c, hc, rfl⟩ | ⟨n, _, rfl⟩
        · rcases hca : c.act with _ | ⟨l, a⟩
          · simp [junkKnown, QAct.lbl]
          · simp only [junkKnown, QAct.lbl, List.contains_iff_mem]
            exact (hbook.lab c hc l a hca).2
        · rfl
      · rw [leftovers_sels]
        exact hbook.sels
    · have : decide (sc.oblig > 0) = true := by simp; omega
      simp [this]

/-- the world, and the Spinner object not in use, after a step (`runSteps` exchanges the two at a `swap`) -/
def afterStep (s : Step) (w : W) (other : Reactor.Spinner) : W × Reactor.Spinner :=
  match s with
  | .swap => ({ w with sp := other }, w.sp)
  | s => ((step s w).1, other)

theorem runSteps_cons (s : Step) (rest : List Step) (w : W) (other : Reactor.Spinner) :
    runSteps (s :: rest) w other = (step s w).2 :: runSteps rest (afterStep s w other).1 (afterStep s w other).2 := by
  cases s <;> rfl

theorem idle_afterStep (s : Step) {w : W} (other : Reactor.Spinner) (h : Idle w) : Idle (afterStep s w other).1 := by
  cases s with
  | run sc => exact runStep_idle sc w h
  | _ => exact ⟨h.calls, h.sels, h.running, h.stopPatched⟩

/-- the world and the other Spinner that a history leaves -/
def afterSteps (steps : List Step) (w : W) (other : Reactor.Spinner) : W × Reactor.Spinner :=
  steps.foldl (fun p s => afterStep s p.1 p.2) (w, other)

theorem idle_afterSteps : ∀ (steps : List Step) {w : W} (other : Reactor.Spinner), Idle w → Idle (afterSteps steps w other).1
  | [], _, _, h => h
  | s :: rest, _, other, h => idle_afterSteps rest _ (idle_afterStep s other h)

theorem runSteps_append : ∀ (pre post : List Step) (w : W) (other : Reactor.Spinner),
    runSteps (pre ++ post) w other
      = runSteps pre w other ++ runSteps post (afterSteps pre w other).1 (afterSteps pre w other).2
  | [], _, _, _ => rfl
  | s :: pre, post, w, other => by
      rw [List.cons_append, runSteps_cons, runSteps_cons, runSteps_append pre post]; rfl

/-- A history from an idle world.  `runs`: every observation of a `run` in it is that of one `runStep` from an idle world, so what
is proved of `runStep sc w0` under `Idle w0` holds of every call in every history.  The other fields are the clauses of the spec
that speak of histories; `lifts`: a per-run clause that holds of every run from an idle world holds along the history. -/
structure History (steps : List Step) (t : List Obs) (w : W) (other : Reactor.Spinner) : Prop where
  runs : ∀ o, Obs.run o ∈ t → ∃ sc w', Step.run sc ∈ steps ∧ Idle w' ∧ o = (runStep sc w').2
  shape : shape steps t = true
  clear : clearOk steps t w.sp.junk other.junk = true
  sigs : sigThread steps t w.sigs = true
  lifts : ∀ p : Scen → List Junk → RunObs → Bool, (∀ sc w0, Idle w0 → p sc w0.sp.junk (runStep sc w0).2 = true) →
    forRuns p steps t w.sp.junk other.junk = true

theorem history_model (steps : List Step) : ∀ (w : W) (other : Reactor.Spinner), Idle w →
    History steps (runSteps steps w other) w other := by
  induction steps with
  | nil => exact fun _ _ _ => ⟨nofun, rfl, rfl, rfl, fun _ _ => rfl⟩
  | cons s rest ih =>
      intro w other h
      have ih := ih _ (afterStep s w other).2 (idle_afterStep s other h)
      rw [runSteps_cons]
      have hruns : ∀ o, Obs.run o ∈ (step s w).2 :: runSteps rest (afterStep s w other).1 (afterStep s w other).2 →
          ∃ sc w', Step.run sc ∈ s :: rest ∧ Idle w' ∧ o = (runStep sc w').2 := fun o ho => by
        rcases List.mem_cons.mp ho with ho | ho
        · cases s with
          | run sc => exact ⟨sc, w, List.mem_cons_self, h, Obs.run.inj ho⟩
          | _ => cases ho
        · have ⟨sc, w', hm, hw⟩ := ih.runs o ho
          exact ⟨sc, w', List.mem_cons_of_mem _ hm, hw⟩
      cases s with
      | run sc =>
        have hl := runStep_link sc w
        refine ⟨hruns, ih.shape, ?_, ?_, fun p hp => ?_⟩
        · show clearOk rest _ (runStep sc w).2.junk other.junk = true
          rw [hl.junk]; exact ih.clear
        · show ((runStep sc w).2.sigBefore == w.sigs && sigThread rest _ (runStep sc w).2.sigAfter) = true
          rw [hl.sigBefore, hl.sigAfter, beq_self_eq_true]; exact ih.sigs
        · show (p sc w.sp.junk (runStep sc w).2 && forRuns p rest _ (runStep sc w).2.junk other.junk) = true
          rw [hp sc w h, hl.junk]; exact ih.lifts p hp
      | clearJunk =>
        refine ⟨hruns, ih.shape, ?_, ih.sigs, ih.lifts⟩
        show (w.sp.junk == w.sp.junk && clearOk rest _ [] other.junk) = true
        rw [beq_self_eq_true]; exact ih.clear
      | setSig s k =>
        refine ⟨hruns, ih.shape, ih.clear, ?_, ih.lifts⟩
        show (w.sigs.set s k == w.sigs.set s k && sigThread rest _ (w.sigs.set s k)) = true
        rw [beq_self_eq_true]; exact ih.sigs
      | swap => exact ⟨hruns, ih.shape, ih.clear, ih.sigs, ih.lifts⟩

theorem idle_init : Idle init := ⟨rfl, rfl, rfl, rfl⟩

/-- The executable specification `Spec.C15.holds` is true of the model's trace, for every input. -/
theorem holds_model (i : Input) : holds i (model i) = true := by
  have hh := history_model i.steps init {} idle_init
  have h := hh.lifts
  simp only [holds, clauses, List.all_cons, List.all_nil, Bool.and_true, Bool.and_eq_true, lift, model]
  exact ⟨hh.shape, h _ clause_stale, h _ clause_rejected, h _ clause_reentry, h _ clause_result, h _ clause_clean,
    h _ clause_signals, hh.sigs, h _ clause_junk, h _ clause_bounded, hh.clear⟩

/-- **C15 (result).**  A run that is neither refused (stale junk) nor rejected (`sc.bad`) returns / raises exactly the declarative `expected sc`: the
function's own value or exception, `TimeoutError`, or `NoResultError` — whatever ran on this spinner before. -/
theorem C15_result (sc : Scen) (w0 : W) (hidle : Idle w0) (hj : w0.sp.junk = []) (hb : sc.bad = false) :
    (runStep sc w0).2.result = expected sc := by
  rw [runStep_ran sc w0 hidle hj hb]
  exact (run_facts sc w0 hidle).result

/-- `f` returned a value / raised: that is the result, whatever else was scheduled. -/
theorem C15_result_sync (sc : Scen) (w0 : W) (hidle : Idle w0) (hj : w0.sp.junk = []) (hb : sc.bad = false) :
    (∀ v, sc.term = .ret v → (runStep sc w0).2.result = .value v) ∧
    (∀ e, sc.term = .raise e → (runStep sc w0).2.result = .raised e) ∧
    (∀ r, sc.term = .deferred → syncFire sc = some r → (runStep sc w0).2.result = r) := by
  rw [C15_result sc w0 hidle hj hb]
  refine ⟨fun v h => ?_, fun e h => ?_, fun r h hs => ?_⟩ <;> simp [expected, syncRes, *]

/-- `f` returned an unfired Deferred and asked the reactor to stop while it ran: `NoResultError`. -/
theorem C15_result_stopped_in_f (sc : Scen) (w0 : W) (hidle : Idle w0) (hj : w0.sp.junk = []) (hb : sc.bad = false)
    (hs : syncRes sc = none) (hstop : syncStop sc = true) : (runStep sc w0).2.result = .noresult := by
  rw [C15_result sc w0 hidle hj hb]
  simp [expected, hs, hstop]

/-- **C15 (result, the general asynchronous case).**  `f` returned an unfired Deferred without stopping the
reactor.  Let the `i`-th delayed call (in scheduling order: calls made before `run`, the timeout call, calls
made by `f`) be decisive — it fires / fails the Deferred (`r = value v / raised e`) or it is the timeout call
(`r = timeout`) — and let it precede every other decisive call in the reactor's order `(time, index)`.  If no
stop request is due strictly before it, its result is the result of the run: the value / the exception if the
Deferred wins, `TimeoutError` if the timeout call wins; ties at one instant go to the call scheduled first. -/
theorem C15_result_first (sc : Scen) (w0 : W) (hidle : Idle w0) (hj : w0.sp.junk = []) (hb : sc.bad = false)
    (hs : syncRes sc = none) (hstop : syncStop sc = false) (i t : Nat) (r : Res)
    (hi : (delayed sc)[i]? = some (t, .decisive r))
    (hfirst : ∀ j t' r', (delayed sc)[j]? = some (t', .decisive r') → j ≠ i → Before t i t' j)
    (hnostop : ∀ ts, (ts, Kind.stop) ∈ delayed sc → t ≤ ts) :
    (runStep sc w0).2.result = r := by
  rw [C15_result sc w0 hidle hj hb]
  have hw := winner_first (delayed sc) t r i hi hfirst
  have hns : noStopBefore t (delayed sc) = true := by
    simp only [noStopBefore, List.all_eq_true]
    intro c hc
    obtain ⟨tc, kc⟩ := c
    by_cases hk : kc = Kind.stop
    · subst hk; simp [hnostop tc hc]
    · simp [hk]
  simp [expected, hs, hstop, hw, hns]

/-- **C15 (result, interrupted).**  In the situation of `C15_result_first`, if a stop request is due strictly before the first
decisive call, the run ends with `NoResultError`. -/
theorem C15_result_stopped_first (sc : Scen) (w0 : W) (hidle : Idle w0) (hj : w0.sp.junk = []) (hb : sc.bad = false)
    (hs : syncRes sc = none) (i t : Nat) (r : Res)
    (hi : (delayed sc)[i]? = some (t, .decisive r))
    (hfirst : ∀ j t' r', (delayed sc)[j]? = some (t', .decisive r') → j ≠ i → Before t i t' j)
    (ts : Nat) (hstop : (ts, Kind.stop) ∈ delayed sc) (hlt : ts < t) :
    (runStep sc w0).2.result = .noresult := by
  rw [C15_result sc w0 hidle hj hb]
  have hw := winner_first (delayed sc) t r i hi hfirst
  have hns : noStopBefore t (delayed sc) = false := by
    simp only [noStopBefore, List.all_eq_false]
    exact ⟨(ts, Kind.stop), hstop, by simp; omega⟩
  cases hss : syncStop sc <;> simp [expected, hs, hss, hw, hns]

/-- Ties at the timeout instant follow the scheduling order: a firing scheduled *before* `run()` for the
timeout instant precedes the timeout call and wins. -/
theorem C15_tie_scheduled_before_run (T v : Nat) (w0 : W) (hidle : Idle w0) (hj : w0.sp.junk = []) :
    (runStep { timeout := T, pre := [(T, .fire v)], body := [], term := .deferred } w0).2.result = .value v := by
  rw [C15_result _ w0 hidle hj rfl]
  simp [expected, syncRes, syncFire, syncStop, delayed, winner, kindOf, noStopBefore]

/-- A firing scheduled by `f` itself for the timeout instant comes after the timeout call: `TimeoutError` stands, the late result is
dropped. -/
theorem C15_tie_scheduled_by_f (T v : Nat) (w0 : W) (hidle : Idle w0) (hj : w0.sp.junk = []) :
    (runStep { timeout := T, pre := [], body := [.later T (.fire v)], term := .deferred } w0).2.result = .timeout := by
  rw [C15_result _ w0 hidle hj rfl]
  simp [expected, syncRes, syncFire, syncStop, delayed, winner, kindOf, noStopBefore, laterKind, nowAct, List.filterMap_cons]

/-- A stop request at the very instant of the firing does not lose the result (calls due at the instant of
a crash still run). -/
theorem C15_tie_stop_and_fire (T d v : Nat) (hd : d < T) (w0 : W) (hidle : Idle w0) (hj : w0.sp.junk = []) :
    (runStep { timeout := T, pre := [(d, .stop)], body := [.later d (.fire v)], term := .deferred } w0).2.result = .value v := by
  rw [C15_result _ w0 hidle hj rfl]
  simp [expected, syncRes, syncFire, syncStop, delayed, winner, kindOf, noStopBefore, laterKind, nowAct, List.filterMap_cons, hd]

/-- A stop request strictly before the firing loses the result. -/
theorem C15_stop_before_fire (T d v : Nat) (hd : d + 1 < T) (w0 : W) (hidle : Idle w0) (hj : w0.sp.junk = []) :
    (runStep { timeout := T, pre := [(d, .stop)], body := [.later (d + 1) (.fire v)], term := .deferred } w0).2.result = .noresult := by
  rw [C15_result _ w0 hidle hj rfl]
  simp [expected, syncRes, syncFire, syncStop, delayed, winner, kindOf, noStopBefore, laterKind, nowAct, List.filterMap_cons, hd]

/-- **C15 (guards, stale junk).**  While junk of an earlier run has not been cleared, `run` raises
`StaleJunkError` and touches nothing: `f` is not called (no events), the spinner's state, the clock, the signal
handlers and `reactor.stop` are what they were; what the caller had scheduled is still pending. -/
theorem C15_guards_stale (sc : Scen) (w0 : W) (hidle : Idle w0) (hj : w0.sp.junk ≠ []) :
    let o := (runStep sc w0).2
    o.result = .stalejunk ∧ o.events = [] ∧ o.reentries = [] ∧ o.junk = w0.sp.junk ∧ o.pending = sc.pre.length ∧
    o.sigAfter = o.sigBefore ∧ o.stopRestored = true ∧ o.running = false ∧ o.elapsed = 0 ∧
    (runStep sc w0).1.sp = w0.sp ∧ (runStep sc w0).1.now = w0.now ∧ (runStep sc w0).1.sigs = w0.sigs := by
  rw [runStep_refused sc w0 hidle hj, afterPre_eq sc w0 hidle]
  simp [skippedObs, start]

/-- without stale junk `run` does not raise `StaleJunkError` - nor `ReentryError`, which is for the nested calls -/
theorem C15_guards_stale_only (sc : Scen) (w0 : W) (hidle : Idle w0) (hj : w0.sp.junk = []) (hb : sc.bad = false) :
    (runStep sc w0).2.result ≠ .stalejunk ∧ (runStep sc w0).2.result ≠ .reentry := by
  rw [runStep_ran sc w0 hidle hj hb]
  exact ⟨(run_facts sc w0 hidle).tj.outcome.not_stale, (run_facts sc w0 hidle).tj.outcome.not_reentry⟩

/-- **C15 (a timeout the reactor rejects).**  If `reactor.callLater(timeout, …)` raises, `run` raises that exception out of
the statements before its `try … finally`; `f` is never called (no events) and nothing observable has changed: every
signal handler (preserved or not), `reactor.stop`, the reactor and the junk are what they were, what the caller had
scheduled is still pending.  The only trace is in the spinner: `_saved_signals` holds the handlers it found - and the
next `_save_signals()` overwrites it (see `C15_signals_every_call`). -/
theorem C15_rejected (sc : Scen) (w0 : W) (hidle : Idle w0) (hj : w0.sp.junk = []) (hb : sc.bad = true) :
    let o := (runStep sc w0).2
    o.result = .rejected ∧ o.events = [] ∧ o.reentries = [] ∧ o.junk = [] ∧ o.pending = sc.pre.length ∧ o.sels = 0 ∧
    o.sigAfter = o.sigBefore ∧ o.stopRestored = true ∧ o.running = false ∧ o.elapsed = 0 ∧
    (runStep sc w0).1.sigs = w0.sigs ∧ (runStep sc w0).1.sp.saved = w0.sigs ∧ Idle (runStep sc w0).1 := by
  have hi := runStep_idle sc w0 hidle
  rw [runStep_rejected sc w0 hidle hj hb, afterPre_eq sc w0 hidle] at hi ⊢
  exact ⟨rfl, rfl, rfl, hj, rfl, rfl, rfl, rfl, rfl, rfl, rfl, rfl, hi⟩

/-- `run` raises what `reactor.callLater` raised only when called without stale junk and with a timeout the reactor rejects -/
theorem C15_rejected_only (sc : Scen) (w0 : W) (hidle : Idle w0) :
    (runStep sc w0).2.result = .rejected ↔ (w0.sp.junk = [] ∧ sc.bad = true) := by
  rcases run_cases sc w0 hidle with ⟨hj, ho⟩ | ⟨hj, hb, ho⟩ | ⟨hj, hb, ho⟩
  · rw [ho]
    exact ⟨nofun, fun h => absurd h.1 hj⟩
  · rw [ho]
    exact ⟨fun _ => ⟨hj, hb⟩, fun _ => rfl⟩
  · rw [ho]
    exact ⟨fun h => absurd h (run_facts sc w0 hidle).tj.outcome.not_rejected, fun h => by rw [h.2] at hb; cases hb⟩

/-- **C15 (guards, re-entry).**  Every attempt to call `Spinner.run` from inside a run (from `f` or from a
delayed call, on the same or on a fresh spinner) raised `ReentryError` — one per executed attempt — and changed
nothing else. -/
theorem C15_guards_reentry (sc : Scen) (w0 : W) (hidle : Idle w0) :
    (∀ r ∈ (runStep sc w0).2.reentries, r = .reentry) ∧
    (runStep sc w0).2.reentries.length = ((runStep sc w0).2.events.filter (isReenterEv sc)).length ∧
    (∀ (l : Nat) (f : Bool) (w : W), { exec l (.reenter f) w with u := w.u } = w) := by
  have := clause_reentry sc w0 hidle
  simp only [cReentry, Bool.and_eq_true, List.all_eq_true, beq_iff_eq, bne_iff_ne] at this
  exact ⟨this.1.1, this.2, fun _ _ _ => rfl⟩

/-- the signals the spinner preserves are SIGINT, SIGTERM and SIGCHLD (table extracted from the code) -/
theorem C15_preserved_signals : preserved 0 = true ∧ preserved 1 = true ∧ preserved 2 = true ∧
    sigNames[0]? = some "SIGINT" ∧ sigNames[1]? = some "SIGTERM" ∧ sigNames[2]? = some "SIGCHLD" ∧
    (∀ s, mustPreserve s = true → preserved s = true) :=
  ⟨by decide, by decide, by decide, by decide, by decide, by decide, must_preserved⟩

/-- **C15 (clean).**  After every `run` — returned or raised, refused or not: the reactor is not running, holds
no delayed calls and no selectables, `reactor.stop` is the genuine one and - unless `lateHandler sc` - every preserved
signal has the handler it had before the call (whatever `f` or the delayed calls installed).  After a refused run the
state is idle because `runStep` lets the harness cancel what it had scheduled; the run's own observation still counts
those calls (`C15_guards_stale`), and the third conjunct speaks of accepted runs only. -/
theorem C15_clean (sc : Scen) (w0 : W) (hidle : Idle w0) :
    Idle (runStep sc w0).1 ∧
    (lateHandler sc = false → ∀ s, preserved s = true → (runStep sc w0).1.sigs[s]? = w0.sigs[s]?) ∧
    (w0.sp.junk = [] → sc.bad = false → (runStep sc w0).2.pending = 0 ∧ (runStep sc w0).2.sels = 0 ∧ (runStep sc w0).2.running = false
      ∧ (runStep sc w0).2.stopRestored = true) := by
  refine ⟨runStep_idle sc w0 hidle, ?_, ?_⟩
  · intro hl s hs
    rw [← (runStep_link sc w0).sigAfter]
    rcases run_cases sc w0 hidle with ⟨_, ho⟩ | ⟨_, _, ho⟩ | ⟨_, _, ho⟩
    · rw [ho]; rfl
    · rw [ho]; rfl
    · rw [ho]
      show (cleaned sc w0).sigs[s]? = _
      rw [cleaned_sigs sc w0 hidle hl]
      exact restoreFrom_get 0 _ _ (run_facts sc w0 hidle).sigs s (by simpa using hs)
  · intro hj hb
    rw [runStep_ran sc w0 hidle hj hb]
    exact ⟨rfl, rfl, rfl, rfl⟩

/-- **C15 (junk).**  What a run without obligatory iterations leaves behind is exactly the recorded junk: each delayed
call of the scenario either ran or is junk — never both, never twice; the spinner's own timeout call ran, or was cancelled
because a result was recorded, or is junk; nothing else is junk except the selectables registered by actions that ran. -/
theorem C15_junk_exact (sc : Scen) (w0 : W) (hidle : Idle w0) (hj : w0.sp.junk = []) (hb : sc.bad = false) (h0 : sc.oblig = 0) :
    let o := (runStep sc w0).2
    (∀ l ∈ delayedLabels sc, o.junk.count (.call (.user l)) + (evLabels o).count (.user l) = 1) ∧
    o.junk.count (.call .timeout) + (evLabels o).count .timeout + (if isOwnResult o.result = true then 1 else 0) = 1 ∧
    (∀ l, Junk.call (.user l) ∈ o.junk → l ∈ delayedLabels sc) ∧
    o.junk.filterMap junkSel = o.events.filterMap (selEv sc) ∧
    (runStep sc w0).1.sp.junk = o.junk := by
  have := clause_junk sc w0 hidle
  simp only [cJunk, skipped, refused_false hj, hb, h0, Nat.lt_irrefl, gt_iff_lt, decide_false, Bool.false_or, Bool.or_false,
    Bool.and_eq_true, List.all_eq_true, beq_iff_eq] at this
  obtain ⟨⟨⟨h1, h2⟩, h3⟩, h4⟩ := this
  refine ⟨h1, by simpa using h2, ?_, h4, (runStep_link sc w0).junk.symm⟩
  intro l hl
  have := h3 _ hl
  simpa [junkKnown] using this

/-- **C15 (bounded).**  A run never lasts beyond its timeout, and time does not run backwards. -/
theorem C15_bounded (sc : Scen) (w0 : W) (hidle : Idle w0) (hj : w0.sp.junk = []) (hb : sc.bad = false) :
    (runStep sc w0).2.elapsed ≤ sc.timeout ∧ w0.now ≤ (runStep sc w0).1.now := by
  have hf := run_facts sc w0 hidle
  rw [runStep_ran sc w0 hidle hj hb]
  exact ⟨Nat.sub_le_of_le_add (Nat.add_comm _ _ ▸ hf.now_le),
    Nat.le_trans hf.now_ge (Nat.le_of_eq (cleaned_frame sc w0).now.symm)⟩

/-- **C15 (the loop ends).**  `reactor.run()` under `Spinner.run` always ends because the reactor was crashed — it never
runs out of things to wait for, and the fuel the model gives the loop suffices. -/
theorem C15_loop_ends_by_crash (sc : Scen) (w0 : W) (hidle : Idle w0) :
    (spinPhase sc (afterPre sc w0)).crashed = true := (run_facts sc w0 hidle).crashed

/-- **C15 (histories).**  A history - calls on either of two Spinner objects on the one reactor, `clear_junk()`, handler
installations - can be cut at any step: what follows runs from a world that is idle again, and the trace is the two traces one
after the other.  (That each call of `run` in a history is a `runStep sc w'` with `Idle w'`, which is what the statements above
assume, is `History.runs`; that `clear_junk()` returns exactly the junk of the last run of that Spinner is the clause `clearOk`
of `holds_model`.) -/
theorem C15_history_idle : ∀ (steps : List Step) (w : W) (other : Reactor.Spinner), Idle w →
    ∀ (pre post : List Step), steps = pre ++ post →
    ∃ (w' : W) (other' : Reactor.Spinner), Idle w' ∧ runSteps steps w other = runSteps pre w other ++ runSteps post w' other'
  | _, w, other, hw, pre, post, h =>
    ⟨_, _, idle_afterSteps pre other hw, h ▸ runSteps_append pre post w other⟩

/-- **C15 (signal handlers, every call).**  Whenever `run` returns or raises - its own result, `TimeoutError`,
`NoResultError`, `StaleJunkError`, what `reactor.callLater` raised - every preserved signal has the handler it had
immediately before **that** call (unless `lateHandler sc`).  `w0` is any state between two steps: in particular the spinner's `_saved_signals`
may hold anything (the handlers found by an earlier call that raised before its `try … finally`), and the process may
have changed the handlers since. -/
theorem C15_signals_every_call (sc : Scen) (w0 : W) (hidle : Idle w0) (hl : lateHandler sc = false) :
    (∀ s, preserved s = true → (runStep sc w0).1.sigs[s]? = w0.sigs[s]?) ∧
    (runStep sc w0).2.sigBefore = w0.sigs ∧ (runStep sc w0).2.sigAfter = (runStep sc w0).1.sigs ∧
    preservedSame 0 (runStep sc w0).2.sigBefore (runStep sc w0).2.sigAfter = true :=
  ⟨(C15_clean sc w0 hidle).2.1 hl, (runStep_link sc w0).sigBefore, (runStep_link sc w0).sigAfter, by
    have := clause_signals sc w0 hidle
    simpa [cSignals, hl] using this⟩

/-- **C15 (signal handlers, by induction over the history).**  In every history of `run` calls (any timeouts, also
rejected ones, none with a `lateHandler`) on either Spinner, `clear_junk()` and handler installations by the process: every call
of `run` leaves the preserved handlers as it found them. -/
theorem C15_signals_history : ∀ (steps : List Step) (w : W) (other : Reactor.Spinner), Idle w →
    (∀ sc, Step.run sc ∈ steps → lateHandler sc = false) →
    ∀ o, Obs.run o ∈ runSteps steps w other → preservedSame 0 o.sigBefore o.sigAfter = true
  | steps, w, other, hw, hl, o, h => by
      obtain ⟨sc, w', hm, hw', rfl⟩ := (history_model steps w other hw).runs o h
      simpa [cSignals, hl sc hm] using clause_signals sc w' hw'

/-- Along a history every call of `run` leaves the preserved handlers as it found them (`C15_signals_history`) and finds those
the previous step left (`sigThread`: only the process changes them between calls). -/
theorem C15_signals_model (i : Input) (hl : ∀ sc, Step.run sc ∈ i.steps → lateHandler sc = false) :
    (∀ o, Obs.run o ∈ model i → preservedSame 0 o.sigBefore o.sigAfter = true) ∧
    sigThread i.steps (model i) [0, 0, 0, 0] = true :=
  ⟨C15_signals_history i.steps init {} idle_init hl, (history_model i.steps init {} idle_init).sigs⟩

/-- **C15 (runs are isolated from earlier runs).**  The callbacks a run hangs on `f`'s Deferred belong to that run:
when the Deferred of an EARLIER run - of this Spinner or of another Spinner on the same reactor - fires or fails during
a later run (it fired after its timeout, or after an interrupt), nothing happens: no result is recorded, no timeout call
cancelled, the reactor is not crashed.  For the outcome of the later run such a firing counts like any other delayed
call that does nothing.  This is how the model is written (`exec`'s arm `.late`; `during_this_run` in `_spinner.py`), and the
correspondence check is what validates it; the theorem only states it. -/
theorem C15_late_firing_is_inert (l : Nat) (failed : Bool) (back v : Nat) (w : W) :
    exec l (.late failed back v) w = w ∧ kindOf (.late failed back v) = kindOf .noop ∧ fireRes (.late failed back v) = none :=
  ⟨rfl, rfl, rfl⟩

/-- The result of a run in whose course Deferreds of earlier runs fire is `expected sc`, which looks at the run's own
Deferred only (`C15_result` for scenarios containing `.late` actions; an instance: the late value arrives at 1, the run's
own value at 2 - the run returns its own) -/
theorem C15_own_result_despite_late_firing (T v vOld k : Nat) (hT : 2 < T) (w0 : W) (hidle : Idle w0) (hj : w0.sp.junk = []) :
    (runStep { timeout := T, pre := [], body := [.later 1 (.late false k vOld), .later 2 (.fire v)], term := .deferred } w0).2.result
      = .value v := by
  rw [C15_result _ w0 hidle hj rfl]
  simp [expected, syncRes, syncFire, syncStop, delayed, winner, kindOf, noStopBefore, laterKind, nowAct, List.filterMap_cons, hT]

/-! ## The translator tie: the model is the interpretation of the source of `_spinner.py`

`harness/pyspinner2lean.py` re-reads the source on every run and emits `TTV/Generated/SpinnerSkel.lean`; each theorem first
checks that what was found IS the reference term (`by decide` - any change of what is done or in which order breaks it) and
then that the interpretation of that term is the hand-written model. -/

section src
open TTV.SpinnerSkel

theorem stopReactor_found : Generated.SpinnerSkel.stopReactor = refStopReactor := by decide
theorem getResult_found : Generated.SpinnerSkel.getResult = refGetResult := by decide
theorem clean_found : Generated.SpinnerSkel.clean = refClean := by decide

theorem cbI_stop (fuel : Nat) (r : Res) (w : W) : cbI refStopReactor fuel refStopReactor r w = stopReactor w := by
  unfold stopReactor
  simp only [cbI, refStopReactor]

/-- `_got_success` / `_got_failure` (cancel the timeout FIRST, then store) followed by `_stop_reactor`, as found in the source,
are `Reactor.deliver` -/
theorem C15_src_callbacks (r : Res) (w : W) :
    deliverI Generated.SpinnerSkel.gotSuccess Generated.SpinnerSkel.gotFailure Generated.SpinnerSkel.stopReactor r w = deliver r w := by
  have e1 : Generated.SpinnerSkel.gotSuccess = refGotSuccess := by decide
  have e2 : Generated.SpinnerSkel.gotFailure = refGotFailure := by decide
  rw [e1, e2, stopReactor_found]
  unfold deliverI deliver
  rw [cbI_stop]
  congr 1
  -- both sides look at the state of the timeout call and at the kind of result only
  cases htc : w.sp.tcall <;> cases r <;> simp only [cbI, refGotSuccess, refGotFailure, htc]

/-- `_stop_reactor` as found in the source is `Reactor.stopReactor` -/
theorem C15_src_stop_reactor (r : Res) (w : W) : cbI Generated.SpinnerSkel.stopReactor 0 Generated.SpinnerSkel.stopReactor r w = stopReactor w := by
  rw [stopReactor_found]
  exact cbI_stop 0 r w

/-- `_timed_out` as found in the source is `Reactor.execTimeout` -/
theorem C15_src_timed_out (w : W) :
    timedOutI Generated.SpinnerSkel.timedOut Generated.SpinnerSkel.stopReactor w = execTimeout w := by
  have e1 : Generated.SpinnerSkel.timedOut = refTimedOut := by decide
  rw [e1, stopReactor_found]
  unfold timedOutI execTimeout
  simp only [cbI, refTimedOut, cbI_stop]

theorem getResultI_ref (sp : Reactor.Spinner) : getResultI refGetResult sp = getResult sp :=
  -- both sides look at `failure` and `success` only (`sp` is its own η-expansion)
  have h : ∀ f s, getResultI refGetResult { sp with failure := f, success := s } = getResult { sp with failure := f, success := s } :=
    fun f s => by cases f <;> cases s <;> rfl
  h sp.failure sp.success

/-- `_get_result` as found in the source is `Reactor.getResult` -/
theorem C15_src_get_result (sp : Reactor.Spinner) : getResultI Generated.SpinnerSkel.getResult sp = getResult sp := by
  rw [getResult_found]
  exact getResultI_ref sp

/-- `_clean` as found in the source (no obligatory iterations for the plain Spinner) cancels / removes what is left,
records it as junk after the junk already there, and leaves the reactor empty -/
theorem C15_src_clean (w : W) :
    Generated.SpinnerSkel.obligatoryIterations = 0 ∧
    (cleanI id Generated.SpinnerSkel.clean (w, [])).1 = { w with calls := [], sels := [], sp := { w.sp with junk := w.sp.junk ++ leftovers w } } ∧
    (cleanI id Generated.SpinnerSkel.clean (w, [])).2 = leftovers w := by
  rw [clean_found]
  exact ⟨by decide, rfl, rfl⟩

/-- `_save_signals`, `_restore_signals`, `not_reentrant`, `trap_unhandled_errors`, `_fake_stop` and `_cancel_timeout` as found in the
source have the shapes the model assumes -/
theorem C15_src_shapes :
    Generated.SpinnerSkel.saveSignals = .assignsFreshListOfAvailablePreserved ∧
    Generated.SpinnerSkel.restoreSignals = .reinstallsEachThenEmptiesList ∧
    Generated.SpinnerSkel.notReentrant = refNotReentrant ∧ Generated.SpinnerSkel.runIsNotReentrant = true ∧
    Generated.SpinnerSkel.trapUnhandledErrors = refTrap ∧ Generated.SpinnerSkel.fakeStop = refFakeStop ∧
    Generated.SpinnerSkel.cancelTimeoutIsGuardedCancel = true := by decide

/-- **`Spinner.run` as found in the source is the model's `runStep`**: the interpretation of the skeleton (with the `run_function`,
`_get_result` and `_clean` found) from the state in which `run` is called yields the model's final state (up to what the harness
cancels after a refusal) and result; nothing in it is beyond the model (`bad = false`): the callbacks are guarded by a run token that
is set over before the result is read. -/
theorem C15_src_run (sc : Scen) (w0 : W) :
    let s := interp sc Generated.SpinnerSkel.runFunction Generated.SpinnerSkel.getResult Generated.SpinnerSkel.clean
      Generated.SpinnerSkel.run { w := enter sc w0 }
    (runStep sc w0).1 = (if s.raised.isSome then { s.w with calls := [] } else s.w) ∧
    (runStep sc w0).2.result = (s.raised.getD (s.result.getD .noresult)) ∧ s.bad = false := by
  have e1 : Generated.SpinnerSkel.run = refRun := by decide
  have e2 : Generated.SpinnerSkel.runFunction = refRunFunction := by decide
  rw [e1, e2, getResult_found, clean_found, runStep_eq, show enter sc w0 = afterPre sc w0 from rfl]
  cases hj : (afterPre sc w0).sp.junk.isEmpty with
  | false => simp [interp, stepI, refRun, hj, obsOf]
  | true =>
    cases hb : sc.bad with
    | true => simp [interp, stepI, refRun, hj, hb, obsOf, saveSignals]
    | false =>
      simp only [interp, stepI, refRun, hj, hb, getResultI_ref, cleanI, refClean, refRunFunction, Option.isSome_none,
        Bool.false_eq_true, if_false, if_true, Bool.and_self, beq_self_eq_true, Bool.not_true, Bool.or_false,
        Option.getD_some, Option.getD_none, List.nil_append]
      exact ⟨rfl, rfl, trivial⟩

end src

/-! ## non-vacuity: concrete histories (evaluated by the kernel) -/

def resultsOf (t : Trace) : List Res := t.filterMap fun | .run o => some o.result | _ => none

/-- value, timeout at a tie, stop, reuse after a failure (fix a08ec11), refusal while junk is uncleared -/
example : resultsOf (model ⟨false, [
    .run { timeout := 5, pre := [], body := [.later 3 (.fire 7)], term := .deferred },
    .run { timeout := 2, pre := [], body := [.later 2 (.fire 7)], term := .deferred },
    .clearJunk,
    .run { timeout := 5, pre := [(1, .stop)], body := [.later 3 (.fail 4)], term := .deferred },
    .clearJunk,
    .run { timeout := 5, pre := [], body := [], term := .raise 9 },
    .run { timeout := 5, pre := [], body := [.later 9 .noop], term := .ret 1 },
    .run { timeout := 5, pre := [], body := [], term := .ret 2 }]⟩)
  = [.value 7, .timeout, .noresult, .raised 9, .value 1, .stalejunk] := by decide

/-- the hypothesis `Idle w0` of the theorems above is met: a history starts idle -/
example : Idle init := idle_init

/-- the history of `seeded/C15-c`: a call the reactor rejects (SIGINT has handler 1 then), the process installs handler 2,
an ordinary run: it returns its value and leaves handler 2 - not the stale handler 1 saved by the rejected call -/
example : (model ⟨false, [
    .setSig 0 1,
    .run { timeout := 0, bad := true, pre := [], body := [], term := .ret 0 },
    .setSig 0 2,
    .run { timeout := 3, pre := [], body := [.later 1 (.fire 7)], term := .deferred }]⟩).filterMap
      (fun | .run o => some (o.result, o.sigBefore, o.sigAfter) | _ => none)
    = [(.rejected, [1, 0, 0, 0], [1, 0, 0, 0]), (.value 7, [2, 0, 0, 0], [2, 0, 0, 0])] := by decide

/-- `audit/C15/violation_1.py`: run 1 times out on its Deferred; during run 2 of the same Spinner that Deferred fires (1) before run 2's own
(2): run 2 returns its own value.  `audit/C15/violation_2.py`: run 1 of Spinner A is interrupted; during a run of Spinner B its Deferred
fires: B's run is not disturbed -/
example : resultsOf (model ⟨false, [
    .run { timeout := 1, pre := [], body := [], term := .deferred },
    .run { timeout := 9, pre := [], body := [.later 1 (.late false 1 7), .later 2 (.fire 3)], term := .deferred },
    .run { timeout := 5, pre := [(1, .stop)], body := [], term := .deferred },
    .clearJunk,
    .swap,
    .run { timeout := 9, pre := [], body := [.later 1 (.late false 1 7), .later 2 (.fire 4)], term := .deferred }]⟩)
    = [.timeout, .value 3, .noresult, .value 4] := by decide

end TTV.Props.C15
