import TTV.Generated.C11
import TTV.Spec.C11
import TTV.Lemmas.StreamDeco
import TTV.Lemmas.DecoSrc
import TTV.Generated.DecoSrc
/-! # C11 — stream decorators forward each event once, change only their field, never alias

All statements are for **every** decorator tree (any depth and fan-out), every heap of caller objects and
every call sequence.

The model (`deliver`, `runCalls`) threads a heap through a left-to-right walk of the tree; the specification reads each leaf
by its path from the root alone.  The bridge is a relation per leaf (`StatusRel` for one call, `LogRel` for a run) that may be
read in the heap the walk leaves *or in any later one* (`Le`, `Stable`): that is what carries the claim about an earlier
sibling through the rest of the walk and of the run.  The `C11_*` theorems speak of `leafLogs` / `finalHeap` / `coreGot`, the
run before `observe`; `model_eq` and `holds_model` carry them to `Spec.C11.holds` of the model's trace. -/
namespace TTV.Props.C11
open TTV.Stream TTV.Stream.Deco TTV.Spec.C11

/-- Recursive, clause for clause like `Spec.C11.all2`, so that `⟨_, _⟩` and `trivial` build it and `All2.to_bool` is
direct. -/
def All2 {α β : Type} (R : α → β → Prop) : List α → List β → Prop
  | [], [] => True
  | a :: as, b :: bs => R a b ∧ All2 R as bs
  | _, _ => False

theorem All2.ind {α β : Type} {R : α → β → Prop} {P : List α → List β → Prop} (nil : P [] [])
    (cons : ∀ a as b bs, R a b → All2 R as bs → P as bs → P (a :: as) (b :: bs)) :
    ∀ {as : List α} {bs : List β}, All2 R as bs → P as bs
  | [], [], _ => nil
  | a :: as, b :: bs, h => cons a as b bs h.1 h.2 (All2.ind nil cons h.2)
  | [], _ :: _, h => False.elim h
  | _ :: _, [], h => False.elim h

theorem All2.append {α β : Type} {R : α → β → Prop} : ∀ {as : List α} {bs : List β} {as' : List α} {bs' : List β},
    All2 R as bs → All2 R as' bs' → All2 R (as ++ as') (bs ++ bs') := by
  intro as bs as' bs' h h'
  exact All2.ind (R := R) (P := fun as bs => All2 R (as ++ as') (bs ++ bs')) (nil := h')
    (cons := fun a as b bs hab _ ih => show All2 R (a :: (as ++ as')) (b :: (bs ++ bs')) from ⟨hab, ih⟩) h

theorem All2.imp {α β : Type} {R S : α → β → Prop} (hRS : ∀ a b, R a b → S a b) {as : List α} {bs : List β}
    (h : All2 R as bs) : All2 S as bs :=
  All2.ind (P := All2 S) trivial (fun a _ b _ hab _ ih => And.intro (hRS a b hab) ih) h

theorem All2.map_left {α β γ : Type} {R : α → β → Prop} (f : γ → α) {cs : List γ} {bs : List β}
    (h : All2 (fun c b => R (f c) b) cs bs) : All2 R (cs.map f) bs :=
  All2.ind (P := fun cs bs => All2 R (cs.map f) bs) trivial (fun _ _ _ _ hab _ ih => And.intro hab ih) h

theorem All2.map_right {α β γ : Type} {R : α → γ → Prop} (f : β → γ) {as : List α} {bs : List β}
    (h : All2 (fun a b => R a (f b)) as bs) : All2 R as (bs.map f) :=
  All2.ind (P := fun as bs => All2 R as (bs.map f)) trivial (fun _ _ _ _ hab _ ih => And.intro hab ih) h

theorem All2.map_self {α β : Type} (f : α → β) : ∀ (as : List α), All2 (fun a b => b = f a) as (as.map f)
  | [] => trivial
  | _ :: as => ⟨rfl, All2.map_self f as⟩

theorem All2.right_mem {α β : Type} {R : α → β → Prop} {as : List α} {bs : List β} (h : All2 R as bs) :
    ∀ b ∈ bs, ∃ a, R a b :=
  All2.ind (P := fun _ bs => ∀ b ∈ bs, ∃ a, R a b) (fun _ hb => nomatch hb)
    (fun a _ _ _ hab _ ih b hb => by
      rcases List.mem_cons.mp hb with rfl | hb
      · exact ⟨a, hab⟩
      · exact ih b hb) h

theorem All2.length {α β : Type} {R : α → β → Prop} : ∀ {as : List α} {bs : List β}, All2 R as bs → as.length = bs.length :=
  All2.ind (R := R) (P := fun as bs => as.length = bs.length) rfl fun _ _ _ _ _ _ ih => congrArg (· + 1) ih

theorem All2.zipWith {α β γ δ : Type} {R : α → β → Prop} {S : α → γ → Prop} {T : α → δ → Prop} {f : β → γ → δ}
    (hT : ∀ a b c, R a b → S a c → T a (f b c)) {as : List α} {bs : List β} (h1 : All2 R as bs) :
    ∀ {cs : List γ}, All2 S as cs → All2 T as (List.zipWith f bs cs) :=
  All2.ind (P := fun as bs => ∀ {cs}, All2 S as cs → All2 T as (List.zipWith f bs cs))
    (fun {cs} h2 => by cases cs <;> trivial)
    (fun a _ b _ hab _ ih {cs} h2 => by
      cases cs with
      | nil => exact False.elim h2
      | cons c cs => exact And.intro (hT a b c hab h2.1) (ih h2.2)) h1

theorem All2.to_bool {α β : Type} {R : α → β → Prop} {p : α → β → Bool} (h : ∀ a b, R a b → p a b = true)
    {as : List α} {bs : List β} (hh : All2 R as bs) : all2 p as bs = true :=
  All2.ind (P := fun as bs => all2 p as bs = true) rfl
    (fun a _ b _ hab _ ih => by simp only [all2, h a b hab, ih, Bool.and_self]) hh

theorem All2.replicate {α β : Type} {R : α → β → Prop} (b : β) : ∀ (as : List α), (∀ a, R a b) →
    All2 R as (List.replicate as.length b)
  | [], _ => trivial
  | a :: as, h => ⟨h a, All2.replicate b as h⟩

def Le (h h' : Heap) : Prop := h'.caller = h.caller ∧ ∃ x, h'.fresh = h.fresh ++ x

theorem Le.caller {h h' : Heap} (hle : Le h h') : h'.caller = h.caller := hle.1
theorem Le.refl (h : Heap) : Le h h := ⟨rfl, [], by simp⟩
theorem Le.trans {a b c : Heap} (h1 : Le a b) (h2 : Le b c) : Le a c := by
  obtain ⟨c1, x, hx⟩ := h1
  obtain ⟨c2, y, hy⟩ := h2
  exact ⟨c2.trans c1, x ++ y, by rw [hy, hx, List.append_assoc]⟩

/-- the reference points into the heap: a set built during the run is there (a caller's index always counts: `deref`
reads a missing caller object as the empty set) -/
def Valid (h : Heap) : Option Ref → Prop
  | some (.fresh k) => k < h.fresh.length
  | _ => True

theorem Valid.mono {h h' : Heap} (hle : Le h h') {r : Option Ref} (hv : Valid h r) : Valid h' r := by
  obtain ⟨_, x, hx⟩ := hle
  rcases r with _ | _ | k
  · trivial
  · trivial
  · simp only [Valid, hx, List.length_append] at hv ⊢; omega

theorem deref_le {h h' : Heap} (hle : Le h h') {r : Option Ref} (hv : Valid h r) : deref h' r = deref h r := by
  obtain ⟨hc, x, hx⟩ := hle
  rcases r with _ | k | k
  · rfl
  · simp only [deref, hc]
  · simp only [deref, hx, List.getElem?_append_left hv]

theorem deref_alloc (h : Heap) (s : List Nat) :
    deref { h with fresh := h.fresh ++ [s] } (some (.fresh h.fresh.length)) = some s := by
  simp [deref]

/-- the event as a value: its tags argument replaced by what that object holds in `h`; for the caller's events the
specification's `valueOf` over the caller's objects (`valOf_lift`) -/
def valOf (h : Heap) (e : EventOf Ref) : Event := snapEvent e (deref h e.tags)

theorem valOf_le {h h' : Heap} (hle : Le h h') {e : EventOf Ref} (hv : Valid h e.tags) : valOf h' e = valOf h e := by
  simp only [valOf, deref_le hle hv]

/-- the tags object a sink holds still exists and still has the value it had at receipt -/
def Stable (H : Heap) : Got → Prop
  | .status e s => Valid H e.tags ∧ deref H e.tags = s
  | _ => True

theorem Stable.mono {H H' : Heap} (hle : Le H H') {g : Got} (h : Stable H g) : Stable H' g := by
  cases g with
  | status e s => exact ⟨Valid.mono hle h.1, (deref_le hle h.1).trans h.2⟩
  | _ => trivial

/-! The specification's `applyStep` and `triggers` spell out again what the model's steps do. -/
theorem applyStep_stamp (V : Event) : applyStep V .stamp = { V with timestamp := fillNow V.timestamp } := by
  rw [applyStep]; cases V.timestamp <;> rfl

theorem applyStep_pre (c : Str) (V : Event) : applyStep V (.pre c) = { V with route := prefixRoute c V.route } := by
  rw [applyStep]; cases V.route <;> rfl

theorem applyStep_tag (h : Heap) (e : EventOf Ref) (a dd : List Nat) :
    applyStep (valOf h e) (.tag a dd) = snapEvent e (taggerOut h e a dd) := rfl

/-- `e'` is `e` in the seven fields no decorator owns (all but tags, timestamp and route code) -/
abbrev SameRest (e e' : Event) : Prop :=
  e'.testId = e.testId ∧ e'.status = e.status ∧ e'.runnable = e.runnable ∧ e'.fileName = e.fileName
    ∧ e'.fileBytes = e.fileBytes ∧ e'.eof = e.eof ∧ e'.mime = e.mime

theorem applyStep_fields (e : Event) (s : Step) : SameRest e (applyStep e s) := by
  cases s <;> exact ⟨rfl, rfl, rfl, rfl, rfl, rfl, rfl⟩

theorem applyStep_status (e : Event) (s : Step) : (applyStep e s).status = e.status := (applyStep_fields e s).2.1

/-- `fires` reads the table extracted from the code (`Generated.Stream.failFast`), `triggers` is the specification's -/
theorem fires_eq (s : Option Status) : fires s = triggers s := by
  cases s with
  | none => rfl
  | some s => cases s <;> rfl

theorem deliver_tagger (n : Nat) (a dd : List Nat) (ts : List Dec) (h : Heap) (e : EventOf Ref) :
    deliver n (.tagger a dd ts) h (.status e) =
      match taggerOut h e a dd with
      | none => deliverL n ts h (.status { e with tags := none })
      | some s => deliverL n ts { h with fresh := h.fresh ++ [s] } (.status { e with tags := some (.fresh h.fresh.length) }) :=
  rfl

theorem deliver_copy (n : Nat) (ts : List Dec) (h : Heap) (m : Msg) : deliver n (.copy ts) h m = deliverL n ts h m := rfl

theorem deliverL_cons (n : Nat) (t : Dec) (ts : List Dec) (h : Heap) (m : Msg) :
    deliverL n (t :: ts) h m =
      ((deliverL n ts (deliver n t h m).1 m).1, (deliver n t h m).2 ++ (deliverL n ts (deliver n t h m).1 m).2) := rfl

/-- what the leaf at the end of path `p` got (`g`) for the `status` call number `n` whose value at the root is `V`; `H` is a
heap in which what a sink got still has its value: the one the call leaves, or any later one (`StatusRel.mono`) -/
def StatusRel (n : Nat) (V : Event) (H : Heap) (p : Leaf × List Step) (g : List Got) : Prop :=
  match p.1 with
  | .sink => ∃ e s, g = [.status e s] ∧ Stable H (.status e s) ∧ snapEvent e s = pathTransform p.2 V
  | .failfast => g = if triggers V.status then [.fired n] else []

theorem StatusRel.mono {n : Nat} {V : Event} {H H' : Heap} (hle : Le H H') {p : Leaf × List Step} {g : List Got}
    (h : StatusRel n V H p g) : StatusRel n V H' p g := by
  obtain ⟨l, path⟩ := p
  cases l with
  | sink => obtain ⟨e, s, h1, h2, h3⟩ := h; exact ⟨e, s, h1, Stable.mono hle h2, h3⟩
  | failfast => exact h

theorem StatusRel.step {n : Nat} {V : Event} {H : Heap} (s : Step) {p : Leaf × List Step} {g : List Got}
    (h : StatusRel n (applyStep V s) H p g) : StatusRel n V H (p.1, s :: p.2) g := by
  obtain ⟨l, path⟩ := p
  cases l with
  | sink => exact h
  | failfast => rw [StatusRel, applyStep_status] at h; exact h

theorem StatusRel.under {n : Nat} {V V' : Event} {H : Heap} (s : Step) (hV : applyStep V s = V')
    {ps : List (Leaf × List Step)} {gs : List (List Got)} (h : All2 (StatusRel n V' H) ps gs) :
    All2 (StatusRel n V H) (ps.map fun p => (p.1, s :: p.2)) gs :=
  All2.map_left _ (All2.imp (fun _ _ hh => StatusRel.step s (hV ▸ hh)) h)

mutual
/-- `StatusRel` is read in the heap the call leaves.  Induction over the tree: a decorator hands on a rewritten event and
`StatusRel.under` turns the claim about that one into the claim about the event it received; a later sibling starts from the
heap the earlier ones left, where the event still has its value (`valOf_le`) and the earlier leaves still hold theirs (`StatusRel.mono`). -/
theorem deliver_status : ∀ (d : Dec) (n : Nat) (h : Heap) (e : EventOf Ref), Valid h e.tags →
    Le h (deliver n d h (.status e)).1 ∧
    All2 (StatusRel n (valOf h e) (deliver n d h (.status e)).1) (paths d) (deliver n d h (.status e)).2
  | .sink, n, h, e, hv => ⟨Le.refl h, ⟨e, _, rfl, ⟨hv, rfl⟩, rfl⟩, trivial⟩
  | .failfast, n, h, e, hv => ⟨Le.refl h, congrArg (fun b : Bool => if b then [Got.fired n] else []) (fires_eq e.status), trivial⟩
  | .copy ts, n, h, e, hv => deliverL_status ts n h e hv
  | .tagger a dd ts, n, h, e, hv => by
      rw [deliver_tagger]
      cases hout : taggerOut h e a dd with
      | none =>
        have ih := deliverL_status ts n h { e with tags := none } trivial
        exact ⟨ih.1, StatusRel.under (.tag a dd) (by rw [applyStep_tag, hout]; rfl) ih.2⟩
      | some s =>
        have ih := deliverL_status ts n { h with fresh := h.fresh ++ [s] }
          { e with tags := some (.fresh h.fresh.length) } (by simp [Valid])
        have hle : Le h { h with fresh := h.fresh ++ [s] } := ⟨rfl, [s], rfl⟩
        refine ⟨Le.trans hle ih.1, StatusRel.under (.tag a dd) ?_ ih.2⟩
        rw [applyStep_tag, hout, valOf, deref_alloc]; rfl
  | .stamp t, n, h, e, hv => by
      have ih := deliver_status t n h { e with timestamp := fillNow e.timestamp } hv
      exact ⟨ih.1, StatusRel.under .stamp (applyStep_stamp _) ih.2⟩
  | .toQueue c t, n, h, e, hv => by
      have ih := deliver_status t n h { e with route := prefixRoute c e.route } hv
      exact ⟨ih.1, StatusRel.under (.pre c) (applyStep_pre c _) ih.2⟩
theorem deliverL_status : ∀ (ts : List Dec) (n : Nat) (h : Heap) (e : EventOf Ref), Valid h e.tags →
    Le h (deliverL n ts h (.status e)).1 ∧
    All2 (StatusRel n (valOf h e) (deliverL n ts h (.status e)).1) (pathsL ts) (deliverL n ts h (.status e)).2
  | [], n, h, e, hv => ⟨Le.refl h, trivial⟩
  | t :: ts, n, h, e, hv => by
      have ih1 := deliver_status t n h e hv
      have ih2 := deliverL_status ts n (deliver n t h (.status e)).1 e (Valid.mono ih1.1 hv)
      rw [valOf_le ih1.1 hv] at ih2
      exact ⟨Le.trans ih1.1 ih2.1, All2.append (All2.imp (fun p g hh => StatusRel.mono ih2.1 hh) ih1.2) ih2.2⟩
end

def ctlGot (g : Got) (p : Leaf × List Step) : List Got :=
  match p.1 with
  | .sink => [g]
  | .failfast => []

theorem ctlGot_step (g : Got) (p : Leaf × List Step) (s : Step) : ctlGot g (p.1, s :: p.2) = ctlGot g p := rfl

theorem map_ctlGot_step (g : Got) (s : Step) (ps : List (Leaf × List Step)) :
    (ps.map fun p => (p.1, s :: p.2)).map (ctlGot g) = ps.map (ctlGot g) := by
  rw [List.map_map]; exact List.map_congr_left fun p _ => ctlGot_step g p s

mutual
theorem deliver_ctl : ∀ (d : Dec) (n : Nat) (h : Heap) (m : Msg) (g : Got),
    (m = .start ∧ g = .start) ∨ (m = .stop ∧ g = .stop) → deliver n d h m = (h, (paths d).map (ctlGot g))
  | .sink, n, h, m, g, hm | .failfast, n, h, m, g, hm => by rcases hm with ⟨rfl, rfl⟩ | ⟨rfl, rfl⟩ <;> rfl
  | .copy ts, n, h, m, g, hm => by rw [deliver_copy, paths]; exact deliverL_ctl ts n h m g hm
  | .tagger a dd ts, n, h, m, g, hm => by
      -- with the right side rewritten backwards the goal is `deliver n (.tagger a dd ts) h m = deliverL n ts h m`: it
      -- computes once `m` is known
      rw [paths, map_ctlGot_step, ← deliverL_ctl ts n h m g hm]; rcases hm with ⟨rfl, -⟩ | ⟨rfl, -⟩ <;> rfl
  | .stamp t, n, h, m, g, hm | .toQueue _ t, n, h, m, g, hm => by
      rw [paths, map_ctlGot_step, ← deliver_ctl t n h m g hm]; rcases hm with ⟨rfl, -⟩ | ⟨rfl, -⟩ <;> rfl
theorem deliverL_ctl : ∀ (ts : List Dec) (n : Nat) (h : Heap) (m : Msg) (g : Got),
    (m = .start ∧ g = .start) ∨ (m = .stop ∧ g = .stop) → deliverL n ts h m = (h, (pathsL ts).map (ctlGot g))
  | [], n, h, m, g, hm => rfl
  | t :: ts, n, h, m, g, hm => by
      rw [deliverL_cons, deliver_ctl t n h m g hm, deliverL_ctl ts n h m g hm, pathsL, List.map_append]
end

theorem valid_lift (h : Heap) (e : EventOf Nat) : Valid h (liftEvent e).tags := by
  simp only [liftEvent]
  cases e.tags <;> trivial

theorem deref_caller (h : Heap) (r : Option Nat) : deref h (r.map .caller) = objValue h.caller r := by
  cases r <;> rfl

theorem valOf_lift (h : Heap) (e : EventOf Nat) : valOf h (liftEvent e) = valueOf h.caller e := by
  simp only [valOf, valueOf, snapEvent, liftEvent, deref_caller]

theorem deliver_le (d : Dec) (n : Nat) (h : Heap) (c : Call) : Le h (deliver n d h c.msg).1 := by
  cases c with
  | start => rw [Call.msg, deliver_ctl d n h .start .start (.inl ⟨rfl, rfl⟩)]; exact Le.refl h
  | stop => rw [Call.msg, deliver_ctl d n h .stop .stop (.inr ⟨rfl, rfl⟩)]; exact Le.refl h
  | status e => exact (deliver_status d n h (liftEvent e) (valid_lift h e)).1

/-- `core` of what the trace shows for `g`, whatever the final heap (`core_observe`): the `forward` and `failfast` clauses of
the specification compare just this -/
def coreGot : Got → Core
  | .start => .start
  | .stop => .stop
  | .fired n => .fired n
  | .status e s => .status (snapEvent e s)

theorem core_observe (H : Heap) (g : Got) : core (observe H g) = coreGot g := by cases g <;> rfl

/-- the log of the leaf at the end of path `p` after the calls `cs` (the first of which has number `n`) -/
def LogRel (objs : List TagObj) (cs : List Call) (n : Nat) (H : Heap) (p : Leaf × List Step) (log : List Got) : Prop :=
  (∀ g ∈ log, Stable H g) ∧
  match p.1 with
  | .sink => log.map coreGot = cs.map (expectSink objs p.2)
  | .failfast => log.map coreGot = expectFailFast n cs

theorem LogRel.mono {objs : List TagObj} {cs : List Call} {n : Nat} {H H' : Heap} (hle : Le H H')
    {p : Leaf × List Step} {log : List Got} (h : LogRel objs cs n H p log) : LogRel objs cs n H' p log :=
  ⟨fun g hg => Stable.mono hle (h.1 g hg), h.2⟩

theorem LogRel.status {objs : List TagObj} {cs : List Call} {n : Nat} {H : Heap} {p : Leaf × List Step}
    {e : EventOf Nat} {g log : List Got} (h1 : StatusRel n (valueOf objs e) H p g) (h2 : LogRel objs cs (n + 1) H p log) :
    LogRel objs (.status e :: cs) n H p (g ++ log) := by
  obtain ⟨l, path⟩ := p
  cases l with
  | sink =>
    obtain ⟨e', s, rfl, hst, hval⟩ := h1
    exact ⟨fun g hg => (List.mem_cons.mp hg).elim (· ▸ hst) (h2.1 g), by
      simp only [List.cons_append, List.nil_append, List.map_cons, coreGot, expectSink, hval]; exact congrArg _ h2.2⟩
  | failfast =>
    -- `(valueOf objs e).status` computes to `e.status`, which is what `expectFailFast` reads
    change g = if triggers e.status then [.fired n] else [] at h1
    subst h1
    refine ⟨fun g hg => (List.mem_append.mp hg).elim (fun hg => ?_) (h2.1 g), ?_⟩
    · split at hg
      · cases List.mem_singleton.mp hg; trivial
      · cases hg
    · simp only [List.map_append, expectFailFast]
      split <;> exact congrArg (_ ++ ·) h2.2

theorem LogRel.ctl {objs : List TagObj} {cs : List Call} {n : Nat} {H : Heap} {p : Leaf × List Step} {c : Call} {g : Got}
    {log : List Got} (hc : (c = .start ∧ g = .start) ∨ (c = .stop ∧ g = .stop)) (h2 : LogRel objs cs (n + 1) H p log) :
    LogRel objs (c :: cs) n H p (ctlGot g p ++ log) := by
  obtain ⟨l, path⟩ := p
  cases l with
  | sink =>
    rcases hc with ⟨rfl, rfl⟩ | ⟨rfl, rfl⟩ <;>
      exact ⟨fun g' hg => (List.mem_cons.mp hg).elim (· ▸ trivial) (h2.1 g'), congrArg (_ :: ·) h2.2⟩
  | failfast => rcases hc with ⟨rfl, -⟩ | ⟨rfl, -⟩ <;> exact h2

mutual
theorem paths_length : ∀ d : Dec, (paths d).length = nLeaves d
  | .sink | .failfast => rfl
  | .copy ts => pathsL_length ts
  | .tagger _ _ ts => by rw [paths, List.length_map]; exact pathsL_length ts
  | .stamp t | .toQueue _ t => by rw [paths, List.length_map]; exact paths_length t
theorem pathsL_length : ∀ ts : List Dec, (pathsL ts).length = nLeavesL ts
  | [] => rfl
  | t :: ts => by rw [pathsL, List.length_append, paths_length t, pathsL_length ts]; rfl
end

theorem run_leaves (d : Dec) (objs : List TagObj) : ∀ (cs : List Call) (n : Nat) (h : Heap), h.caller = objs →
    Le h (runCalls d n h cs).1 ∧ All2 (LogRel objs cs n (runCalls d n h cs).1) (paths d) (runCalls d n h cs).2
  | [], n, h, hc => by
      refine ⟨Le.refl h, ?_⟩
      rw [runCalls, ← paths_length]
      refine All2.replicate _ _ fun p => ⟨fun _ hg => (nomatch hg), ?_⟩
      cases p.1 <;> rfl
  | c :: cs, n, h, hc => by
      have hle1 := deliver_le d n h c
      have ih := run_leaves d objs cs (n + 1) (deliver n d h c.msg).1 (hle1.caller.trans hc)
      refine ⟨Le.trans hle1 ih.1, ?_⟩
      rw [runCalls]
      cases c with
      | status e =>
        have hd := (deliver_status d n h (liftEvent e) (valid_lift h e)).2
        rw [valOf_lift, hc] at hd
        refine All2.zipWith ?_ (All2.imp (fun _ _ => StatusRel.mono ih.1) hd) ih.2
        exact fun _ _ _ => LogRel.status
      | start =>
        rw [Call.msg, deliver_ctl d n h .start .start (.inl ⟨rfl, rfl⟩)] at ih ⊢
        refine All2.zipWith ?_ (All2.map_self _ _) ih.2
        exact fun _ _ _ hg => hg ▸ LogRel.ctl (.inl ⟨rfl, rfl⟩)
      | stop =>
        rw [Call.msg, deliver_ctl d n h .stop .stop (.inr ⟨rfl, rfl⟩)] at ih ⊢
        refine All2.zipWith ?_ (All2.map_self _ _) ih.2
        exact fun _ _ _ hg => hg ▸ LogRel.ctl (.inr ⟨rfl, rfl⟩)

theorem callerSnaps_eq (d : Dec) (objs : List TagObj) : ∀ (cs : List Call) (n : Nat) (h : Heap), h.caller = objs →
    callerSnaps d n h cs = (statusEvents cs).map fun e => (objValue objs e.tags, objValue objs e.tags)
  | [], _, _, _ => rfl
  | c :: cs, n, h, hc => by
      have hc' := (deliver_le d n h c).caller.trans hc
      have ih := callerSnaps_eq d objs cs (n + 1) _ hc'
      cases c with
      | status e => rw [callerSnaps, ih, deref_caller, deref_caller, hc, hc']; rfl
      | _ => exact ih

def leafLogs (i : Input) : List (List Got) := (runCalls i.tree 0 { caller := i.objs, fresh := [] } i.calls).2
def finalHeap (i : Input) : Heap := (runCalls i.tree 0 { caller := i.objs, fresh := [] } i.calls).1

theorem run_input (i : Input) :
    Le { caller := i.objs, fresh := [] } (finalHeap i)
      ∧ All2 (LogRel i.objs i.calls 0 (finalHeap i)) (paths i.tree) (leafLogs i) :=
  run_leaves i.tree i.objs i.calls 0 { caller := i.objs, fresh := [] } rfl

/-- **C11 (forward)**: the leaves of the tree correspond one-to-one, left to right, to the logs; the log of every
sink is exactly the call sequence — each `startTestRun` / `stopTestRun` / `status` once, in order — and each status
it holds is `pathTransform` of the caller's event along *its own* path only: tags `(t ∪ add) \ discard` (`None` when
empty) per tagger, timestamp filled iff missing per timestamper, route code prefixed per `StreamToQueue`, every other
field unchanged.  Siblings and other branches do not occur in the statement: what one target receives is independent
of them. -/
theorem C11_forward (i : Input) :
    All2 (fun (p : Leaf × List Step) log => p.1 = .sink → log.map coreGot = i.calls.map (expectSink i.objs p.2))
      (paths i.tree) (leafLogs i) :=
  All2.imp (fun _ _ h hp => by simpa only [LogRel, hp] using h.2) (run_input i).2

/-- **C11 (fail fast)**: a `StreamFailFast` leaf calls `on_error` exactly once for each `status` whose `test_status`
is `fail` or `uxsuccess` (during that very call), and never otherwise. -/
theorem C11_failfast (i : Input) :
    All2 (fun (p : Leaf × List Step) log => p.1 = .failfast → log.map coreGot = expectFailFast 0 i.calls)
      (paths i.tree) (leafLogs i) :=
  All2.imp (fun _ _ h hp => by simpa only [LogRel, hp] using h.2) (run_input i).2

/-- **C11 (no mutation)**: whatever the tree and the calls, the caller's objects are the same at the end; the second half
says it again by value (the references valid before the first call are the caller's).  That every set built on the way is
only appended, no existing object written, is the `Le` of `run_input`, and per call `C11_no_mutation_step`. -/
theorem C11_no_mutation (i : Input) :
    (finalHeap i).caller = i.objs ∧ ∀ r, Valid { caller := i.objs, fresh := [] } r → deref (finalHeap i) r = deref { caller := i.objs, fresh := [] } r :=
  ⟨(run_input i).1.caller, fun _ hv => deref_le (run_input i).1 hv⟩

/-- each single call leaves every existing object as it was -/
theorem C11_no_mutation_step (d : Dec) (n : Nat) (h : Heap) (c : Call) (r : Option Ref) (hv : Valid h r) :
    deref (deliver n d h c.msg).1 r = deref h r := deref_le (deliver_le d n h c) hv

/-- **C11 (independent)**: the tags object a sink holds for an event still exists when the run is over and has the
value it had when the sink received it (no later write through an alias shared with a sibling or the caller). -/
theorem C11_independent (i : Input) : ∀ log ∈ leafLogs i, ∀ e s, Got.status e s ∈ log → deref (finalHeap i) e.tags = s := by
  intro log hlog e s hg
  obtain ⟨p, hp⟩ := All2.right_mem (run_input i).2 log hlog
  exact (hp.1 _ hg).2

/-- `pathTransform` touches nothing but tags, timestamp and route code -/
theorem C11_other_fields (p : List Step) (e : Event) :
    (pathTransform p e).testId = e.testId ∧ (pathTransform p e).status = e.status ∧ (pathTransform p e).runnable = e.runnable
    ∧ (pathTransform p e).fileName = e.fileName ∧ (pathTransform p e).fileBytes = e.fileBytes ∧ (pathTransform p e).eof = e.eof
    ∧ (pathTransform p e).mime = e.mime :=
  List.foldlRecOn (motive := SameRest e) p applyStep ⟨rfl, rfl, rfl, rfl, rfl, rfl, rfl⟩ fun e' he' s _ => by simpa only [SameRest, applyStep_fields e' s] using he'

/-- a supplied timestamp is never changed -/
theorem C11_timestamp_kept (p : List Step) (e : Event) (t : Ts) (h : e.timestamp = some t) :
    (pathTransform p e).timestamp = some t :=
  List.foldlRecOn (motive := fun e' => e'.timestamp = some t) p applyStep h
    fun _ he' s _ => by cases s <;> simp only [applyStep, he']

theorem clause_of_logs (H : Heap) (l : Leaf) (expect : List Step → List Core) {ps : List (Leaf × List Step)}
    {logs : List (List Got)} (h : All2 (fun p log => p.1 = l → log.map coreGot = expect p.2) ps logs) :
    all2 (fun p log => p.1 != l || log.map core == expect p.2) ps (logs.map fun log => log.map (observe H)) = true := by
  refine All2.to_bool (R := fun p (l' : List LeafEv) => p.1 = l → l'.map core = expect p.2) ?_
    (All2.map_right _ (All2.imp ?_ h))
  · intro p l' hp
    by_cases hl : p.1 = l <;> simp [hl, hp]
  · intro p log hp hl
    rw [List.map_map, ← hp hl]
    exact List.map_congr_left fun g _ => core_observe H g

theorem model_eq (i : Input) : model i =
    { leaves := (leafLogs i).map fun log => log.map (observe (finalHeap i))
      caller := callerSnaps i.tree 0 { caller := i.objs, fresh := [] } i.calls
      callerEnd := (finalHeap i).caller.map (·.elems) } := rfl

theorem holds_model (i : Input) : holds i (model i) = true := by
  simp only [holds, clauses, List.all_cons, List.all_nil, Bool.and_true, Bool.and_eq_true, model_eq]
  refine ⟨clause_of_logs _ .sink (fun path => i.calls.map (expectSink i.objs path)) (C11_forward i),
    clause_of_logs _ .failfast (fun _ => expectFailFast 0 i.calls) (C11_failfast i), ?_, ?_⟩
  · simp [cCaller, callerSnaps_eq i.tree i.objs i.calls 0 { caller := i.objs, fresh := [] } rfl, (C11_no_mutation i).1]
  · simp only [cNoLateWrite, List.all_map, List.all_eq_true, Function.comp_def]
    intro log hlog g hg
    cases g with
    | status e s => simp [observe, snapEvent, C11_independent i log hlog e s hg]
    | _ => rfl

private def ev0 (st : Status) (tags : Option Nat) : EventOf Nat :=
  { testId := some 0, status := some st, tags := tags, runnable := true, fileName := none, fileBytes := none,
    eof := false, mime := none, route := none, timestamp := none }

private def demo : Input :=
  { tree := .copy [.tagger [1] [0] [.sink, .stamp .sink], .toQueue ['0'] (.tagger [2] [] [.sink]), .failfast, .sink]
    objs := [{ frozen := true, elems := [0, 2] }]
    calls := [.start, .status (ev0 .fail (some 0)), .status (ev0 .success none), .stop] }

example : (paths demo.tree).length = 5 := by decide
example : holds demo (model demo) = true := holds_model demo
example : ((model demo).leaves.map List.length) = [4, 4, 4, 1, 4] := by decide

/-- the spec is sharp: what `StreamTagger.status` did before it was repaired (KNOWN_FINDINGS, C11 9af790f: the caller's set
updated in place) is rejected -/
example :
    let i : Input := { tree := .tagger [1] [] [.sink], objs := [{ frozen := false, elems := [0] }],
                       calls := [.status (ev0 .success (some 0))] }
    let t := model i
    cCaller i { t with caller := [(some [0], some [0, 1])], callerEnd := [[0, 1]] } = false := by decide
/-- … and so is a sink whose held tags changed after receipt (aliasing with a sibling that wrote to them) -/
example :
    let i : Input := { tree := .copy [.sink], objs := [{ frozen := false, elems := [0] }],
                       calls := [.status (ev0 .success (some 0))] }
    cNoLateWrite i { leaves := [[.status (valueOf i.objs (ev0 .success (some 0))) (some (.caller 0)) (some [0, 1])]],
                     caller := [], callerEnd := [] } = false := by decide

/-! ## ties to the source: `StreamTagger.status` (`harness/pyset2lean.py` → `TTV/Generated/C11.lean`, regenerated on every run) -/
/-- **the set arithmetic is the code's**: translated from the source it is the model's `tagged` -/
theorem C11_src_tagger (h : Heap) (e : EventOf Ref) (add discard : List Nat) :
    tagged h e add discard = norm (TTV.Generated.C11.taggerTags_src ((deref h e.tags).getD []) add discard) := rfl

/-- **when a tagger hands on `None` is the code's**: the whole `test_tags` value `StreamTagger.status` forwards - the set
arithmetic AND the rule `test_tags or None` - translated from the source, is the model's `taggerOut` (up to the canonical
order of a set's elements): `None` exactly when the resulting set is empty (behaviour fixed by the test suite of testtools,
`TestStreamTagger.test_discarding`) -/
theorem C11_src_tagger_none (h : Heap) (e : EventOf Ref) (add discard : List Nat) :
    taggerOut h e add discard = (TTV.Generated.C11.taggerOut_src (deref h e.tags) add discard).map norm := by
  simp only [taggerOut, TTV.Generated.C11.taggerOut_src, C11_src_tagger, TTV.Generated.C11.taggerTags_src, norm_isEmpty]
  split <;> simp

/-! ## ties to the source: the other decorators (`harness/pystream.py` → `TTV/Generated/DecoSrc.lean`, regenerated on every run) -/
open TTV.DecoSrc in
/-- **`TimestampingStreamResult.status` is the code's**: the timestamp handed on is the term found in the source — the
supplied one if it `is not None`, else `datetime.now(utc)`: the model's `.stamp` step.  That everything else goes to
`super().status` (the copy to the one target) unchanged is not in the term: `harness/pystream.py` reads a term only off the
call shapes `super().status(*args, timestamp=…, **kwargs)` and `super().status(*args, **kwargs)`, and `stampInterp` changes
no other field -/
theorem C11_src_stamp (n : Nat) (t : Dec) (h : Heap) (e : EventOf Ref) :
    ∃ e', stampInterp Generated.DecoSrc.stampTimestamp e = some e' ∧ deliver n (.stamp t) h (.status e) = deliver n t h (.status e') := by
  have hg : Generated.DecoSrc.stampTimestamp = refStamp := by decide
  rw [hg]
  exact ⟨_, stampInterp_ref e, rfl⟩

open TTV.DecoSrc in
/-- **`StreamToQueue.status` / `route_code` are the code's**: every key of the enqueued dict is fed by the parameter of the
same name, `route_code` by `self.route_code(route_code)` = the routing code alone if the event has none (`is None`), else
`routing_code + "/" + route_code`: the model's `.toQueue` step -/
theorem C11_src_queue (n : Nat) (code : Str) (t : Dec) (h : Heap) (e : EventOf Ref) :
    ∃ e', qInterp Generated.DecoSrc.queueDict Generated.DecoSrc.queueRoute code e = some e'
      ∧ deliver n (.toQueue code t) h (.status e) = deliver n t h (.status e') := by
  have h1 : Generated.DecoSrc.queueDict = refQueueDict := by decide
  have h2 : Generated.DecoSrc.queueRoute = refQueueRoute := by decide
  rw [h1, h2]
  exact ⟨_, qInterp_ref code e, rfl⟩

open TTV.DecoSrc in
/-- every explicit `status` signature (`StreamResult`, `StreamFailFast`, `_StreamToTestRecord`, `StreamToQueue`) lists the ten
parameters in the same order — what a positional call through `CopyStreamResult`'s `*args` relies on -/
theorem C11_src_status_params :
    Generated.DecoSrc.statusParams.map (·.1) = ["StreamResult", "StreamFailFast", "_StreamToTestRecord", "StreamToQueue"]
    ∧ ∀ p ∈ Generated.DecoSrc.statusParams, p.2 = canonical := by decide

open TTV.DecoSrc in
/-- **`CopyStreamResult` is the code's**: each of `startTestRun`, `stopTestRun`, `status` calls `super()` and then the same
method with the same arguments on every target, in order, once -/
theorem C11_src_copy (n : Nat) (ts : List Dec) (h : Heap) (m : Msg) :
    cInterp n ts h m Generated.DecoSrc.copyStart none = some (deliver n (.copy ts) h m)
    ∧ cInterp n ts h m Generated.DecoSrc.copyStop none = some (deliver n (.copy ts) h m)
    ∧ cInterp n ts h m Generated.DecoSrc.copyStatus none = some (deliver n (.copy ts) h m) := by
  have h1 : Generated.DecoSrc.copyStart = refCopy := by decide
  have h2 : Generated.DecoSrc.copyStop = refCopy := by decide
  have h3 : Generated.DecoSrc.copyStatus = refCopy := by decide
  rw [h1, h2, h3, deliver_copy, cInterp_ref]
  exact ⟨rfl, rfl, rfl⟩

open TTV.DecoSrc in
/-- **`StreamFailFast.status` is the code's**: `on_error()` exactly when `test_status` is one of the statuses of the tuple
in the source — which agrees with the behaviourally extracted table `Generated.Stream.failFast` -/
theorem C11_src_failfast (n : Nat) (h : Heap) (e : EventOf Ref) :
    ∃ b, ffInterp e.status Generated.DecoSrc.failFastStatus = some b
      ∧ deliver n .failfast h (.status e) = (h, [if b then [.fired n] else []]) := by
  have hg : Generated.DecoSrc.failFastStatus = refFailFast := by decide
  rw [hg]
  exact ⟨_, ffInterp_ref e.status, rfl⟩

open TTV.DecoSrc in
/-- **`StreamTagger.__init__` is the code's**: `add` and `discard` are snapshotted (`frozenset(...)` of whatever iterable was
passed - a set the caller goes on using, a list, a one-shot iterator) when the tagger is made; the tagger node of the model
carries these values and nothing the caller does to its objects afterwards reaches it -/
theorem C11_src_tagger_init (add discard : List Nat) (ts : List Dec) :
    tiInterp add discard ts Generated.DecoSrc.taggerInit none none false = some (.tagger add discard ts) := by
  have hg : Generated.DecoSrc.taggerInit = refTaggerInit := by decide
  rw [hg]; rfl

end TTV.Props.C11
