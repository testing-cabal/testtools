import TTV.Model.ConcSuite
import TTV.Spec.C13
import TTV.Lemmas.ConcSuite
import TTV.Lemmas.ConcBlock
import TTV.Lemmas.SuiteSkel
import TTV.Lemmas.Merge
import TTV.Generated.SuiteSkel
/-! # C13 — concurrent suites run every test once, deliver every event, and terminate

Property theorems for `ConcurrentTestSuite.run` / `ConcurrentStreamTestSuite.run` (model
`TTV/Model/ConcSuite.lean`).  All statements are for **every** number of workers, every worker program,
every fault plan (worker-side faults, `make_tests` failing after `k`, an interrupt at any `queue.get()`,
the caller's result raising at any call) and every schedule (arbitrary `List Nat`, no bound).
The invariants they rest on are in `TTV/Lemmas/ConcSuite.lean` (`QInv`, `BI`, `RInv`, `SInv`, `FInv` - together `CInv` -,
preserved by every step of the machine).  What is said of the moment `run()` returns or raises is proved of every state `z` that
satisfies the invariants (section `cinv`): it holds at that moment
and ever after, under every schedule.  Only what needs the other threads to have ended - the log read as whole blocks, a worker's
sections being all there after `run()` raised - is proved of a state in which everything is over (`Ended`: `run()` has ended and so
has every started worker), however it was reached; `finalC i` is one (`ended_final`), and so is every state in which `run()` has
returned (`ended_of_returned`).  `holds_ended`: the executable spec `Spec.C13.holds` is true of the trace of such a state, so of
the model's (`holds_model`); the lemma for its clause `cX` is `c_X`. -/
namespace TTV.Props.C13
open TTV.Conc TTV.Spec.C13 TTV.Merge

theorem progOf_secs_shape (i : SInput) (wi : Nat) (w : Worker) : ∀ s ∈ segSecs (progOf i wi w).segs, Spec.C12.shapeOk s = true := by
  intro s hs
  unfold progOf at hs
  split at hs
  · rw [suiteProg_secs] at hs
    rcases List.mem_append.mp hs with hs | hs
    · exact TTV.Props.C12.sectionsAbort_shape _ _ _ s hs
    · split at hs
      · exact TTV.Props.C12.sectionsAbort_shape _ _ _ s hs
      · cases hs
  · rw [streamProg_secs] at hs; cases hs

theorem not_returned {i : SInput} {z : CSt} (hres : z.result ≠ some .returned) : ((traceOf i z).result != some .returned) = true := by
  simpa [traceOf] using hres

theorem spawned_trace (i : SInput) (z : CSt) (w : Nat) : (traceOf i z).spawned.contains w = decide (w < z.nsp) := by
  simp [traceOf]

theorem sinkOf_trace (i : SInput) (z : CSt) (r : Nat) :
    Spec.C13.sinkOf r (traceOf i z) = (z.sink.filter fun p => routeOf i p.1.w == r).map fun p => setW r p.1 := by
  simp only [Spec.C13.sinkOf, traceOf, List.filter_map, List.map_map]
  refine List.map_congr_left fun p hp => ?_
  have : routeOf i p.1.w = r := by simpa using (List.mem_filter.mp hp).2
  simp [setW, this]

theorem streamsOf_get (i : SInput) (t : STrace) (r : Nat) {w : Nat} (hw : w < nWorkers i) :
    (streamsOf i t r)[w]? = some (if routeOf i w == r && t.spawned.contains w then Spec.C13.wEvents i w else []) := by
  simp [streamsOf, hw]

theorem wEvents_lt (i : SInput) {w : Nat} (hw : w < i.workers.length) :
    Spec.C13.wEvents i w = streamEvents (routeOf i w) i.tb i.workers[w] := by
  simp [Spec.C13.wEvents, workerAt, hw]

theorem wEvents_eq {i : SInput} (hf : i.flavour = .stream) {w : Nat} (hw : w < i.workers.length) :
    Spec.C13.wEvents i w = (eventsOf i w).map (setW (routeOf i w)) := by
  rw [wEvents_lt i hw, eventsOf_stream i hf hw, streamEvents_setW]

/-- **C13 (the interleaving clause for a route code nobody shares)** — if `w` is the only started worker given the code `r` (the
case whenever route codes are distinct), then for ANY observed trace "the events under `r` are an interleaving of prefixes of the
streams" says exactly "they are a prefix of `w`'s events", and "an interleaving of the whole streams" says "they are `w`'s events":
the clause for distinct codes is not weakened. -/
theorem C13_merge_single (i : SInput) (t : STrace) (r w : Nat) (hw : w < nWorkers i)
    (hme : routeOf i w = r ∧ t.spawned.contains w = true)
    (honly : ∀ w', w' < nWorkers i → w' ≠ w → ¬(routeOf i w' = r ∧ t.spawned.contains w' = true)) (l : List SEv) :
    (isMergePrefix l (streamsOf i t r) = true ↔ ∃ rest, Spec.C13.wEvents i w = l ++ rest)
      ∧ (isMerge l (streamsOf i t r) = true ↔ Spec.C13.wEvents i w = l) := by
  have hme' : (streamsOf i t r)[w]? = some (Spec.C13.wEvents i w) := by
    rw [streamsOf_get i t r hw, hme.1, hme.2, beq_self_eq_true]; rfl
  have hother : ∀ j s, j ≠ w → (streamsOf i t r)[j]? = some s → s = [] := by
    intro j s hne hs
    have hj : j < nWorkers i := by simpa [streamsOf] using (List.getElem_of_getElem? hs).1
    rw [streamsOf_get i t r hj] at hs
    have : (routeOf i j == r && t.spawned.contains j) = false :=
      Bool.eq_false_iff.mpr fun hc => honly j hj hne (by simpa using hc)
    rw [this] at hs
    exact (Option.some.inj hs).symm
  exact ⟨isMergePrefix_single hme' hother l, isMerge_single hme' hother l⟩

/-- the call and whether it raised, if the event is a call of thread `j` on the target -/
def callOf (j : Nat) : Ev → Option (Call × Bool)
  | (k, .call c r) => if k = j then some (c, r) else none
  | _ => none

theorem flatLog_calls (j : Nat) : ∀ closed : List (Nat × Section), (flatLog closed).filterMap (callOf j) = (ownedBy j closed).flatten
  | [] => rfl
  | (k, sec) :: closed => by
      have hsec : (sec.map fun c => ((k, EvK.call c.1 c.2) : Ev)).filterMap (callOf j) = if k = j then sec else [] := by
        induction sec with
        | nil => split <;> rfl
        | cons c sec ih => simp only [List.map_cons, List.filterMap_cons, callOf, ih]; by_cases hk : k = j <;> simp [hk]
      have ih := flatLog_calls j closed
      simp only [flatLog, List.map_cons, List.flatten_cons, secEvents, List.filterMap_append, List.filterMap_cons, hsec, callOf,
        List.filterMap_nil, List.append_nil] at ih ⊢
      rw [ih]
      by_cases hk : k = j
      · simp [ownedBy, hk]
      · simp [ownedBy, hk]

/-- whether it raised, if the call is `stop()`: `Spec.C13.stopOfMain` is this of `callOf 0` -/
def stopFlag : Call × Bool → Option Bool
  | (.ctl .stop, r) => some r
  | _ => none

theorem stopOfMain_eq : stopOfMain = fun e => (callOf 0 e).bind stopFlag := funext fun ⟨k, e⟩ => by
  cases k <;> cases e <;> first | rfl | (rename_i c _; cases c <;> first | rfl | (rename_i x; cases x <;> rfl))

theorem stopSections_flags (mf : List Nat) : ∀ (n k : Nat),
    (∃ m, m < n ∧ (stopSections mf k n).flatten.filterMap stopFlag = List.replicate m false ++ [true])
    ∨ (stopSections mf k n).flatten.filterMap stopFlag = List.replicate n false
  | 0, _ => Or.inr rfl
  | n + 1, k => by
      simp only [stopSections]
      split
      · exact Or.inl ⟨0, Nat.succ_pos _, rfl⟩
      · rcases stopSections_flags mf n (k + 1) with ⟨m, hm, h⟩ | h
        · exact Or.inl ⟨m + 1, Nat.succ_lt_succ hm, by simp [stopFlag, h, List.replicate_succ]⟩
        · exact Or.inr (by simp [stopFlag, h, List.replicate_succ])

theorem causeOk_eq (i : SInput) (c : Cause) : Spec.C13.causeOk i c = Conc.causeOk i c := by
  cases c <;> rfl

/-- the call is `addError` of the `broken-runner` test -/
def isBE : Call × Bool → Bool
  | (.outcome .error .broken, _) => true
  | _ => false

theorem isBrokenError_eq (w : Nat) : ∀ e : Ev, isBrokenError w e = (callOf (w + 1) e).any isBE := fun ⟨j, e⟩ => by
  cases e with
  | call c r =>
    have h1 : isBrokenError w (j, .call c r) = (isBE (c, r) && j == w + 1) := by
      cases c <;> first | rfl | (rename_i k id; cases k <;> cases id <;> rfl)
    rw [h1]
    by_cases hj : j = w + 1 <;> simp [callOf, hj]
  | _ => rfl

theorem brokenErrors_flatLog (w : Nat) (closed : List (Nat × Section)) :
    ((flatLog closed).filter (isBrokenError w)).length = (((ownedBy (w + 1) closed).flatten).filter isBE).length := by
  rw [← flatLog_calls, ← List.countP_eq_length_filter, ← List.countP_eq_length_filter, List.countP_filterMap]
  congr
  funext e
  rw [isBrokenError_eq]
  cases callOf (w + 1) e <;> rfl

theorem stepOp_no_faults (l : Loc) (o : Op) :
    (stepOp [] l o).raised = false ∧
    (((stepOp [] l o).sec.getD []).filter isBE).length = (if o = .outcome .error .broken then 1 else 0) := by
  cases o with
  | outcome k id =>
    have htags (b : Bool) n g : (if b then [(Call.tags n g, false)] else []).filter isBE = [] := by cases b <;> rfl
    rw [TTV.Props.C12.stepOp_outcome_no_faults]
    refine ⟨rfl, ?_⟩
    simp only [Option.getD_some, List.filter_append, htags, List.append_nil]
    cases k <;> cases id <;> rfl
  | _ => exact ⟨rfl, rfl⟩

theorem sectionsAbort_no_faults : ∀ (ops : List Op) (l : Loc),
    (sectionsAbort [] l ops).2.2 = false ∧
    (((sectionsAbort [] l ops).1.flatten).filter isBE).length = (ops.filter (· == .outcome .error .broken)).length
  | [], _ => ⟨rfl, rfl⟩
  | o :: os, l => by
      obtain ⟨h1, h2⟩ := stepOp_no_faults l o
      obtain ⟨ih1, ih2⟩ := sectionsAbort_no_faults os (stepOp [] l o).loc
      simp only [sectionsAbort, h1, Bool.false_eq_true, if_false]
      refine ⟨ih1, ?_⟩
      cases hsec : (stepOp [] l o).sec with
      | none =>
        simp only [hsec, Option.getD_none, List.filter_nil, List.length_nil] at h2
        simp only [List.nil_append, ih2, List.filter_cons]
        by_cases ho : o = .outcome .error .broken
        · simp [ho] at h2
        · simp [ho]
      | some sc =>
        simp only [hsec, Option.getD_some] at h2
        simp only [List.cons_append, List.nil_append, List.flatten_cons, List.filter_append, List.length_append, h2, ih2, List.filter_cons]
        by_cases ho : o = .outcome .error .broken
        · simp [ho]; omega
        · simp [ho]

theorem testsOpsP_noBroken (p : Bool) : ∀ (ts : List WTest) (j : Nat), (testsOpsP p j ts).filter (· == .outcome .error .broken) = []
  | [], _ => rfl
  | t :: ts, j => by
      simp only [testsOpsP, List.filter_append, testsOpsP_noBroken p ts (j + 1), List.append_nil, testOps]
      cases p <;> simp

theorem testsOpsP_false : ∀ (ts : List WTest) (j : Nat), testsOpsP false j ts = testsOps j ts
  | [], _ => rfl
  | t :: ts, j => by simp [testsOpsP, testsOps, testsOpsP_false ts (j + 1)]

theorem testsOps_noBroken : ∀ (ts : List WTest) (j : Nat), (testsOps j ts).filter (· == .outcome .error .broken) = []
  | ts, j => testsOpsP_false ts j ▸ testsOpsP_noBroken false ts j

theorem workerOps_noBroken (w : Worker) : (workerOps w).filter (· == .outcome .error .broken) = [] := by
  simp only [workerOps, List.filter_append, testsOpsP_noBroken, List.nil_append]
  split <;> simp

/-- **C13 (a stock `unittest.TestSuite` partition)** — a sub-suite that polls does exactly what a plain one does, plus reads of
`result.shouldStop` (where they stand — one before each test and one before the element that breaks the run — is the
definition of `workerOps`, the statement filters them out); without `polls` the program is the plain one. -/
theorem C13_polls_only_add_reads (w : Worker) :
    (workerOps w).filter (· != .ctl .shouldStop) = testsOps 0 w.tests ∧ (w.polls = false → workerOps w = testsOps 0 w.tests) := by
  have h : ∀ (p : Bool) (ts : List WTest) (j : Nat), (testsOpsP p j ts).filter (· != .ctl .shouldStop) = testsOps j ts := by
    intro p ts
    induction ts with
    | nil => intro j; rfl
    | cons t ts ih => intro j; cases p <;> simp [testsOpsP, testsOps, testOps, ih (j + 1)]
  constructor
  · simp only [workerOps, List.filter_append, h]
    split <;> simp
  · intro hp; simp [workerOps, hp, testsOpsP_false]

/-- **C13 (broken runner, suite)** — when the caller's result does not raise, the sections of a worker whose
`run()` raises contain exactly one `addError(broken-runner)`; those of other workers none. -/
theorem C13_broken_runner_suite (wi : Nat) (w : Worker) (hf : w.faults = []) :
    (((segSecs (suiteProg wi w).segs).flatten).filter isBE).length = (if w.boom then 1 else 0) := by
  rw [suiteProg_secs, hf]
  obtain ⟨h1, h2⟩ := sectionsAbort_no_faults (workerOps w) {}
  simp only [h1, Bool.false_or, List.flatten_append, List.filter_append, List.length_append, h2, workerOps_noBroken,
    List.length_nil, Nat.zero_add]
  split
  · rw [(sectionsAbort_no_faults brokenOps _).2]; rfl
  · rfl

theorem count_via_sinkOf (ev : SEv) : ∀ sink : List (SEv × Bool),
    (sink.filter fun p => p.1 == ev).length = ((Conc.sinkOf ev.w sink).filter (· == ev)).length
  | sink => by
      simp only [Conc.sinkOf, List.filter_map, List.length_map, List.filter_filter]
      refine congrArg List.length (List.filter_congr fun p _ => ?_)
      by_cases h : p.1 = ev <;> simp [h]

theorem fileEvents_noFail (wi : Nat) : ∀ n : Nat, (fileEvents wi n).filter (· == brokenFail wi) = []
  | 0 => by simp [fileEvents, brokenFail]
  | 1 => by simp [fileEvents, brokenFail]
  | n + 2 => by
      have e1 : ((⟨wi, .broken, .file false, none, none⟩ : SEv) == brokenFail wi) = false := by simp [brokenFail]
      simp only [fileEvents, List.filter_cons, e1, fileEvents_noFail wi (n + 1)]
      rfl

/-- **C13 (broken runner, stream)** — the events of a worker whose `run()` raises contain exactly one final
`fail` status of the `broken-runner` test; those of other workers none. -/
theorem C13_broken_runner_stream (wi tb : Nat) (w : Worker) :
    ((streamEvents wi tb w).filter (· == brokenFail wi)).length = (if w.boom then 1 else 0) := by
  have hts : (testsEvents wi 0 w.tests).filter (· == brokenFail wi) = [] := List.filter_eq_nil_iff.mpr fun e he hc => by
    obtain ⟨n, hn⟩ := testsEvents_id wi _ _ e he
    rw [beq_iff_eq.mp hc] at hn; cases hn
  unfold streamEvents
  rw [List.filter_append, hts]
  split
  · have e1 : ((⟨wi, .broken, .st .inprogress, none, none⟩ : SEv) == brokenFail wi) = false := by simp [brokenFail]
    simp [brokenEvents, List.filter_append, fileEvents_noFail, e1]
  · rfl

theorem brokenFails_countP (r : Nat) (t : STrace) :
    brokenFails r t = (Spec.C13.sinkOf r t).countP (· == brokenFail r) := by
  simp only [brokenFails, Spec.C13.sinkOf, List.countP_eq_length_filter, List.filter_map, List.length_map, List.filter_filter]
  refine congrArg List.length (List.filter_congr fun p _ => ?_)
  by_cases h : p.1 = brokenFail r
  · simp [h, brokenFail]
  · simp [h]

theorem sum_ite_eq_filter_length {β : Type} (c : β → Bool) : ∀ l : List β,
    (l.map fun x => if c x then 1 else 0).sum = (l.filter c).length
  | [] => rfl
  | x :: l => by
      have ih := sum_ite_eq_filter_length c l
      by_cases h : c x = true
      · simp [h, ih]; omega
      · simp [h, ih]

theorem streams_broken_total (i : SInput) (z : CSt) (r : Nat) (hall : z.nsp = i.workers.length) :
    total (· == brokenFail r) (streamsOf i (traceOf i z) r) = boomsOf i r := by
  simp only [total, streamsOf, boomsOf, nWorkers, List.map_map]
  rw [← sum_ite_eq_filter_length]
  refine congrArg List.sum (List.map_congr_left fun w hw => ?_)
  have hw' : w < i.workers.length := List.mem_range.mp hw
  simp only [Function.comp, spawned_trace, hall, hw', decide_true, Bool.and_true, workerAt, List.getElem?_eq_getElem hw',
    Option.map_some, Option.getD_some]
  cases hr : routeOf i w == r with
  | true =>
    rw [if_pos rfl, wEvents_lt i hw', beq_iff_eq.mp hr, List.countP_eq_length_filter, C13_broken_runner_stream]
    rfl
  | false => rfl

section cinv
variable {i : SInput} {z : CSt} (hz : CInv i z)
include hz

theorem nsp_le_n : z.nsp ≤ i.workers.length :=
  Nat.le_trans hz.q.nsp_le (spawnCount_le i)

theorem done_of_result {r : MainRes} (hres : z.result = some r) : z.mpc = .done :=
  hz.r.r_done.mpr (by simp [hres])

/-- `run()` returned (nobody registered, every sub-suite started: `RInv.r_returned`): nobody was told to stop, no call on the caller's
result raised -/
theorem returned_clean (hres : z.result = some .returned) :
    z.msecs = [] ∧ (∀ b ∈ z.flags, b = false) ∧ ∀ p ∈ z.sink, p.2 = false :=
  hz.r.r_clean (by simp [done_of_result hz hres]) (Or.inr hres)

theorem returned_todo_nil (hres : z.result = some .returned) (w : Nat) (hw : w < i.workers.length) :
    todoItems z w = [] :=
  let ⟨hreg, hnsp, _⟩ := hz.r.r_returned hres
  hz.q.todo_nil hreg (hnsp ▸ hw)

theorem returned_sink (hres : z.result = some .returned) (w : Nat) (hw : w < i.workers.length) :
    Conc.sinkOf w z.sink = eventsOf i w := by
  have := hz.s.acct w hw
  rwa [hand_nil (by simp [done_of_result hz hres]), returned_todo_nil hz hres w hw, statusesOf, List.filterMap_nil, List.append_nil,
    List.append_nil] at this

/-- `run()` raised: for a cause the input has, after the stop requests of its flavour -/
theorem raised_stops {c : Cause} (hres : z.result = some (.raised c)) :
    Conc.causeOk i c = true ∧ (i.flavour = .suite → z.msecs = stopSections i.mfaults 0 z.reg.length)
      ∧ (i.flavour = .stream → ∀ w ∈ z.reg, z.flags[w]? = some true) :=
  ⟨hz.r.r_cause c (Or.inl hres), hz.r.r_msecs (Or.inr ⟨c, hres⟩), hz.f.f_set c hres⟩

theorem closed_shape {closed cur todo rem} (hb : BInv i z closed cur todo rem) : ∀ p ∈ closed, Spec.C12.shapeOk p.2 = true := by
  rintro ⟨j, sec⟩ hpm
  obtain ⟨hj, h1⟩ : j < i.workers.length + 1 ∧ sec ∈ secsC i z.msecs j := hb.inv.closed_mem hpm
  cases j with
  | zero => obtain ⟨r, rfl⟩ := msecs_stops hz.r hz.f sec h1; rfl
  | succ w =>
    have hwn : w < i.workers.length := Nat.lt_of_succ_lt_succ hj
    exact progOf_secs_shape i w _ sec (secsC_succ i _ hwn ▸ h1)

theorem blocks : ∃ closed cur, z.base.log = flatLog closed ++ openLog z.base.sem cur ∧ ∀ p ∈ closed, Spec.C12.shapeOk p.2 = true := by
  obtain ⟨closed, cur, todo, rem, hb⟩ := hz.b
  exact ⟨closed, cur, hb.inv.log_eq, closed_shape hz hb⟩

theorem c_complete : cComplete i (traceOf i z) = true := by
  unfold cComplete
  by_cases hres : z.result = some .returned
  · obtain ⟨hreg, hnsp, hlive⟩ := hz.r.r_returned hres
    obtain ⟨_, _, hsink⟩ := returned_clean hz hres
    have h1 : (traceOf i z).spawned = List.range (nWorkers i) := by simp [traceOf, hnsp, nWorkers]
    have h2 : (traceOf i z).liveAtReturn = [] := hlive
    have h3 : (traceOf i z).runs = (List.range (nWorkers i)).map (fun _ => 1) := by
      simp only [traceOf, nWorkers, hnsp]
      exact List.map_congr_left fun w hw => if_pos (List.mem_range.mp hw)
    have h4 : ((traceOf i z).sink.all fun p => !p.2.2) = true := by
      simp only [traceOf, List.all_map, List.all_eq_true]
      exact fun p hp => by simp [hsink p hp]
    simp [h1, h2, h3, h4]
  · simp [not_returned hres]

/-- under a route code the caller's result has received an interleaving of prefixes of the events of the workers given that code -/
theorem route_path (hf : i.flavour = .stream) (r : Nat) :
    ∃ ss', Path (Spec.C13.sinkOf r (traceOf i z)) (streamsOf i (traceOf i z) r) ss' ∧
      (z.result = some .returned → ∀ s ∈ ss', s = []) := by
  have hs := hz.s
  -- a worker's stream counts only once it is started; the sink holds events of started workers only
  have hfil : (z.sink.filter fun p => routeOf i p.1.w == r && decide (p.1.w < z.nsp)) =
      z.sink.filter fun p => routeOf i p.1.w == r :=
    List.filter_congr fun p hp => by rw [decide_eq_true (hs.sink_owner p hp), Bool.and_true]
  -- the sink is keyed by worker index; selected are the started workers given `r`; what is left of `w`'s stream is what main holds
  -- (`hand`) or has not been given (`todoItems`)
  obtain ⟨ss', hp, hl', hs'⟩ := path_of_keyed (fun p : SEv × Bool => p.1.w) (fun w => routeOf i w == r && decide (w < z.nsp))
    (fun p => setW r p.1) i.workers.length (fun w => (hand z w ++ statusesOf (todoItems z w)).map (setW r))
    z.sink (streamsOf i (traceOf i z) r) (by simp [streamsOf, nWorkers])
    (fun p hp => Nat.lt_of_lt_of_le (hs.sink_owner p hp) (nsp_le_n hz))
    (by
      intro w hw
      rw [streamsOf_get i _ r hw, spawned_trace]
      split
      · rename_i hc
        have hsk : (z.sink.filter fun p => p.1.w == w).map (fun p => setW r p.1) = (Conc.sinkOf w z.sink).map (setW r) := by
          simp [Conc.sinkOf]
        rw [hsk, ← List.map_append, ← List.append_assoc, hs.acct w hw, wEvents_eq hf hw, beq_iff_eq.mp (Bool.and_eq_true_iff.mp hc).1]
      · rfl)
  refine ⟨ss', by rw [sinkOf_trace, ← hfil]; exact hp, fun hres s hsm => ?_⟩
  obtain ⟨w, hw, hget⟩ := List.getElem_of_mem hsm
  have h1 := hs' w (hl' ▸ hw)
  rw [List.getElem?_eq_getElem hw, hget, returned_todo_nil hz hres w (hl' ▸ hw), hand_nil (by simp [done_of_result hz hres])] at h1
  rw [Option.some.inj h1]
  split <;> rfl

theorem route_merge (hf : i.flavour = .stream) (r : Nat) :
    isMergePrefix (Spec.C13.sinkOf r (traceOf i z)) (streamsOf i (traceOf i z) r) = true
      ∧ (z.result = some .returned → isMerge (Spec.C13.sinkOf r (traceOf i z)) (streamsOf i (traceOf i z) r) = true) := by
  obtain ⟨ss', hp, hend⟩ := route_path hz hf r
  exact ⟨(isMergePrefix_iff _ _).mpr ⟨ss', hp⟩, fun hres => (isMerge_iff _ _).mpr ⟨ss', hp, hend hres⟩⟩

end cinv

/-- `z` is a state in which everything is over: the invariants hold (`CInv`, true of every state the machine reaches), `run()` has
ended and so has every started worker.
`finalC i` is one (`ended_final`); so is the state after any schedule that happens to run the system to its end. -/
structure Ended (i : SInput) (z : CSt) : Prop where
  inv : CInv i z
  fin : finishedC z = true

theorem ended_of_returned {i : SInput} {z : CSt} (hz : CInv i z) (hres : z.result = some .returned) : Ended i z :=
  ⟨hz, by simp [finishedC, done_of_result hz hres, unfinished_nil_of_reg_nil hz.q (hz.r.r_returned hres).1]⟩

/-- the log of `z` is the whole sections `closed`, all well-shaped blocks: main's are `z.msecs`, a started worker's are those of its
program, nobody else has any -/
structure EndedLog (i : SInput) (z : CSt) (closed : List (Nat × Section)) : Prop where
  log_eq : z.base.log = flatLog closed
  shape : ∀ p ∈ closed, Spec.C12.shapeOk p.2 = true
  owners : ∀ p ∈ closed, p.1 < i.workers.length + 1
  main : ownedBy 0 closed = z.msecs
  worker : ∀ w, w < i.workers.length → ownedBy (w + 1) closed = if w < z.nsp then secsC i z.msecs (w + 1) else []

theorem EndedLog.parse {i : SInput} {z : CSt} {closed : List (Nat × Section)} (h : EndedLog i z closed) :
    Spec.C12.parse (traceOf i z).log = some closed :=
  (show (traceOf i z).log = _ from h.log_eq) ▸ TTV.Props.C12.parse_flat closed

section ended
variable {i : SInput} {z : CSt} (hz : Ended i z)
include hz

theorem ended_done : z.mpc = .done ∧ unfinished z = [] := by
  simpa [finishedC] using hz.fin

theorem ended_workerDone {w : Nat} (hw : w < z.nsp) : z.base.pcs[w + 1]? = some [] :=
  workerDone_iff.mp (workerDone_of_unfinished_nil (ended_done hz).2 hw)

theorem ended_result_some : z.result.isSome = true :=
  (hz.inv.r).r_done.mp (ended_done hz).1

theorem ended_log : ∃ closed, EndedLog i z closed := by
  obtain ⟨closed, cur, todo, rem, hb⟩ := hz.inv.b
  obtain ⟨hdone, _⟩ := ended_done hz
  -- every thread that may have run - main and the started workers - has no steps left
  have hpcs : ∀ t, LiveT z.nsp z.mpc t → z.base.pcs[t]? = some [] := by
    rintro t (rfl | ht | ht)
    · exact hb.main_idle (by simp [hdone])
    · cases t with
      | zero => exact hb.main_idle (by simp [hdone])
      | succ w => exact ended_workerDone hz ht
    · rw [hdone] at ht; cases ht
  -- … so it is outside every section and all its sections are in the log
  have hout : ∀ t, t < i.workers.length + 1 → LiveT z.nsp z.mpc t →
      z.base.sem ≠ some t ∧ secsC i z.msecs t = ownedBy t closed := fun t _ hl => hb.inv.done (hpcs t hl)
  have hsem : z.base.sem = none := hb.inv.sem_none fun k hs => hpcs k (hb.holder k hs)
  refine ⟨closed, hb.inv.log_free hsem, closed_shape hz.inv hb, hb.inv.owners, (hout 0 (Nat.succ_pos _) (Or.inl rfl)).2.symm, fun w hw => ?_⟩
  split
  · rename_i hlt; exact (hout (w + 1) (Nat.succ_lt_succ hw) (Or.inr (Or.inl hlt))).2.symm
  · rename_i hge
    simp only [ownedBy, List.map_eq_nil_iff, List.filter_eq_nil_iff, beq_iff_eq]
    intro p hp hpw
    rcases hb.owners_live p hp with h0 | h1 | h1
    · rw [hpw] at h0; cases h0
    · rw [hpw] at h1; exact hge h1
    · rw [hdone] at h1; cases h1

theorem ended_blocks :
    ∃ closed, z.base.log = flatLog closed ∧ ∀ p ∈ closed, Spec.C12.shapeOk p.2 = true :=
  let ⟨closed, h⟩ := ended_log hz; ⟨closed, h.log_eq, h.shape⟩

theorem c_oneAtATime : cOneAtATime i (traceOf i z) = true := by
  obtain ⟨closed, hl⟩ := ended_log hz
  simp only [cOneAtATime, hl.parse, List.all_eq_true]
  exact hl.shape

theorem c_terminates : cTerminates i (traceOf i z) = true := by
  simp only [cTerminates, Bool.and_eq_true]
  exact ⟨hz.fin, ended_result_some hz⟩

theorem c_delivered : cDelivered i (traceOf i z) = true := by
  unfold cDelivered
  cases hf : i.flavour with
  | suite =>
    obtain ⟨closed, hl⟩ := ended_log hz
    simp only [hl.parse, Bool.and_eq_true, List.all_eq_true, List.mem_range, beq_iff_eq, nWorkers]
    refine ⟨⟨fun p hpm => decide_eq_true (Nat.le_of_lt_succ (hl.owners p hpm)), fun s hs => ?_⟩, fun w hwn => ?_⟩
    · rw [TTV.Props.C12.secsOf_eq_ownedBy, hl.main] at hs
      obtain ⟨r, rfl⟩ := msecs_stops hz.inv.r hz.inv.f s hs
      rfl
    · rw [TTV.Props.C12.secsOf_eq_ownedBy, hl.worker w hwn, spawned_trace]
      by_cases hlt : w < z.nsp
      · simp [hlt, secsC_suite hf _ hwn, wSecs, workerAt, hwn]
      · simp [hlt]
  | stream =>
    have hs := hz.inv.s
    simp only [Bool.and_eq_true, List.all_eq_true]
    refine ⟨fun p hp => ?_, fun r _ => ?_⟩
    · simp only [traceOf, List.mem_map] at hp
      obtain ⟨p', hp', rfl⟩ := hp
      have h1 := Nat.lt_of_lt_of_le (hs.sink_owner p' hp') (nsp_le_n hz.inv)
      refine ⟨?_, rfl⟩
      simp only [routeCodes, nWorkers, List.contains_iff_mem, List.mem_map, List.mem_range]
      exact ⟨p'.1.w, h1, rfl⟩
    · obtain ⟨hpre, hall⟩ := route_merge hz.inv hf r
      refine ⟨hpre, ?_⟩
      by_cases hres : z.result = some .returned
      · simp [hall hres]
      · simp [not_returned hres]

theorem ended_mainStops : mainStops (traceOf i z) = (z.msecs.flatten).filterMap stopFlag := by
  obtain ⟨closed, hl⟩ := ended_log hz
  show z.base.log.filterMap stopOfMain = _
  rw [hl.log_eq, stopOfMain_eq, ← List.filterMap_filterMap, flatLog_calls, hl.main]

theorem ended_registered :
    (∀ w, w ∈ registered (traceOf i z) ↔ w ∈ z.reg) ∧ (registered (traceOf i z)).length = z.reg.length := by
  have hq := hz.inv.q
  have hmem : ∀ w, w ∈ registered (traceOf i z) ↔ w ∈ z.reg := by
    intro w
    simp only [registered, traceOf, List.mem_filter, List.mem_range, Bool.not_eq_true', List.contains_eq_mem,
      decide_eq_false_iff_not]
    rw [hq.reg_iff]
    refine and_congr_right fun h1 => not_congr ?_
    simpa [(ended_done hz).1] using hq.joined_iff w h1
  exact ⟨hmem, ((List.perm_ext_iff_of_nodup (List.Nodup.sublist List.filter_sublist List.nodup_range) hq.reg_nodup).mpr hmem).length_eq⟩

theorem c_abort : cAbort i (traceOf i z) = true := by
  unfold cAbort
  rw [show (traceOf i z).result = z.result from rfl]
  cases hre : z.result with
  | none => rfl
  | some r =>
    cases r with
    | returned =>
      obtain ⟨hms, hfl, _⟩ := returned_clean hz.inv hre
      simp only [Bool.and_eq_true, beq_iff_eq, List.all_eq_true, Bool.not_eq_true']
      exact ⟨by rw [ended_mainStops hz, hms]; rfl, hfl⟩
    | raised c =>
      obtain ⟨hc, hsu, hst⟩ := raised_stops hz.inv hre
      simp only [causeOk_eq, hc, Bool.true_and]
      obtain ⟨hmem, hlen⟩ := ended_registered hz
      cases hf : i.flavour with
      | stream =>
        simp only [List.all_eq_true]
        intro w hw
        show (z.flags[w]?).getD false = true
        rw [hst hf w ((hmem w).mp hw)]; rfl
      | suite =>
        rw [ended_mainStops hz, hsu hf, hlen]
        rcases stopSections_flags i.mfaults z.reg.length 0 with ⟨m, hm, h⟩ | h <;> rw [h]
        · simp; omega
        · simp

theorem c_brokenRunner : cBrokenRunner i (traceOf i z) = true := by
  unfold cBrokenRunner
  simp only [List.all_eq_true, List.mem_range, nWorkers]
  intro w hwn
  simp only [workerAt, List.getElem?_eq_getElem hwn]
  cases hf : i.flavour with
  | stream =>
    by_cases hres : z.result = some .returned
    · obtain ⟨_, hnsp, _⟩ := (hz.inv.r).r_returned hres
      obtain ⟨ss', hp, hend⟩ := route_path hz.inv hf (routeOf i w)
      have hc := path_count (· == brokenFail (routeOf i w)) _ _ _ hp
      rw [total_empty _ _ (hend hres), Nat.add_zero, streams_broken_total i z _ hnsp, ← brokenFails_countP] at hc
      exact Bool.or_eq_true_iff.mpr (Or.inr (beq_iff_eq.mpr hc))
    · exact Bool.or_eq_true_iff.mpr (Or.inl (not_returned hres))
  | suite =>
    obtain ⟨closed, hl⟩ := ended_log hz
    rw [spawned_trace]
    cases hc : decide (w < z.nsp) && i.workers[w].faults.isEmpty with
    | false => rfl
    | true =>
      obtain ⟨hlt, hfl⟩ := Bool.and_eq_true_iff.mp hc
      refine beq_iff_eq.mpr ?_
      show (z.base.log.filter (isBrokenError w)).length = _
      rw [hl.log_eq, brokenErrors_flatLog, hl.worker w hwn, if_pos (of_decide_eq_true hlt), secsC_suite hf _ hwn]
      exact C13_broken_runner_suite w _ (List.isEmpty_iff.mp hfl)

theorem holds_ended : holds i (traceOf i z) = true := by
  simp only [holds, clauses, List.all_cons, List.all_nil, Bool.and_true, Bool.and_eq_true]
  exact ⟨c_oneAtATime hz, c_delivered hz, c_complete hz.inv, c_brokenRunner hz, c_abort hz, c_terminates hz⟩

end ended

theorem ended_final (i : SInput) : Ended i (finalC i) := ⟨CInv_final i, finalC_finished i⟩

/-- **C13 (one test at a time, at the end)** — the final log consists of whole sections, and every section is a well-shaped block of
the thread that made it -/
theorem C13_blocks_final (i : SInput) :
    ∃ closed, (finalC i).base.log = flatLog closed ∧ ∀ p ∈ closed, Spec.C12.shapeOk p.2 = true :=
  ended_blocks (ended_final i)

/-- **C13 (equal route codes)** — `make_tests` may give several workers the same route code (`None` for all of them, say).
Under every schedule and fault plan the events the caller's result receives under a route code are an interleaving of prefixes of
the event sequences of the workers given that code - every worker's events in its own order, none twice - and, when `run()`
returned, an interleaving of ALL their events: none lost, none invented. -/
theorem C13_same_route_code (i : SInput) (hf : i.flavour = .stream) (r : Nat) :
    isMergePrefix (Spec.C13.sinkOf r (modelC i)) (streamsOf i (modelC i) r) = true
      ∧ ((finalC i).result = some .returned → isMerge (Spec.C13.sinkOf r (modelC i)) (streamsOf i (modelC i) r) = true) :=
  route_merge (CInv_final i) hf r

theorem holds_model (i : SInput) : holds i (modelC i) = true := holds_ended (ended_final i)

/-- the specification holds of the model's traces for every history of runs on one suite object -/
theorem holds_modelH (h : HInput) : holdsH h (modelH h) = true := by
  simp only [holdsH, clausesH, List.all_map, List.all_eq_true]
  intro c hc
  simp only [Function.comp, modelH, List.length_map, beq_self_eq_true, Bool.true_and, List.all_eq_true]
  intro p hp
  have hm := holds_model p.1
  simp only [holds, List.all_eq_true] at hm
  have hp2 : p.2 = modelC p.1 := by
    obtain ⟨k, hk, hget⟩ := List.getElem_of_mem hp
    simp only [List.getElem_zip, List.getElem_map] at hget
    rw [← hget]
  rw [hp2]
  exact hm c hc

/-- **C13 (runs on one suite object are independent)** — in a history of `run()` calls on one `ConcurrentTestSuite` /
`ConcurrentStreamTestSuite` object the trace of every run - what its caller's result receives, how `run()` ends, who is started,
joined, told to stop - is the trace of that same run (same sub-suites, fault plan, schedule) on a FRESH suite object: it does not
depend on how many runs went before, on what they did, on whether they were aborted, nor on what comes after. -/
theorem C13_runs_independent (pre post : HInput) (i : SInput) :
    (modelH (pre ++ i :: post))[pre.length]? = some (modelC i) ∧ modelH [i] = [modelC i] := by
  constructor
  · simp [modelH]
  · rfl

def reach (i : SInput) (sched : List Nat) : CSt := runC i (initC i) sched

theorem CInv_reach (i : SInput) (sched : List Nat) : CInv i (reach i sched) := CInv_runC sched (CInv_init i)

/-- **C13 (no stuck state)** — after *any* schedule: while `run()` has not ended or a started worker is unfinished,
some thread is enabled (main is never left waiting at `get`/`join` for something that cannot come). -/
theorem C13_no_stuck (i : SInput) (sched : List Nat) (h : finishedC (reach i sched) = false) :
    ∃ t, t < (reach i sched).base.pcs.length ∧ enabledC i (reach i sched) t = true :=
  exists_enabledC (CInv_reach i sched).q (CInv_reach i sched).b h

/-- **C13 (progress)** — after *any* schedule every enabled step decreases the measure `pot`, so a schedule that
keeps picking enabled threads ends after at most `pot` steps. -/
theorem C13_progress (i : SInput) (sched : List Nat) (t : Nat) (h : enabledC i (reach i sched) t = true) :
    pot i (stepC i (reach i sched) t) < pot i (reach i sched) :=
  pot_step_lt (CInv_reach i sched).q (CInv_reach i sched).b h

/-- **C13 (terminates)** — for every input the run (any schedule, then the lowest enabled thread) ends: `run()`
has returned or raised, and every thread that was started has ended. -/
theorem C13_terminates (i : SInput) :
    (finalC i).mpc = .done ∧ (finalC i).result.isSome = true ∧ ∀ w, w < (finalC i).nsp → (finalC i).base.pcs[w + 1]? = some [] :=
  ⟨(ended_done (ended_final i)).1, ended_result_some (ended_final i), fun _ hw => ended_workerDone (ended_final i) hw⟩

/-- **C13 (one test at a time)** — after *any* schedule the log of the caller's TestResult and the semaphore is
a sequence of whole critical sections plus at most the holder's open one (C12's invariant carries over,
including main's `stop()` calls in the abort path).  That every whole section is a well-shaped block also holds after any
schedule: `blocks`, of which this is the first half; at the end of the run no section is open (`C13_blocks_final`). -/
theorem C13_one_at_a_time (i : SInput) (sched : List Nat) :
    ∃ closed cur, (reach i sched).base.log = flatLog closed ++ openLog (reach i sched).base.sem cur :=
  let ⟨closed, cur, h, _⟩ := blocks (CInv_reach i sched); ⟨closed, cur, h⟩

/-- **C13 (complete)** — if `run()` returns normally then: every sub-suite that `make_tests` yields was started, none is still
running, nobody is registered any more, every worker's thread has ended, the events the caller's result received from worker `w` (by
worker index, whatever route codes were handed out) are exactly the worker's events, in its order, once each, and none of these calls
raised.  (Suite flavour: that a worker's sections in the log are those of its program is `ended_log`.) -/
theorem C13_complete (i : SInput) (h : (finalC i).result = some .returned) :
    (finalC i).nsp = i.workers.length ∧ (finalC i).liveAtReturn = [] ∧ (finalC i).reg = []
    ∧ (∀ w, w < i.workers.length → (finalC i).base.pcs[w + 1]? = some [])
    ∧ (∀ w, w < i.workers.length → Conc.sinkOf w (finalC i).sink = eventsOf i w)
    ∧ (∀ p ∈ (finalC i).sink, p.2 = false) := by
  have hz := CInv_final i
  obtain ⟨hreg, hnsp, hlive⟩ := hz.r.r_returned h
  obtain ⟨_, _, hsink⟩ := returned_clean hz h
  exact ⟨hnsp, hlive, hreg, fun _ hw => ended_workerDone (ended_of_returned hz h) (hnsp ▸ hw), returned_sink hz h, hsink⟩

/-- **C13 (delivery, always)** — after *any* schedule, also when `run()` is aborted: what the caller's StreamResult has received from
worker `w` (by worker index) is a prefix of worker `w`'s events: nothing lost in the middle, nothing twice, nothing re-ordered, nothing
invented.  (That every delivered event comes from a started worker is `SInv.sink_owner`.) -/
theorem C13_delivery_prefix (i : SInput) (sched : List Nat) (w : Nat) (hw : w < i.workers.length) :
    ∃ rest, Conc.sinkOf w (reach i sched).sink ++ rest = eventsOf i w := by
  have := (CInv_reach i sched).s.acct w hw
  exact ⟨hand (reach i sched) w ++ statusesOf (todoItems (reach i sched) w), by simpa [reach] using this⟩

/-- **C13 (native emitters)** — a test that speaks the stream protocol itself contributes exactly its scripted events,
in order, to its worker's events (which `C13_complete` / `C13_delivery_prefix` say are delivered) … -/
theorem C13_native_events (wi j : Nat) (t : WTest) (evs : List NEv) (h : t.native = some evs) :
    testEvents wi j t = evs.map (nativeEvent wi) := by
  simp [testEvents, h]

/-- … each carrying the worker's route code, its own id, payload and tags, and **its own instant if it supplied
one**; an event emitted with the `timestamp` keyword omitted or with `timestamp=None` carries no instant of
its own: it is stamped with the wall clock (in the trace every delivered event is marked as stamped, see `C13_delivered_stamped`). -/
theorem C13_native_event (wi : Nat) (e : NEv) :
    (nativeEvent wi e).w = wi ∧ (nativeEvent wi e).id = .t e.id ∧ (nativeEvent wi e).kind = e.kind
    ∧ (nativeEvent wi e).tags = e.tags.map normTags
    ∧ (∀ n, e.ts = .given n → (nativeEvent wi e).ts = some n)
    ∧ (e.ts = .omitted ∨ e.ts = .none → (nativeEvent wi e).ts = none) := by
  refine ⟨rfl, rfl, rfl, rfl, ?_, ?_⟩
  · intro n h; simp [nativeEvent, h]
  · intro h; rcases h with h | h <;> simp [nativeEvent, h]

/-- **C13 (every delivered event has a time stamp)** — in the model's trace every event the caller's result received is
time-stamped (the second component of a `sink` entry); together with `c_delivered` (under each route code the delivered events are an
interleaving of the events, instants included, of the workers given that code) this is the part "carrying that worker's route code
and a timestamp" of the property's delivery clause. -/
theorem C13_delivered_stamped (i : SInput) : ∀ p ∈ (modelC i).sink, p.2.1 = true := by
  intro p hp
  simp only [modelC, traceOf, List.mem_map] at hp
  obtain ⟨q, _, rfl⟩ := hp
  rfl

/-- **C13 (abort)** — if `run()` raised: the exception is one the input causes; in the suite flavour main's sections are the `stop()`
sections of the abort path, one per still-registered worker, cut after one that raises (they are main's part of the log: `ended_log`);
in the stream flavour every still-registered worker's result has `shouldStop` set at the end (it stays set because main forwards a
worker's `startTestRun`, which resets the flag, before it starts the thread: `FInv.clean`). -/
theorem C13_abort (i : SInput) (c : Cause) (h : (finalC i).result = some (.raised c)) :
    Conc.causeOk i c = true
    ∧ (i.flavour = .suite → (finalC i).msecs = stopSections i.mfaults 0 (finalC i).reg.length)
    ∧ (i.flavour = .stream → ∀ w ∈ (finalC i).reg, (finalC i).flags[w]? = some true) :=
  raised_stops (CInv_final i) h

/-- **C13 (a stop request is never undone)** — after *any* schedule, once `run()` has raised in the stream flavour, every
registered worker's flag is set.  (What keeps it set is `FInv.clean`: a started worker's remaining items never contain
`startTestRun`, the only step that clears a flag.) -/
theorem C13_stop_sticks (i : SInput) (sched : List Nat) (c : Cause) (h : (reach i sched).result = some (.raised c))
    (hf : i.flavour = .stream) : ∀ w ∈ (reach i sched).reg, (reach i sched).flags[w]? = some true :=
  let ⟨_, _, hst⟩ := raised_stops (CInv_reach i sched) h; hst hf

/-- on normal return nobody is told to stop -/
theorem C13_no_spurious_stop (i : SInput) (h : (finalC i).result = some .returned) :
    (finalC i).msecs = [] ∧ ∀ b ∈ (finalC i).flags, b = false :=
  let ⟨hms, hfl, _⟩ := returned_clean (CInv_final i) h; ⟨hms, hfl⟩

/-! ## tie to the source: the worker side (`_run_test`)
`TTV.Generated.SuiteSkel.*` are produced by `harness/suiteskel.py` from `testtools/testsuite.py` on every run; see
`TTV/Model/SuiteSkel.lean` for the skeleton type, its interpreter and what is trusted.  The forwarder blocks the suite flavour's
workers perform are tied to `testtools/testresult/real.py` by the `C12_src_*` theorems of `TTV.Props.C12`. -/

/-- **C13 (source, `ConcurrentTestSuite._run_test`)** — interpreting the `try / except Exception / finally` skeleton *as found in the
source*: the worker thread performs exactly the segments of the model's `suiteProg` (the sections of its tests up to the
first raise, then - if the sub-suite or the caller's result raised - those of the `broken-runner` report, then `queue.put`
in any case), and its thread ends with an exception exactly when the model says it dies. -/
theorem C13_src_run_test_suite (wi tb : Nat) (w : Worker) :
    (SuiteSkel.interp .suite wi tb w Generated.SuiteSkel.suiteRunTest {}).segs = (suiteProg wi w).segs
    ∧ (SuiteSkel.interp .suite wi tb w Generated.SuiteSkel.suiteRunTest {}).raised = (suiteProg wi w).died
    ∧ (SuiteSkel.interp .suite wi tb w Generated.SuiteSkel.suiteRunTest {}).bad = false := by
  have e : Generated.SuiteSkel.suiteRunTest = SuiteSkel.refSuiteRunTest := by decide
  rw [e]; exact SuiteSkel.interp_refSuiteRunTest wi tb w

/-- **C13 (source, `ConcurrentStreamTestSuite._run_test`)** — the worker thread puts exactly the items of the model's `streamProg`
after the `startTestRun` item (which `run()` puts on its behalf before it starts the thread): the events of its tests, then -
if the sub-suite raised - those of the `broken-runner` test, then `stopTestRun` in any case; its thread never dies. -/
theorem C13_src_run_test_stream (wi tb : Nat) (w : Worker) :
    .put (.startRun wi) :: (SuiteSkel.interp .stream wi tb w Generated.SuiteSkel.streamRunTest {}).segs = (streamProg wi tb w).segs
    ∧ (SuiteSkel.interp .stream wi tb w Generated.SuiteSkel.streamRunTest {}).raised = (streamProg wi tb w).died
    ∧ (SuiteSkel.interp .stream wi tb w Generated.SuiteSkel.streamRunTest {}).bad = false := by
  have e : Generated.SuiteSkel.streamRunTest = SuiteSkel.refStreamRunTest := by decide
  rw [e]; exact SuiteSkel.interp_refStreamRunTest wi tb w

/-- one worker, `make_tests` raises after yielding it: `run()` raises with the worker registered, and its stop flag stays set (the
input on which the abort path's stop request used to be undone by the worker's own `startTestRun`: KNOWN_FINDINGS, C13 `c175532`) -/
def stopKeptInput : SInput :=
  { flavour := .stream, workers := [{ tests := [{ kind := .success, tags := [] }], boom := false, faults := [] }],
    mkRaise := some 1, intr := none, mfaults := [], tb := 4, sched := [] }

example : (finalC stopKeptInput).result = some (.raised .makeTests) ∧ (finalC stopKeptInput).reg = [0]
    ∧ (finalC stopKeptInput).flags = [true] ∧ holds stopKeptInput (modelC stopKeptInput) = true := by decide

def exSuite : SInput :=
  { flavour := .suite,
    workers := [{ tests := [{ kind := .success, tags := [] }], boom := true, faults := [] },
                { tests := [{ kind := .error, tags := [1] }], boom := false, faults := [] }],
    mkRaise := none, intr := none, mfaults := [], tb := 4, sched := [0, 2, 0, 1, 2, 2, 1, 1, 0, 2] }

/-- a normal return in the suite flavour: both workers started and joined, worker 0's broken runner reported -/
example : (modelC exSuite).result = some .returned ∧ (modelC exSuite).spawned = [0, 1] ∧ (modelC exSuite).liveAtReturn = []
    ∧ brokenErrors 0 (modelC exSuite) = 1 ∧ holds exSuite (modelC exSuite) = true := by decide

def exStreamAbort : SInput :=
  { flavour := .stream,
    workers := [{ tests := [{ kind := .success, tags := [] }], boom := false, faults := [] },
                { tests := [{ kind := .failure, tags := [] }], boom := false, faults := [] }],
    mkRaise := none, intr := none, mfaults := [2], tb := 4, sched := [0, 0, 0, 0, 1, 2, 1, 2, 0, 0, 0, 0, 0, 1, 2] }

/-- the caller's StreamResult raises at its third status call: `run()` raises, both workers are still registered
and both are told to stop -/
example : (modelC exStreamAbort).result = some (.raised .injected)
    ∧ registered (modelC exStreamAbort) = [0, 1] ∧ (modelC exStreamAbort).flags = [true, true]
    ∧ holds exStreamAbort (modelC exStreamAbort) = true := by decide

def exNative : SInput :=
  { flavour := .stream,
    workers := [{ tests := [{ kind := .success, tags := [2] }], boom := false, faults := [] },
                { tests := [{ kind := .success, tags := [],
                              native := some [⟨0, .st .inprogress, none, .none⟩, ⟨0, .file true, some [1], .given 7⟩,
                                              ⟨0, .st .success, some [], .omitted⟩] }], boom := false, faults := [] }],
    mkRaise := none, intr := none, mfaults := [], tb := 4, sched := [0, 0, 2, 0, 1, 2, 0, 2, 1] }

/-- a native emitter next to a TestResult-API test: its three events arrive in order with route code 1; the one
with a given instant keeps it, the ones with `timestamp=None` / no `timestamp` carry the wall clock -/
example : (modelC exNative).result = some .returned
    ∧ Spec.C13.sinkOf 1 (modelC exNative) =
        [⟨1, .t 0, .st .inprogress, none, none⟩, ⟨1, .t 0, .file true, some [1], some 7⟩, ⟨1, .t 0, .st .success, some [], none⟩]
    ∧ Spec.C13.sinkOf 0 (modelC exNative) = [⟨0, .t 0, .st .inprogress, none, none⟩, ⟨0, .t 0, .st .success, some [2], none⟩]
    ∧ holds exNative (modelC exNative) = true := by decide

/-- an event that arrives without a time stamp is rejected by the `delivered` clause (what the trial change `seeded/C13-d`, a
`TimestampingStreamResult` that stamps with `setdefault`, does to the event emitted with `timestamp=None`) -/
example : cDelivered exNative
    { (modelC exNative) with sink := (modelC exNative).sink.map fun p => if p.1.kind = .st .inprogress then (p.1, false, p.2.2) else p } = false := by
  decide

/-- … and so is a given instant that was replaced by the wall clock -/
example : cDelivered exNative
    { (modelC exNative) with sink := (modelC exNative).sink.map fun p => ({ p.1 with ts := none }, p.2) } = false := by
  decide

/-- the `delivered` clause is not trivially true: a duplicated event is rejected -/
example : cDelivered { exStreamAbort with mfaults := [] }
    { (modelC { exStreamAbort with mfaults := [] }) with
      sink := (modelC { exStreamAbort with mfaults := [] }).sink ++ [(⟨0, .t 0, .st .success, some [], none⟩, true, false)] } = false := by decide

end TTV.Props.C13
