import Batteries.Data.List.Basic
import TTV.Model.Matchers
import TTV.Model.MatchSkel
import TTV.Generated.MatchSrc
import TTV.Spec.C06
/-! # C06 — matcher verdicts obey their declared semantics compositionally

The harness builds each expression twice, with the two hash-set orders `ka` / `kb` of every `MatchesSetwise` node forced, and
`matchImpl`'s first argument `sel` says which build is meant; it is only handed down to the sub-matchers and decides nothing,
since `MatchesSetwise` does not look at the iteration order of its matchers. -/
namespace TTV.Props.C06
open TTV.Matchers TTV.Spec.C06

mutual
theorem veq_iff : ∀ a b : V, veq a b = true ↔ a = b
  | .int a, b => by cases b <;> simp [veq]
  | .str a, b => by cases b <;> simp [veq]
  | .bytes a, b => by cases b <;> simp [veq]
  | .none, b => by cases b <;> simp [veq]
  | .list a, b => by cases b <;> simp [veq, veqL_iff a]
  | .tuple a, b => by cases b <;> simp [veq, veqL_iff a]
  | .dict ka va, b => by cases b <;> simp [veq, veqL_iff va]
  | .obj t ka va, b => by cases b <;> simp [veq, veqL_iff va, and_assoc]
  | .exc e i, b => by cases b <;> simp [veq]
  | .fnRet a, b => by cases b <;> simp [veq, veq_iff a]
  | .fnRaise e, b => by cases b <;> simp [veq]
theorem veqL_iff : ∀ a b : List V, veqL a b = true ↔ a = b
  | [], b => by cases b <;> simp [veqL]
  | x :: xs, b => by cases b <;> simp [veqL, veq_iff x, veqL_iff xs]
end

/-- `V` is nested (`List V` inside), so `deriving DecidableEq` is not to be had, and the model, which imports nothing, decides
equality by `veq`. -/
instance : DecidableEq V := fun a b => decidable_of_iff _ (veq_iff a b)

theorem veq_eq_decide (a b : V) : veq a b = decide (a = b) :=
  Bool.eq_iff_iff.mpr ((veq_iff a b).trans decide_eq_true_iff.symm)

@[simp] theorem ofBool_true : Verdict.ofBool true = .match := rfl
@[simp] theorem ofBool_false : Verdict.ofBool false = .mismatch := rfl

theorem ofBool_eq_match (b : Bool) : Verdict.ofBool b = .match ↔ b = true := by
  cases b <;> simp

theorem isMatch_ofBool (b : Bool) : (Verdict.ofBool b).isMatch = b := by
  cases b <;> rfl

theorem all_count_eq_iff_perm {α : Type} [DecidableEq α] (a b : List α) :
    ((a ++ b).all fun x => a.count x == b.count x) = true ↔ a.Perm b := by
  rw [List.perm_iff_count, List.all_eq_true]
  refine ⟨fun h x => ?_, fun h x _ => beq_iff_eq.mpr (h x)⟩
  by_cases hx : x ∈ a ++ b
  · exact beq_iff_eq.mp (h x hx)
  · rw [List.mem_append, not_or] at hx
    rw [List.count_eq_zero_of_not_mem hx.1, List.count_eq_zero_of_not_mem hx.2]

theorem eraseV_eq (x : V) (l : List V) : eraseV x l = l.erase x := by
  induction l with
  | nil => rfl
  | cons a as ih => simp only [eraseV, List.erase_cons, veq_eq_decide, ih, beq_iff_eq, decide_eq_true_eq]

theorem count_listSubtract (x : V) (a b : List V) :
    (listSubtract a b).count x = a.count x - b.count x := by
  unfold listSubtract
  induction b generalizing a with
  | nil => rfl
  | cons y ys ih =>
    rw [List.foldl_cons, ih, eraseV_eq, List.count_erase, List.count_cons, Nat.sub_sub, Nat.add_comm]

theorem listSubtract_isEmpty (a b : List V) :
    (listSubtract a b).isEmpty = true ↔ ∀ x, a.count x ≤ b.count x := by
  simp only [List.isEmpty_iff, List.eq_nil_iff_forall_not_mem, ← List.count_eq_zero, count_listSubtract,
    Nat.sub_eq_zero_iff_le]

theorem countV_eq (x : V) (l : List V) : countV x l = l.count x := by
  rw [countV, List.count_eq_length_filter]
  congr 2
  funext y
  rw [veq_eq_decide]
  exact decide_eq_decide.mpr eq_comm

theorem sameMembers_impl_iff (e xs : List V) :
    ((listSubtract e xs).isEmpty && (listSubtract xs e).isEmpty) = true ↔ e.Perm xs := by
  rw [Bool.and_eq_true, listSubtract_isEmpty, listSubtract_isEmpty, List.perm_iff_count]
  exact ⟨fun h x => Nat.le_antisymm (h.1 x) (h.2 x), fun h => ⟨fun x => Nat.le_of_eq (h x), fun x => Nat.le_of_eq (h x).symm⟩⟩

theorem sameMembers_spec_iff (e xs : List V) :
    ((e ++ xs).all fun x => countV x e == countV x xs) = true ↔ e.Perm xs := by
  simp only [countV_eq]
  exact all_count_eq_iff_perm e xs

theorem sameMembers_impl_eq_spec (e xs : List V) :
    ((listSubtract e xs).isEmpty && (listSubtract xs e).isEmpty)
      = ((e ++ xs).all fun x => countV x e == countV x xs) :=
  Bool.eq_iff_iff.mpr ((sameMembers_impl_iff e xs).trans (sameMembers_spec_iff e xs).symm)

theorem seqAllAux_bools (fo bad : Bool) (bs : List Bool) :
    seqAllAux fo bad (bs.map Verdict.ofBool) = .ofBool (!bad && bs.all id) := by
  induction bs generalizing bad with
  | nil => cases bad <;> rfl
  | cons b bs ih => cases b <;> cases fo <;> cases bad <;> simp [seqAllAux, ih]

theorem seqAll_bools (fo : Bool) (bs : List Bool) :
    seqAll fo (bs.map Verdict.ofBool) = .ofBool (bs.all id) :=
  seqAllAux_bools fo false bs

theorem seqAny_bools (bs : List Bool) : seqAny (bs.map Verdict.ofBool) = .ofBool (bs.any id) := by
  induction bs with
  | nil => rfl
  | cons b bs ih => cases b <;> simp [seqAny, ih]

theorem map_isMatch_ofBool (bs : List Bool) : (bs.map Verdict.ofBool).map Verdict.isMatch = bs := by
  rw [List.map_map]
  exact (List.map_congr_left fun b _ => isMatch_ofBool b).trans (List.map_id bs)

/-- among Boolean verdicts nothing is `raised`, the one thing that makes the order of a replay matter -/
theorem seqAll_perm_bools (fo : Bool) {rs : List Verdict} {bs : List Bool} (h : rs.Perm (bs.map Verdict.ofBool)) :
    seqAll fo rs = .ofBool (bs.all id) := by
  have hrs : (rs.map Verdict.isMatch).map Verdict.ofBool = rs := by
    rw [List.map_map]
    refine (List.map_congr_left fun r hr => ?_).trans (List.map_id rs)
    obtain ⟨b, _, rfl⟩ := List.mem_map.mp (h.mem_iff.mp hr)
    exact congrArg Verdict.ofBool (isMatch_ofBool b)
  rw [← hrs, seqAll_bools, (h.map Verdict.isMatch).all_eq, map_isMatch_ofBool]

theorem firstRaise_bools (bs : List Bool) : firstRaise (bs.map Verdict.ofBool) = none := by
  induction bs with
  | nil => rfl
  | cons b bs ih => cases b <;> exact ih

theorem strictB_eq_some {r : Option Verdict} {b : Bool} : strictB r = some b ↔ r = some (.ofBool b) := by
  cases b <;> rcases r with _ | _ | _ | _ <;> simp [strictB]

theorem bools_cons {r : Option Verdict} {rs : List (Option Verdict)} {bs : List Bool}
    (h : bools (r :: rs) = some bs) : ∃ b bs', bs = b :: bs' ∧ strictB r = some b ∧ bools rs = some bs' := by
  simp only [bools] at h
  split at h
  · rename_i b bs' hb hbs
    exact ⟨b, bs', (Option.some.inj h).symm, hb, hbs⟩
  · cases h

theorem bools_eq_allSome (rs : List (Option Verdict)) : bools rs = allSome (rs.map strictB) := by
  induction rs with
  | nil => rfl
  | cons r rs ih =>
    rw [bools, ih, List.map_cons]
    cases strictB r <;> cases h : allSome (rs.map strictB) <;> simp [allSome, h]

theorem map_eq_map_of_allSome {α β γ : Type} {f : α → Option β} {g : α → γ} {k : β → γ} :
    ∀ {xs : List α} {ys : List β}, allSome (xs.map f) = some ys → (∀ x ∈ xs, ∀ y, f x = some y → g x = k y) →
      xs.map g = ys.map k
  | [], _, h, _ => by cases h; rfl
  | x :: xs, ys, h, hs => by
    cases hx : f x with
    | none => simp [hx, allSome] at h
    | some y =>
      simp only [List.map_cons, hx, allSome, Option.map_eq_some_iff] at h
      obtain ⟨ys', hys', rfl⟩ := h
      rw [List.map_cons, List.map_cons, hs x List.mem_cons_self y hx,
        map_eq_map_of_allSome hys' fun x' hx' => hs x' (List.mem_cons_of_mem _ hx')]

theorem map_eq_ofBool_of_bools {α : Type} {f : α → Verdict} {g : α → Option Verdict} {xs : List α} {bs : List Bool}
    (h : bools (xs.map g) = some bs) (hs : ∀ x ∈ xs, ∀ s, g x = some s → f x = s) :
    xs.map f = bs.map Verdict.ofBool := by
  rw [bools_eq_allSome, List.map_map] at h
  exact map_eq_map_of_allSome h fun x hx b hb => hs x hx _ (strictB_eq_some.mp hb)

theorem leaf_sound (l : Leaf) (v : V) (s : Verdict) (h : leafSpec l v = some s) : leafImpl l v = s := by
  unfold leafSpec at h
  split at h
  · split at h   -- `.sameMembers`
    · rename_i hv
      simp only [leafImpl, hv, sameMembers_impl_eq_spec]
      exact Option.some.inj h
    · cases h
  · cases v <;> first | exact Option.some.inj h | cases h   -- `.raisesAny`
  · split at h   -- every other leaf: the documented verdict is what `leafImpl` returns, unless that is `raised`
    · cases h
    · exact Option.some.inj h

theorem pyLen_of_pyIter {v : V} {xs : List V} (h : pyIter v = some xs) : pyLen v = some xs.length := by
  cases v <;> cases h <;> simp [pyLen]

theorem listwiseImpl_bools (fo : Bool) (n : Nat) (bs : List Bool) {v : V} {xs : List V} (hv : pyIter v = some xs) :
    listwiseImpl fo n (bs.map Verdict.ofBool) v = .ofBool (xs.length == n && bs.all id) := by
  simp only [listwiseImpl, pyLen_of_pyIter hv, seqAllAux_bools, bne, Bool.not_not]

/-- no entry of a Boolean acceptance matrix raises, so the verdict is `assignB` of the matrix: the same exhaustive search
for a one-to-one pairing that `spec` uses.  That the augmenting-path search of the code finds a pairing whenever one exists is
not proved here (`SetwiseSkel.pairing` only recognises its shape). -/
theorem setwiseImpl_bools {rowOf : V → List Verdict} (n : Nat) {v : V} {xs : List V} {matrix : List (List Bool)}
    (hv : pyIter v = some xs) (hrows : xs.map rowOf = matrix.map (·.map Verdict.ofBool)) :
    setwiseImpl rowOf n v = .ofBool (assignB matrix (List.range n)) := by
  simp only [setwiseImpl, hv, hrows, ← List.map_flatten, firstRaise_bools, List.map_map, Function.comp_def,
    isMatch_ofBool, List.map_id']

theorem dictImpl_bools (kind : DictKind) (ks oks : List Key) (ovs : List V) {diffs : List (Option Verdict)}
    {bs : List Bool} (h : somes diffs = bs.map Verdict.ofBool) :
    dictImpl kind ks diffs (.dict oks ovs) = .ofBool (keyCond kind ks oks && bs.all id) := by
  cases kind <;>
    simp only [dictImpl, h, seqAllAux_bools, keyCond, subsetB, Bool.not_or, List.not_any_eq_all_not, Bool.not_not,
      Bool.and_comm]

theorem somes_eq_filterMap (l : List (Option Verdict)) : somes l = l.filterMap id := by
  induction l with
  | nil => rfl
  | cons a l ih => cases a <;> simp [somes, ih]

theorem insertKey_perm {α : Type} (x : Nat × α) (l : List (Nat × α)) :
    (insertKey x l).Perm (x :: l) := by
  induction l with
  | nil => exact .refl _
  | cons y ys ih =>
    rw [insertKey]
    split
    · exact .refl _
    · exact (ih.cons y).trans (.swap x y ys)

theorem sortKey_perm {α : Type} (l : List (Nat × α)) : (sortKey l).Perm l := by
  induction l with
  | nil => exact .refl _
  | cons x xs ih => exact (insertKey_perm x _).trans (ih.cons x)

/-- `MatchesStructure` with every attribute present: the sorted order in which the parts are asked plays no role -/
theorem structImpl_bools (attrs : List Nat) {rs : List (Option Verdict)} {bs : List Bool}
    (hlen : rs.length = attrs.length) (hnone : rs.any Option.isNone = false) (h : somes rs = bs.map Verdict.ofBool) :
    structImpl attrs rs = .ofBool (bs.all id) := by
  rw [structImpl, hnone, hlen, bne_self_eq_false, Bool.or_false, if_neg Bool.false_ne_true]
  refine seqAll_perm_bools false ?_
  rw [← h, somes_eq_filterMap, somes_eq_filterMap]
  refine (((sortKey_perm _).map _).filterMap _).trans ?_
  rw [List.map_snd_zip (Nat.le_of_eq hlen)]

theorem matchZip_shape (sel : Bool) : ∀ (ms : List M) (vs : List (Option V)), ms.length = vs.length →
    (matchZip sel ms vs).length = vs.length ∧
    (matchZip sel ms vs).any Option.isNone = vs.any Option.isNone
  | [], [], _ => ⟨rfl, rfl⟩
  | _ :: ms, o :: vs, h =>
    have ih := matchZip_shape sel ms vs (Nat.succ.inj h)
    match o with
    | none => ⟨congrArg _ ih.1, rfl⟩
    | some _ => ⟨congrArg _ ih.1, ih.2⟩

mutual
/-- **C06 (soundness).**  For every matcher expression (any depth; all stock matchers and combinators,
`MatchesSetwise` included; leaves whose meaning lives in another library as arbitrary predicate tables),
every value in the documented domain (`spec m v = some s`) and either build of the expression:
`match()` returns exactly the documented verdict. -/
theorem C06_sound (sel : Bool) (m : M) (v : V) (s : Verdict) (hdom : spec m v = some s) :
    matchImpl sel m v = s :=
  match m, hdom with
  | .leaf l, h => leaf_sound l v s h
  | .excTypeV cs vm, h => by
    simp only [spec] at h
    simp only [matchImpl]
    split at h
    · dsimp only
      split at h
      · rename_i hm
        obtain ⟨b, hb, rfl⟩ := Option.map_eq_some_iff.mp h
        rw [if_pos hm]
        exact C06_sound sel vm _ _ (strictB_eq_some.mp hb)
      · rename_i hm
        rw [if_neg hm]
        exact Option.some.inj h
    · cases h
    · rename_i h1 h2   -- `v` is neither an exc_info (`h1`) nor a tuple (`h2`): the last arm of `matchImpl` as well
      cases Option.some.inj h
      split
      · exact absurd rfl (h1 _)
      · exact absurd rfl (h2 _)
      · rfl
  | .raises em, h => by
    simp only [spec] at h
    simp only [matchImpl]
    split at h
    · exact Option.some.inj h
    · rename_i e
      simp only [callV]
      cases hb : strictB (spec em (.exc e true)) with
      | none => rw [hb] at h; cases h
      | some b =>
        rw [hb] at h
        rw [C06_sound sel em _ _ (strictB_eq_some.mp hb)]
        cases b <;> exact Option.some.inj h
    · cases h
  | .not m, h => by
    obtain ⟨b, hb, rfl⟩ := Option.map_eq_some_iff.mp h
    simp only [matchImpl, C06_sound sel m v _ (strictB_eq_some.mp hb)]
    cases b <;> rfl
  | .all _ ms, h | .any ms, h => by
    obtain ⟨bs, hb, rfl⟩ := Option.map_eq_some_iff.mp h
    simp only [matchImpl, soundRow sel ms v bs hb, seqAll_bools, seqAny_bools]
  | .allMatch m, h | .anyMatch m, h => by
    simp only [spec] at h
    split at h
    · cases h
    · rename_i hv
      obtain ⟨bs, hb, rfl⟩ := Option.map_eq_some_iff.mp h
      simp only [matchImpl, hv, map_eq_ofBool_of_bools hb fun x _ => C06_sound sel m x, seqAll_bools, seqAny_bools]
  | .listwise fo ms, h => by
    simp only [spec] at h
    split at h
    · cases h
    · rename_i hv
      obtain ⟨bs, hb, rfl⟩ := Option.map_eq_some_iff.mp h
      simp only [matchImpl, hv, soundZip sel ms _ bs hb, listwiseImpl_bools fo _ bs hv]
  | .setwise ka kb ms, h => by
    simp only [spec] at h
    split at h
    · cases h
    · rename_i hv
      obtain ⟨matrix, hm, rfl⟩ := Option.map_eq_some_iff.mp h
      exact setwiseImpl_bools _ hv (map_eq_map_of_allSome hm fun x _ => soundRow sel ms x)
  | .structure attrs ms, h => by
    simp only [spec] at h
    split at h
    · cases h
    · rename_i hc
      rw [Bool.or_eq_true, not_or, bne_iff_ne, ne_eq, Decidable.not_not, Bool.not_eq_true] at hc
      obtain ⟨bs, hb, rfl⟩ := Option.map_eq_some_iff.mp h
      obtain ⟨hlen, hnone⟩ := matchZip_shape sel ms (attrs.map (getAttr v)) (by rw [List.length_map, hc.1])
      exact structImpl_bools attrs (hlen.trans (List.length_map _)) (hnone.trans hc.2) (soundZip sel ms _ bs hb)
  | .dict kind ks ms, h => by
    simp only [spec] at h
    simp only [matchImpl]
    split at h
    · split at h
      · cases h
      · obtain ⟨bs, hb, rfl⟩ := Option.map_eq_some_iff.mp h
        exact dictImpl_bools kind ks _ _ (soundZip sel ms _ bs hb)
    · cases h
  | .annotate m, h => C06_sound sel m v s h
  | .after f a m, h => by
    simp only [spec] at h
    split at h
    · rename_i hp
      simp only [matchImpl, hp]
      exact C06_sound sel m _ s h
    · cases h
theorem soundRow (sel : Bool) : ∀ (ms : List M) (v : V) (bs : List Bool),
    bools (specRow ms v) = some bs → matchRow sel ms v = bs.map Verdict.ofBool
  | [], v, bs, h => by cases h; rfl
  | m :: ms, v, bs, h => by
    obtain ⟨b, bs', rfl, hb, hbs⟩ := bools_cons h
    rw [matchRow, C06_sound sel m v _ (strictB_eq_some.mp hb), soundRow sel ms v bs' hbs, List.map_cons]
theorem soundZip (sel : Bool) : ∀ (ms : List M) (vs : List (Option V)) (bs : List Bool),
    bools (specZip ms vs) = some bs → somes (matchZip sel ms vs) = bs.map Verdict.ofBool
  | [], vs, bs, h => by cases h; rfl
  | _ :: _, [], bs, h => by cases h; rfl
  | m :: ms, none :: vs, bs, h => soundZip sel ms vs bs h
  | m :: ms, some v :: vs, bs, h => by
    obtain ⟨b, bs', rfl, hb, hbs⟩ := bools_cons h
    rw [matchZip, somes, C06_sound sel m v _ (strictB_eq_some.mp hb), soundZip sel ms vs bs' hbs, List.map_cons]
end

/-- **C06 (determinism across builds / hash-set orders)**: the verdict does not depend on how the set of matchers of a
`MatchesSetwise` happens to iterate.  Stated, and proved, in the documented domain, where both builds return the documented
verdict; `Spec.C06.cDeterministic` asks no more, since outside the domain the property claims nothing.  (There the two sides agree
as well, since `matchImpl` only hands `sel` down; that is read off its definition, not proved.) -/
theorem C06_deterministic (m : M) (v : V) (hdom : (spec m v).isSome = true) :
    matchImpl true m v = matchImpl false m v := by
  obtain ⟨s, hs⟩ := Option.isSome_iff_exists.mp hdom
  rw [C06_sound true m v s hs, C06_sound false m v s hs]

/-- `MatchesSetwise` (specification): a one-to-one assignment `p` of the values to the matcher indices
exists — `p` is a permutation of the indices, value `k` is accepted by matcher `p[k]`. -/
theorem C06_spec_setwise_assignment (rows : List (List Bool)) : ∀ (rem : List Nat),
    assignB rows rem = true ↔
      ∃ p : List Nat, p.Perm rem ∧ List.Forall₂ (fun row i => row.getD i false = true) rows p := by
  induction rows with
  | nil =>
    intro rem
    simp only [assignB, List.isEmpty_iff]
    constructor
    · rintro rfl; exact ⟨[], List.Perm.refl _, List.Forall₂.nil⟩
    · rintro ⟨p, hp, hf⟩
      cases hf
      exact List.perm_nil.mp hp.symm
  | cons row rows ih =>
    intro rem
    simp only [assignB, List.any_eq_true, Bool.and_eq_true]
    constructor
    · rintro ⟨i, hi, hrow, hrest⟩
      obtain ⟨p, hp, hf⟩ := (ih _).mp hrest
      exact ⟨i :: p, (List.Perm.cons i hp).trans (List.perm_cons_erase hi).symm, List.Forall₂.cons hrow hf⟩
    · rintro ⟨p, hp, hf⟩
      cases hf with
      | cons hrow hf =>
        rename_i i p'
        have hi : i ∈ rem := hp.mem_iff.mp List.mem_cons_self
        refine ⟨i, hi, hrow, (ih _).mpr ⟨p', ?_, hf⟩⟩
        exact List.Perm.cons_inv (hp.trans (List.perm_cons_erase hi))

/-- **C06 (`MatchesSetwise`)**: if every matcher has a Boolean documented verdict on every value (`hm`: `matrix` is the table of
these, one row per value), the verdict is `assignB` of the table: a match exactly when a one-to-one pairing of all values with all
matchers exists (`C06_spec_setwise_assignment`). -/
theorem C06_setwise (sel : Bool) (ka kb : List Nat) (ms : List M) (v : V) (xs : List V) (matrix : List (List Bool))
    (hv : pyIter v = some xs) (hm : allSome (xs.map fun x => bools (specRow ms x)) = some matrix) :
    matchImpl sel (.setwise ka kb ms) v = .ofBool (assignB matrix (List.range ms.length)) :=
  C06_sound sel _ v _ (by simp only [spec, hv, hm, Option.map_some])

/-- **C06 (determinism and purity of the model)**: calling `match()` again on the same matcher object
gives the same verdict, and nothing is modified — by construction (`matchImpl` is a function of the
expression and the value, and has no state to modify). -/
theorem C06_pure_deterministic (i : Input) :
    (model i).again = (model i).first ∧ (model i).pureM = true ∧ (model i).pureV = true :=
  ⟨rfl, rfl, rfl⟩

/-- `KeysEqual`: the keys of the dict are exactly the expected keys (as multisets — no order on the keys is
needed, they may be of types that cannot be compared with each other). -/
theorem C06_keysEqual_perm (sel : Bool) (ks oks : List Key) (ovs : List V) :
    matchImpl sel (.leaf (.keysEqual ks)) (.dict oks ovs) = .match ↔ ks.Perm oks :=
  (ofBool_eq_match (sameKeys ks oks)).trans (all_count_eq_iff_perm ks oks)

/-- `SameMembers`: the matchee is a permutation of the expected list (same members, same repetitions). -/
theorem C06_sameMembers_perm (sel : Bool) (e xs : List V) :
    matchImpl sel (.leaf (.sameMembers e)) (.list xs) = .match ↔ e.Perm xs :=
  (ofBool_eq_match _).trans (sameMembers_impl_iff e xs)

/-! ## readings of `spec` as plain propositions -/

theorem exists_bools_map {α : Type} (f : α → Option Verdict) : ∀ {xs : List α}, (∀ x ∈ xs, ∃ b, f x = some (.ofBool b)) →
    ∃ bs, bools (xs.map f) = some bs ∧ (bs.all id = true ↔ ∀ x ∈ xs, f x = some .match) ∧
      (bs.any id = true ↔ ∃ x ∈ xs, f x = some .match)
  | [], _ => ⟨[], by simp [bools]⟩
  | x :: xs, h => by
    obtain ⟨b, hb⟩ := h x List.mem_cons_self
    obtain ⟨bs, hbs, hall, hany⟩ := exists_bools_map f (xs := xs) fun x hx => h x (List.mem_cons_of_mem _ hx)
    refine ⟨b :: bs, ?_, ?_, ?_⟩
    · simp [bools, strictB_eq_some.mpr hb, hbs]
    · cases b <;> simp [hb, hall]
    · cases b <;> simp [hb, hany]

theorem specRow_eq_map (ms : List M) (v : V) : specRow ms v = ms.map (spec · v) := by
  induction ms with
  | nil => rfl
  | cons m ms ih => rw [specRow, ih, List.map_cons]

theorem specZip_eq_map : ∀ (ms : List M) (xs : List V),
    specZip ms (xs.map some) = (ms.zip xs).map fun p => spec p.1 p.2
  | [], _ => by simp [specZip]
  | _ :: _, [] => by simp [specZip]
  | m :: ms, x :: xs => by simp [specZip, specZip_eq_map ms xs]

/-- `Not` negates. -/
theorem C06_spec_not (m : M) (v : V) (b : Bool) (h : spec m v = some (.ofBool b)) :
    spec (.not m) v = some (.ofBool (!b)) := by
  simp [spec, strictB_eq_some.mpr h]

/-- `MatchesAll` is the conjunction of its parts (the empty conjunction matches). -/
theorem C06_spec_all (fo : Bool) (ms : List M) (v : V) (hparts : ∀ m ∈ ms, ∃ b, spec m v = some (.ofBool b)) :
    ∃ b, spec (.all fo ms) v = some (.ofBool b) ∧ (b = true ↔ ∀ m ∈ ms, spec m v = some .match) := by
  obtain ⟨bs, hbs, hall, _⟩ := exists_bools_map (spec · v) hparts
  exact ⟨bs.all id, by simp only [spec, specRow_eq_map, hbs, Option.map_some], hall⟩

/-- `MatchesAny` is the disjunction of its parts (the empty disjunction mismatches). -/
theorem C06_spec_any (ms : List M) (v : V) (hparts : ∀ m ∈ ms, ∃ b, spec m v = some (.ofBool b)) :
    ∃ b, spec (.any ms) v = some (.ofBool b) ∧ (b = true ↔ ∃ m ∈ ms, spec m v = some .match) := by
  obtain ⟨bs, hbs, _, hany⟩ := exists_bools_map (spec · v) hparts
  exact ⟨bs.any id, by simp only [spec, specRow_eq_map, hbs, Option.map_some], hany⟩

/-- `AllMatch` / `AnyMatch` quantify over the elements of the matchee. -/
theorem C06_spec_allMatch (m : M) (v : V) (xs : List V) (hv : pyIter v = some xs)
    (hparts : ∀ x ∈ xs, ∃ b, spec m x = some (.ofBool b)) :
    (∃ b, spec (.allMatch m) v = some (.ofBool b) ∧ (b = true ↔ ∀ x ∈ xs, spec m x = some .match)) ∧
    (∃ b, spec (.anyMatch m) v = some (.ofBool b) ∧ (b = true ↔ ∃ x ∈ xs, spec m x = some .match)) := by
  obtain ⟨bs, hbs, hall, hany⟩ := exists_bools_map (spec m) hparts
  exact ⟨⟨bs.all id, by simp only [spec, hv, hbs, Option.map_some], hall⟩,
    ⟨bs.any id, by simp only [spec, hv, hbs, Option.map_some], hany⟩⟩

/-- `Annotate` keeps the inner verdict; `AfterPreprocessing` is the inner matcher on the transformed value. -/
theorem C06_spec_transparent (m : M) (v w : V) (f : PreFn) (a : Bool) (hf : applyPre f v = .ok w) :
    spec (.annotate m) v = spec m v ∧ spec (.after f a m) v = spec m w := by
  simp only [spec, hf, and_self]

/-- `MatchesListwise` is positional with equal length. -/
theorem C06_spec_listwise (fo : Bool) (ms : List M) (v : V) (xs : List V) (hv : pyIter v = some xs)
    (hparts : ∀ p ∈ ms.zip xs, ∃ b, spec p.1 p.2 = some (.ofBool b)) :
    ∃ b, spec (.listwise fo ms) v = some (.ofBool b) ∧
      (b = true ↔ xs.length = ms.length ∧ ∀ p ∈ ms.zip xs, spec p.1 p.2 = some .match) := by
  obtain ⟨bs, hbs, hall, _⟩ := exists_bools_map (fun p : M × V => spec p.1 p.2) hparts
  refine ⟨xs.length == ms.length && bs.all id, by simp only [spec, hv, specZip_eq_map, hbs, Option.map_some], ?_⟩
  rw [Bool.and_eq_true, hall, beq_iff_eq]

/-- `MatchesDict` / `ContainsDict` / `ContainedByDict`: exact / super / sub key sets. -/
theorem C06_spec_dict_keys (kind : DictKind) (ks oks : List Key) :
    keyCond kind ks oks = true ↔
      (match kind with
       | .exact => (∀ k ∈ ks, k ∈ oks) ∧ (∀ k ∈ oks, k ∈ ks)
       | .contains => ∀ k ∈ ks, k ∈ oks
       | .containedBy => ∀ k ∈ oks, k ∈ ks) := by
  cases kind <;> simp [keyCond, subsetB]

/-- The dict matchers: the key-set condition of their kind and the per-key matchers on the expected keys. -/
theorem C06_spec_dict (kind : DictKind) (ks : List Key) (ms : List M) (oks : List Key) (ovs : List V)
    (bs : List Bool) (hlen : ks.length = ms.length)
    (hparts : bools (specZip ms (ks.map fun k => lookupK k oks ovs)) = some bs) :
    spec (.dict kind ks ms) (.dict oks ovs) = some (.ofBool (keyCond kind ks oks && bs.all id)) := by
  simp [spec, hlen, hparts]

/-! ## defect D5 of DESIGN.md (greedy pairing in set-iteration order, since repaired): the input that showed it -/
def witnessM : M :=
  .setwise [0, 1] [1, 0] [.any [.leaf (.equals (.int 1)), .leaf (.equals (.int 2))], .leaf (.equals (.int 1))]
def witnessV : V := .list [.int 1, .int 2]

/-- `MatchesSetwise(MatchesAny(Equals(1), Equals(2)), Equals(1))` on `[1, 2]`: a one-to-one pairing
exists; the greedy code said mismatch whenever the set iterated `MatchesAny` first.  `setwiseImpl` tries every pairing
(`assignB`, as `spec` does), whichever build is asked for. -/
theorem C06_setwise_regression :
    spec witnessM witnessV = some .match ∧
    matchImpl true witnessM witnessV = .match ∧ matchImpl false witnessM witnessV = .match :=
  ⟨rfl, rfl, rfl⟩

/-- The executable specification holds of the model's trace, for every input. -/
theorem holds_model (i : Input) : holds i (model i) = true := by
  simp only [holds, clauses, List.all_cons, List.all_nil, Bool.and_true, Bool.and_eq_true]
  refine ⟨?_, ?_, ?_⟩
  · simp only [cSound, model]
    split
    · rfl
    · rename_i s hs
      rw [C06_sound true i.m i.v s hs]; simp
  · simp only [cDeterministic, model, beq_self_eq_true, Bool.true_and]
    cases hs : spec i.m i.v with
    | none => simp
    | some s => rw [C06_deterministic i.m i.v (Option.isSome_iff_exists.mpr ⟨s, hs⟩)]; simp
  · simp [cPure, model]

/-! # source ties: the model is the interpretation of what `harness/pymatch2lean.py` finds in the tree

`TTV.Generated.MatchSrc` is rewritten from `testtools/matchers/*.py`, `testcase.py` and `assertions.py` on every run.  Each
`C06_src_*` theorem states (1) the generated data equals the reference data (`rfl`), or (2) the hand-written `matchImpl` clause
is the interpretation (`TTV.MatchSkel.*I`) of the generated data.  Only the loops, the two wrappers, the binary comparisons, the
listwise loop and the dict matchers' own conditions have an interpreter; for the other skeletons (1) is the whole tie, and
`LoopSkel.over`, `ListwiseSkel.lengthFirst` / `lengthTest` enter no interpreter either. -/
section SourceTies
open TTV.MatchSkel TTV.Generated

theorem loopI_any {sk : LoopSkel} (hm : firstArm sk.arms .match = some .returnNone)
    (hx : firstArm sk.arms .mismatch = some .collect) (he : sk.atEnd = .mismatchesAll) (fo any : Bool)
    (rs : List Verdict) : loopI sk fo any rs = seqAny rs := by
  induction rs generalizing any with
  | nil => simp only [loopI, he, seqAny]
  | cons r rs ih => cases r <;> simp only [loopI, hm, hx, ih, seqAny]

theorem loopI_all {sk : LoopSkel} (hm : firstArm sk.arms .match = none)
    (hx : firstArm sk.arms .mismatch = some .returnItIfFirstOnlyElseCollect) (he : sk.atEnd = .mismatchesAllIfAny)
    (fo bad : Bool) (rs : List Verdict) : loopI sk fo bad rs = seqAllAux fo bad rs := by
  induction rs generalizing bad with
  | nil => simp only [loopI, he, seqAllAux]
  | cons r rs ih => cases r <;> simp only [loopI, hm, hx, ih, seqAllAux]

theorem loopI_collect {sk : LoopSkel} (hm : firstArm sk.arms .match = none)
    (hx : firstArm sk.arms .mismatch = some .collect) (he : sk.atEnd = .mismatchesAllIfAny)
    (fo bad : Bool) (rs : List Verdict) : loopI sk fo bad rs = seqAllAux false bad rs := by
  induction rs generalizing bad with
  | nil => simp only [loopI, he, seqAllAux]
  | cons r rs ih => cases r <;> simp only [loopI, hm, hx, ih, seqAllAux, Bool.false_eq_true, if_false]

/-- the four result loops of `_higherorder.py` as found in the source -/
theorem C06_src_loops :
    MatchSrc.matchesAny = refAny ∧ MatchSrc.matchesAll = refAll ∧ MatchSrc.allMatch = refAllMatch ∧
    MatchSrc.anyMatch = refAnyMatch :=
  ⟨rfl, rfl, rfl, rfl⟩

/-- `MatchesAny` / `MatchesAll`: the model's clauses are the source's loops run over the sub-results -/
theorem C06_src_matchesAny (sel : Bool) (ms : List M) (v : V) :
    matchImpl sel (.any ms) v = loopI MatchSrc.matchesAny false false (matchRow sel ms v) :=
  (loopI_any rfl rfl rfl false false _).symm
theorem C06_src_matchesAll (sel fo : Bool) (ms : List M) (v : V) :
    matchImpl sel (.all fo ms) v = loopI MatchSrc.matchesAll fo false (matchRow sel ms v) :=
  (loopI_all rfl rfl rfl fo false _).symm
theorem C06_src_allMatch (sel : Bool) (m : M) (v : V) :
    matchImpl sel (.allMatch m) v = (match pyIter v with
      | none => .raised .typeError
      | some xs => loopI MatchSrc.allMatch false false (xs.map (matchImpl sel m))) := by
  simp only [matchImpl, loopI_collect (sk := MatchSrc.allMatch) rfl rfl rfl, seqAll]
  cases pyIter v <;> rfl
theorem C06_src_anyMatch (sel : Bool) (m : M) (v : V) :
    matchImpl sel (.anyMatch m) v = (match pyIter v with
      | none => .raised .typeError
      | some xs => loopI MatchSrc.anyMatch false false (xs.map (matchImpl sel m))) := by
  simp only [matchImpl, loopI_any (sk := MatchSrc.anyMatch) rfl rfl rfl]
  cases pyIter v <;> rfl

/-- no class of `testtools/matchers/*.py` overrides truthiness (`__bool__` / `__len__`): a stock mismatch object is truthy, so the
`truthy` / `falsy` tests of the loops above read as `ResTest.holds` says -/
theorem C06_src_mismatch_truthy : MatchSrc.mismatch.truthOverrides = [] := rfl

/-- `Not`, `Annotate`: the test on the inner result and what is returned; `AfterPreprocessing`: the preprocessor first, then the
inner matcher (annotated if asked) on its result; `MatchesPredicate` / `_MatchesPredicateWithParams`: a mismatch iff the predicate
is false, its message formatted with the matchee as a 1-tuple -/
theorem C06_src_wrappers : MatchSrc.notM = refNot ∧ MatchSrc.annotate = refAnnotate ∧
    MatchSrc.afterPreprocessing = refAfter ∧ MatchSrc.matchesPredicate = refPredicate ∧
    MatchSrc.matchesPredicateWithParams = refPredicate :=
  ⟨rfl, rfl, rfl, rfl, rfl⟩
theorem C06_src_not (sel : Bool) (m : M) (v : V) :
    matchImpl sel (.not m) v = wrapI MatchSrc.notM (matchImpl sel m v) := by
  simp only [matchImpl]
  cases matchImpl sel m v <;> rfl
theorem C06_src_annotate (sel : Bool) (m : M) (v : V) :
    matchImpl sel (.annotate m) v = wrapI MatchSrc.annotate (matchImpl sel m v) := by
  simp only [matchImpl]
  cases matchImpl sel m v <;> rfl

/-- `_BinaryComparison.match` and the operator table of its five subclasses -/
theorem C06_src_binary_table : MatchSrc.binaryComparison = refBin := rfl
theorem C06_src_binary (e v : V) :
    leafImpl (.equals e) v = binI MatchSrc.binaryComparison "Equals" e v ∧
    leafImpl (.notEquals e) v = binI MatchSrc.binaryComparison "NotEquals" e v ∧
    leafImpl (.is_ e) v = binI MatchSrc.binaryComparison "Is" e v ∧
    leafImpl (.lessThan e) v = binI MatchSrc.binaryComparison "LessThan" e v ∧
    leafImpl (.greaterThan e) v = binI MatchSrc.binaryComparison "GreaterThan" e v := by
  rw [C06_src_binary_table]
  refine ⟨?_, ?_, ?_, ?_, ?_⟩ <;> simp [leafImpl, binI, rowOf, refBin, cmpI]
  · cases pyLt v e <;> rfl
  · cases pyLt e v <;> rfl

/-- `MatchesListwise`: the length check comes first and is collected, then the positional loop -/
theorem C06_src_listwise_skel : MatchSrc.matchesListwise = refListwise := rfl
theorem C06_src_listwise (fo : Bool) (n : Nat) (rs : List Verdict) (v : V) :
    listwiseImpl fo n rs v = (match pyLen v with
      | none => .raised .typeError
      | some len => loopI MatchSrc.matchesListwise.loop fo (len != n) rs) := by
  rw [C06_src_listwise_skel]
  simp only [listwiseImpl, loopI_all (sk := refListwise.loop) rfl rfl rfl]
  cases pyLen v <;> rfl

/-- `MatchesStructure` (attributes in sorted order, each read before anything is matched, then `MatchesListwise`),
`MatchesSetwise` (every occurrence of a matcher counts, value-major acceptance matrix tested with `is None`, an
augmenting-path pairing, a mismatch iff something is left over), `ContainsAll` -/
theorem C06_src_datastructures : MatchSrc.matchesStructure = refStructure ∧ MatchSrc.matchesSetwise = refSetwise ∧
    MatchSrc.containsAll = refContainsAll :=
  ⟨rfl, rfl, rfl⟩

/-- the dict matchers: which of extra / missing / differences each class reports, in which order; no short-circuit;
a part is kept iff truthy; `KeysEqual` decides by both subtractions -/
theorem C06_src_dict_skel : MatchSrc.dictMatchers = refDict := rfl
theorem C06_src_dict (kind : DictKind) (ks : List Key) (diffs : List (Option Verdict)) (oks : List Key) (ovs : List V) :
    dictImpl kind ks diffs (.dict oks ovs) =
      seqAllAux false
        (dictOwnI (dictRow MatchSrc.dictMatchers (dictClass kind))
          (oks.any fun k => !ks.contains k) (ks.any fun k => !oks.contains k))
        (somes diffs) := by
  rw [C06_src_dict_skel]
  cases kind <;> simp [dictImpl, dictOwnI, dictRow, refDict, dictClass]

/-- the remaining leaves of `_basic.py`: `Contains` (which exceptions of `in` mean "not contained"), `SameMembers`
(both subtractions empty), `StartsWith` / `EndsWith` / `MatchesRegex` / `IsInstance` (the deciding call and its sense) -/
theorem C06_src_leaves : MatchSrc.containsM = refContains ∧ MatchSrc.sameMembers = refSameMembers ∧
    MatchSrc.startsWith = refStartsWith ∧ MatchSrc.endsWith = refEndsWith ∧ MatchSrc.matchesRegex = refRegex ∧
    MatchSrc.isInstanceM = refIsInstance :=
  ⟨rfl, rfl, rfl, rfl, rfl, rfl⟩

/-- `MatchesException.match` (the ladder of tests, in order) and `Raises.match` (call inside `try`, "returned" is a
mismatch, `except BaseException`, the matcher guard, "matched" = falsy mismatch, the propagate rule) -/
theorem C06_src_exception : MatchSrc.matchesException = refMatchesException ∧ MatchSrc.raisesM = refRaises :=
  ⟨rfl, rfl⟩

/-- `Warnings.match`: records inside `catch_warnings(record=True)`, installs the action "always" before the call (every warning
the callable emits reaches the list, repeats included; the caller's filters are restored by the block), hands the recorded list to
the matcher, or mismatches iff the list is empty; `IsDeprecated` = a list of exactly one `DeprecationWarning` -/
theorem C06_src_warnings : MatchSrc.warningsM = refWarnings := rfl

end SourceTies

-- the only perfect pairing is not the greedy one in either order: 1↦Equals(1), 2↦Any(1,2), 3↦Any(2,3)
example : spec (.setwise [0, 1, 2] [1, 0, 2]
      [.any [.leaf (.equals (.int 1)), .leaf (.equals (.int 2))], .any [.leaf (.equals (.int 2)), .leaf (.equals (.int 3))],
       .leaf (.equals (.int 1))]) (.list [.int 1, .int 2, .int 3]) = some .match := by decide
-- no pairing: two values for one accepting matcher
example : spec (.setwise [0, 1] [1, 0] [.leaf (.equals (.int 1)), .leaf .never]) (.list [.int 1, .int 1]) = some .mismatch := by decide
-- a nested expression inside the domain with verdict mismatch; and a value outside the domain
example : spec (.all false [.leaf (.lessThan (.int 3)), .not (.leaf (.equals (.int 2)))]) (.int 2) = some .mismatch := by decide
example : spec (.leaf (.lessThan (.int 3))) (.str [97]) = none := by decide
-- dict matchers over keys that cannot be ordered with each other (1, 'a', None, b'k', (1, 2))
example : spec (.dict .exact [.none, .int 1, .str 0] [.leaf .always, .leaf (.equals (.int 5)), .leaf .never])
    (.dict [.int 1, .str 0, .tup [.int 1, .str 0], .tup [.str 0, .int 1]] [.int 5, .int 0, .none, .none]) = some .mismatch := by decide
example : matchImpl true (.leaf (.keysEqual [.str 0, .int 1])) (.dict [.int 1, .str 0] [.int 0, .int 0]) = .match := by decide
-- the propagate rule of Raises
example : spec (.raises (.leaf (.excType [.valueError]))) (.fnRaise ⟨.keyboardInterrupt, 0⟩) = some (.raised .keyboardInterrupt) := by decide

end TTV.Props.C06
