import TTV.Lemmas.RunTrace
import TTV.Lemmas.RunSkel
import TTV.Generated.RunSkel
/-! # C01 — every test run is bracketed and yields exactly one outcome

All theorems but the last two are about `TTV.Run.runOnce` (one `case.run(result)`) for **every** program (any nesting of
cleanups / fixtures, any exception kinds in any stages, any handler table, decorators, details, every
result flavour) and every left-over `force_failure`; `holds_model` lifts them to any number of repeated
runs.  Hypothesis `wf p` (`Spec/RunCommon.lean`); of its conjuncts these proofs use two: distinct stage ids (so that the
trace's stage ids determine the stages) and user handlers only for classes deriving from `Exception`.  The last two
(`C01_src_run_core`, `C01_src_run_core_skip`) tie the model's `runCore` to the control skeleton of `RunTest._run_core` read
from `testtools/runtest.py`. -/
namespace TTV.Props.C01
open TTV.Run TTV.Spec.Run TTV.Spec.C01

/-- C01 (bracket): the result receives exactly `startTest`, one outcome, `stopTest` (stream flavour: the
`inprogress` event and one final status; `result=None`: additionally inside a startTestRun/stopTestRun
pair) — whichever stages raise whatever. -/
theorem C01_bracket (p : Program) (ff0 : Bool) (hwf : wf p = true) :
    ∃ o d, resultEvents (runOnce p ff0) = wrapRun p.flavour ([.startTest, .outcome o d] ++ stopEv p.flavour) := by
  obtain ⟨log, o, d, hlog, hev⟩ := runOnce_events p ff0 hwf
  exact ⟨o, d, resultEvents_of_events hev hlog⟩

/-- C01 (non-`Exception`): if any stage — setUp, the test method, tearDown, any cleanup at any depth, any
constituent of a MultipleExceptions — raised an exception that does not derive from `Exception`, the
outcome is an error, `run()` raises such an exception, and it does so with the complete bracket delivered
(`C01_bracket`) and all stages run (`C01_all_stages_run`). -/
theorem C01_nonException (p : Program) (ff0 : Bool) (hwf : wf p = true) (hskip : p.skipDeco = none)
    (h : ∃ e ∈ (runCore p ff0).1.excs, isSub e.cls .exc = false) :
    ∃ e d, (runOnce p ff0).raised = some e ∧ isSub e.cls .exc = false ∧ e ∈ (runCore p ff0).1.excs ∧
      outcomeOf (runOnce p ff0) = some (degrade p.flavour .error, d) := by
  obtain ⟨o, r, sel, v⟩ := runOnce_view p ff0 hwf hskip
  cases r with
  | none =>
    obtain ⟨x, hx, hxs⟩ := h
    have := v.decided.returns_iff.mp rfl x hx
    rw [claimed_eq_isSub_exc p hwf, hxs] at this
    cases this
  | some e =>
    obtain ⟨hm, hc, rfl⟩ := v.decided.of_raised
    rw [claimed_eq_isSub_exc p hwf] at hc
    exact ⟨e, _, by rw [v.shape], hc, hm, v.outcome⟩

/-- C01 (returns): if everything raised derives from `Exception`, `run()` returns normally. -/
theorem C01_returns (p : Program) (ff0 : Bool) (hwf : wf p = true)
    (h : ∀ e ∈ (runCore p ff0).1.excs, isSub e.cls .exc = true) : (runOnce p ff0).raised = none := by
  cases hskip : p.skipDeco with
  | some r => rw [runOnce_skip p ff0 r hskip]
  | none =>
    obtain ⟨o, r, sel, v⟩ := runOnce_view p ff0 hwf hskip
    rw [v.shape]
    exact v.decided.returns_iff.mpr fun x hx => by rw [claimed_eq_isSub_exc p hwf]; exact h x hx

section perRun
variable (p : Program) (ff0 : Bool) (hwf : wf p = true)
include hwf

theorem clause_bracket : cBracket p ff0 (runOnce p ff0) = true := by
  obtain ⟨o, d, h⟩ := C01_bracket p ff0 hwf
  simp only [cBracket, h]
  cases p.flavour <;> simp [wrapRun, stopEv]

theorem nonExceptions_eq (hskip : p.skipDeco = none) :
    nonExceptions p ff0 (runOnce p ff0) = (runCore p ff0).1.excs.filter (fun e => !isSub e.cls .exc) := by
  obtain ⟨o, r, sel, v⟩ := runOnce_view p ff0 hwf hskip
  rw [nonExceptions, v.reads.raised]

theorem clause_nonException : cNonException p ff0 (runOnce p ff0) = true := by
  cases hskip : p.skipDeco with
  | some r => simp [cNonException, hskip]
  | none =>
    simp only [cNonException, hskip, Option.isSome_none, Bool.false_or, nonExceptions_eq p ff0 hwf hskip]
    by_cases h : ∃ e ∈ (runCore p ff0).1.excs, isSub e.cls .exc = false
    · obtain ⟨e, d, hr, hs, hm, ho⟩ := C01_nonException p ff0 hwf hskip h
      simp [hr, ho, hm, hs]
    · have : (runCore p ff0).1.excs.filter (fun e => !isSub e.cls .exc) = [] :=
        List.filter_eq_nil_iff.mpr fun e he hn => h ⟨e, he, by simpa using hn⟩
      simp [this]

theorem clause_returns : cReturns p ff0 (runOnce p ff0) = true := by
  cases hskip : p.skipDeco with
  | some r => simp [cReturns, hskip, runOnce_skip p ff0 r hskip]
  | none =>
    simp only [cReturns, hskip, Option.isSome_none, Bool.false_or, nonExceptions_eq p ff0 hwf hskip, Bool.or_eq_true,
      Bool.not_eq_true', List.isEmpty_eq_false_iff, Option.isNone_iff_eq_none]
    by_cases h : (runCore p ff0).1.excs.filter (fun e => !isSub e.cls .exc) = []
    · right
      exact C01_returns p ff0 hwf fun e he => by simpa using List.filter_eq_nil_iff.mp h e he
    · exact Or.inl h

theorem clause_outcomeLast : cOutcomeLast p ff0 (runOnce p ff0) = true := by
  obtain ⟨log, o, d, hlog, hev⟩ := runOnce_events p ff0 hwf
  have hq : ∀ e, (!isOutcomeEv e) = !(evOutcome e).isSome := fun e => by cases e <;> rfl
  have hc : (closing p.flavour).all isResultEv = true :=
    List.all_eq_true.mpr fun e he => isResultEv_of_mark (closing_marks _ e he)
  have h1 : (runOnce p ff0).events.dropWhile (fun e => !isOutcomeEv e) = .outcome o d :: closing p.flavour := by
    rw [hev]; exact dropWhile_bracket _ hq hlog
  have h2 : (runOnce p ff0).events.reverse =
      (closing p.flavour).reverse ++ .outcome o d :: (opening p.flavour ++ log).reverse := by
    rw [hev, bracket_eq]; simp
  simp only [cOutcomeLast, h1, h2, List.all_cons, hc, isResultEv, Bool.true_and]
  cases p.flavour <;> simp [closing, stopEv]

end perRun

/-- C01 (nothing is skipped): whatever was raised, the stage sequence of the run is the complete one —
setUp; the test method and tearDown iff setUp completed; then every registered cleanup, most recent first,
until none is left (the spec's stack machine accepts it). -/
theorem C01_all_stages_run (p : Program) (ff0 : Bool) (hwf : wf p = true) :
    cStages p ff0 (runOnce p ff0) = true := clause_stages p ff0 hwf

theorem holds_model (i : Input) : holds i (model i) = true := by
  simp only [holds, clauses, List.all_cons, List.all_nil, Bool.and_true, Bool.and_eq_true]
  exact ⟨lift_model _ i (fun hwf ff0 => clause_bracket _ ff0 hwf), lift_model _ i (fun hwf ff0 => clause_nonException _ ff0 hwf),
    lift_model _ i (fun hwf ff0 => clause_returns _ ff0 hwf), lift_model _ i (fun hwf ff0 => clause_outcomeLast _ ff0 hwf),
    lift_model _ i (fun hwf ff0 => clause_stages _ ff0 hwf)⟩

/-- a KeyboardInterrupt in the test method, an ordinary error in a cleanup: a program of the kind `C01_nonException` speaks of.
Of its hypotheses the examples below evaluate `wf` and `skipDeco = none`; that the KeyboardInterrupt is recorded is not evaluated. -/
def demo : Program :=
  { skipDeco := none, xfailDeco := false
    setUp := .mk 1 [] .ret
    body := .mk 2 [.cleanup (.mk 4 [] (.raise1 ⟨.exc, 7⟩))] (.raise1 ⟨.ki, 1⟩)
    tearDown := .mk 3 [] .ret
    userHandlers := [], nOnExc := 0, attrs0 := [], flavour := .ext }

example : wf demo = true := by decide
example : demo.skipDeco = none := rfl

/-! ### tie to the source: the control skeleton of `RunTest._run_core`
`TTV.Generated.RunSkel.runCore` is produced by `harness/pyskel.py` from `testtools/runtest.py` on every run. -/
/-- the model's `runCore` is the interpretation of the control skeleton found in the source (test not skipped
by decorator): same final state, `addSuccess` called exactly when the model says a success is due, no `addSkip`, no
statement the translator did not recognise -/
theorem C01_src_run_core (p : Program) (ff0 : Bool) (h : p.skipDeco = none) :
    let s := RunSkel.interp p Generated.RunSkel.runCore { rs := initRS p ff0 }
    (s.rs, s.succ) = runCore p ff0 ∧ s.skipped = false ∧ s.bad = false := by
  have e : Generated.RunSkel.runCore = RunSkel.refRunCore := by decide
  rw [e]; exact RunSkel.interp_refRunCore p ff0 h

/-- … and for a test skipped by decorator the source reports the skip and returns before any stage runs
(as `runOnce` models it) -/
theorem C01_src_run_core_skip (p : Program) (ff0 : Bool) (h : p.skipDeco.isSome) :
    let s := RunSkel.interp p Generated.RunSkel.runCore { rs := initRS p ff0 }
    s.skipped = true ∧ s.succ = false ∧ s.rs = initRS p ff0 ∧ s.bad = false := by
  have e : Generated.RunSkel.runCore = RunSkel.refRunCore := by decide
  rw [e]; exact RunSkel.interp_refRunCore_skip p ff0 h

end TTV.Props.C01
