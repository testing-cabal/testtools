import TTV.Model.Result
import TTV.Model.ResC08
import TTV.Spec.C08
import TTV.Lemmas.DetailsStr
import TTV.Lemmas.ResEmit
import TTV.Lemmas.FoldView
import TTV.Generated.C08
import TTV.Generated.EtodSrc
import TTV.Lemmas.SrcRefRes
/-! # C08 — result adapters deliver each call once, at the richest protocol the target has

Over the tree model M-Res (`TTV/Model/Result.lean`): **every** adapter graph (any depth, any fan-out) built from
`ExtendedToOriginalDecorator`, `TestResultDecorator`, `Tagger`, `ThreadsafeForwardingResult`, `MultiTestResult` over
leaves of the flavours 2.6 / 2.7 / Twisted / extended (recording doubles; `Shape.fsink`: one with a `failfast` attribute
assigned from outside) / `testtools.TestResult` / `TextTestResult` / `TestByTestResult`, and **every** call history (no
bound on length; well-formed or not unless stated).  The stream nodes of the model are not absent: the theorems exclude
them by hypothesis (`Shape.noStream`).

Forwarding rests on the invariant `Reach`: each leaf is in the state it gets from its initial state by calls whose test
events are the history's, seen through the adapters above it.  One call keeps it (`Lemmas/ResEmit`: what an adapter
sends; `Lemmas/FoldView`: from one call to a run), and `reach_observed` reads it off at the leaves: the event logs
(`foldl_log`) and the callbacks of a `TestByTestResult` (`tbt_calls`).  The times and tags of the callbacks (`tbt_root`)
are stated for a `TestByTestResult` used directly or below `TestResultDecorator`s / `Tagger`s (`path_run`).  The clauses
that compare what a leaf is to receive with the history, outcome by outcome, do not look at the model: they all come
from one induction over `Spec.C08.expect`, `expect_rel`.  `holds_model` puts the clauses together. -/
namespace TTV.Props.C08
open TTV.Result TTV.ResC08 TTV.Spec.C08 TTV.Lemmas.ResEmit TTV.Lemmas.FoldView

@[simp] theorem testEvs_nil : testEvs [] = [] := rfl
@[simp] theorem testEvs_add (k : Kind) (t : Nat) (a : Arg) (cs : List Call) :
    testEvs (.add k t a :: cs) = .add k t a :: testEvs cs := rfl
@[simp] theorem testEvs_startTest (t : Nat) (cs : List Call) :
    testEvs (.startTest t :: cs) = .startTest t :: testEvs cs := rfl
@[simp] theorem testEvs_stopTest (t : Nat) (cs : List Call) :
    testEvs (.stopTest t :: cs) = .stopTest t :: testEvs cs := rfl
@[simp] theorem testEvs_startTestRun (cs : List Call) : testEvs (.startTestRun :: cs) = testEvs cs := rfl
@[simp] theorem testEvs_stopTestRun (cs : List Call) : testEvs (.stopTestRun :: cs) = testEvs cs := rfl
@[simp] theorem testEvs_tags (n g : TagSet) (cs : List Call) : testEvs (.tags n g :: cs) = testEvs cs := rfl
@[simp] theorem testEvs_time (d : TimeV) (cs : List Call) : testEvs (.time d :: cs) = testEvs cs := rfl
@[simp] theorem testEvs_stop (cs : List Call) : testEvs (.stop :: cs) = testEvs cs := rfl
@[simp] theorem testEvs_done (cs : List Call) : testEvs (.done :: cs) = testEvs cs := rfl
@[simp] theorem testEvs_progress (cs : List Call) : testEvs (.progress :: cs) = testEvs cs := rfl
@[simp] theorem testEvs_setFailfast (b : Bool) (cs : List Call) : testEvs (.setFailfast b :: cs) = testEvs cs := rfl

theorem testEvs_append (a b : List Call) : testEvs (a ++ b) = testEvs a ++ testEvs b :=
  List.filter_append a b

theorem testEvs_idem (a : List Call) : testEvs (testEvs a) = testEvs a := by
  simp [testEvs]

/-- a `ThreadsafeForwardingResult` swallows `startTest`/`stopTest` and sends a whole bracket per outcome -/
def tfrView (evs : List Call) : List Call :=
  evs.flatMap fun
    | .add k t a => [.startTest t, .add k t a, .stopTest t]
    | _ => []

theorem tfrView_append (a b : List Call) : tfrView (a ++ b) = tfrView a ++ tfrView b :=
  List.flatMap_append

theorem testEvs_etodMain (caps : Caps) (c : Call) :
    testEvs (etodMain caps c) = (testEvs [c]).map (degradeCall caps) := by
  cases c with
  | add | startTest | stopTest | stop => rfl
  | _ => simp only [etodMain]; split <;> rfl

theorem testEvs_stops : ∀ k, testEvs (List.replicate k Call.stop) = []
  | 0 => rfl
  | k + 1 => testEvs_stops k

theorem testEvs_etodSent (caps : Caps) (c : Call) (k : Nat) :
    testEvs (etodMain caps c ++ List.replicate k Call.stop) = (testEvs [c]).map (degradeCall caps) := by
  rw [testEvs_append, testEvs_etodMain, testEvs_stops, List.append_nil]

theorem testEvs_tfrBlock (own : TfrOwn) (k : Kind) (t : Nat) (a : Arg) :
    testEvs (tfrBlock own k t a) = [.startTest t, .add k t a, .stopTest t] := by
  unfold tfrBlock
  split <;> split <;> rfl

theorem testEvs_tfrStops (own : TfrOwn) (k : Kind) : testEvs (tfrStops own k) = [] := by
  unfold tfrStops; split <;> rfl

theorem testEvs_tfrSent (own : TfrOwn) (c : Call) : testEvs (tfrSent own c) = tfrView (testEvs [c]) := by
  cases c with
  | add k t a => exact (testEvs_append _ _).trans (by rw [testEvs_tfrBlock, testEvs_tfrStops]; rfl)
  | _ => rfl

theorem testEvs_decoPass (c : Call) : testEvs (decoPass [c]) = testEvs [c] := by cases c <;> rfl

theorem testEvs_taggerPass (n g : TagSet) (c : Call) : testEvs (taggerPass n g [c]) = testEvs [c] := by cases c <;> rfl

def LeafReach (s : Shape) (st : St s) (evs : List Call) : Prop :=
  ∃ cs, st = run s (init s) cs ∧ testEvs cs = evs

mutual
/-- Every leaf of the graph is in the state it gets from its initial state by some list of calls whose test events are
`evs` as seen through the adapters above it.  `True` at the stream nodes: every theorem about `Reach` has `noStream`. -/
def Reach : (s : Shape) → St s → List Call → Prop
  | .sink f, st, evs => LeafReach (.sink f) st evs
  | .tt ff, st, evs => LeafReach (.tt ff) st evs
  | .text ff, st, evs => LeafReach (.text ff) st evs
  | .tbt, st, evs => LeafReach .tbt st evs
  | .etod c, (_, inner), evs => Reach c inner (evs.map (degradeCall (caps c)))
  | .deco c, st, evs => Reach c st evs
  | .fsink l b f, st, evs => LeafReach (.fsink l b f) st evs
  | .tagger _ _ c, st, evs => Reach c st evs
  | .tfr c, (_, inner), evs => Reach c inner (tfrView evs)
  | .multi cs, (_, inner), evs => ReachL cs inner evs
  | .e2s _, _, _ => True
  | .sff, _, _ => True
def ReachL : (cs : List Shape) → StL cs → List Call → Prop
  | [], _, _ => True
  | c :: cs, (x, xs), evs => Reach c x evs ∧ ReachL cs xs evs
end

mutual
theorem reach_steps : ∀ (s : Shape), s.noStream = true → ∀ (cs : List Call) (st : St s) (e : List Call),
    Reach s st e → Reach s (cs.foldl (step s) st) (e ++ testEvs cs)
  | .sink _, _ | .tt _, _ | .fsink _ _ _, _ | .text _, _ | .tbt, _ => run_view testEvs testEvs_append _
  | .etod ch, hn => foldl_view testEvs testEvs_append fun (own, inner) e c h => by
      obtain ⟨k, hk⟩ := etodStep_emits ⟨caps ch, step ch, failfastOf ch⟩ own inner c
      show Reach ch (etodStep _ own inner c).2 ((e ++ testEvs [c]).map _)
      rw [hk, List.map_append, ← testEvs_etodSent _ c k]
      exact reach_steps ch hn _ inner _ h
  | .tfr ch, hn => foldl_view testEvs testEvs_append fun (own, inner) e c h => by
      show Reach ch (tfrStep ⟨caps ch, step ch, failfastOf ch⟩ own inner c).2 (tfrView (e ++ testEvs [c]))
      rw [tfrStep_sent, tfrView_append, ← testEvs_tfrSent own]
      exact reach_steps ch hn _ inner _ h
  | .deco ch, hn => foldl_view testEvs testEvs_append fun st e c h => by
      rw [step_deco, ← testEvs_decoPass]
      exact reach_steps ch hn _ st e h
  | .tagger n g ch, hn => foldl_view testEvs testEvs_append fun st e c h => by
      rw [step_tagger, ← testEvs_taggerPass n g]
      exact reach_steps ch hn _ st e h
  | .multi ss, hn => foldl_view testEvs testEvs_append fun (own, inner) e c h =>
      multi_keeps (X := fun st => ReachL ss st (e ++ testEvs [c])) own inner c
        (fun hc => by subst hc; rwa [testEvs_progress, testEvs_nil, List.append_nil])
        (reachL_step ss hn inner e c h)
  | .e2s _, hn | .sff, hn => nomatch hn
-- one call, not a run: a `MultiTestResult` hands the call itself to every target
theorem reachL_step : ∀ (ss : List Shape), Shape.noStreamL ss = true → ∀ (st : StL ss) (e : List Call) (c : Call),
    ReachL ss st e → ReachL ss (stepL ss st c) (e ++ testEvs [c])
  | [], _, _, _, _, _ => trivial
  | s :: ss, hn, (x, xs), e, c, h =>
      have hn := Bool.and_eq_true_iff.mp hn
      ⟨reach_steps s hn.1 [c] x e h.1, reachL_step ss hn.2 xs e c h.2⟩
end

mutual
theorem reach_init : ∀ (s : Shape), s.noStream = true → Reach s (init s) []
  | .sink _, _ | .fsink _ _ _, _ | .tt _, _ | .text _, _ | .tbt, _ => ⟨[], rfl, rfl⟩
  | .etod ch, hn | .tfr ch, hn | .deco ch, hn | .tagger _ _ ch, hn => reach_init ch hn
  | .multi ss, hn => reachL_init ss hn
  | .e2s _, hn | .sff, hn => nomatch hn
theorem reachL_init : ∀ (ss : List Shape), Shape.noStreamL ss = true → ReachL ss (initL ss) []
  | [], _ => trivial
  | s :: ss, hn =>
      have hn := Bool.and_eq_true_iff.mp hn
      ⟨reach_init s hn.1, reachL_init ss hn.2⟩
end

/-- **C08 (forwarding, strongest form).**  For every adapter graph without a stream pipeline and every call
history `h` (well-formed or not), every leaf result has received, from its initial state, a list of calls
whose `startTest` / outcome / `stopTest` subsequence is the one of `h` seen through the adapters above the
leaf. -/
theorem C08_reach (s : Shape) (hs : s.noStream = true) (h : List Call) :
    Reach s (run s (init s) h) (testEvs h) :=
  reach_steps s hs h (init s) [] (reach_init s hs)

/-- `Spec.C08.leafEvs (observe l)` unfolds to it -/
def tlog (l : LeafSt) : List Call := testEvs (l.log.map (·.call))

theorem foldl_log {σ : Type} (stepf : σ → Call → σ) (log : σ → List Ev) {tag : σ → Call → TagSet}
    (h : ∀ s c, log (stepf s c) = log s ++ if c.logged then [{ call := c, ctags := tag s c }] else [])
    (cs : List Call) (s : σ) :
    testEvs ((log (cs.foldl stepf s)).map (·.call)) = testEvs ((log s).map (·.call)) ++ testEvs cs :=
  foldl_view testEvs testEvs_append (R := fun s e => testEvs ((log s).map (·.call)) = e)
    (fun s e c hs => by rw [h, List.map_append, testEvs_append, hs]; cases c <;> rfl) cs s _ rfl

/- the views of the test events at the leaves, left to right: `Spec.C08.expect` clause by clause (the stream nodes
included, so that `expectV_eq` needs no `noStream`; no theorem about the model reaches them), but a
`ThreadsafeForwardingResult` re-brackets -/
mutual
def expectV : Shape → List Call → List (List Call)
  | .sink _, evs => [evs]
  | .tt _, evs => [evs]
  | .text _, evs => [evs]
  | .tbt, evs => [evs]
  | .etod c, evs => expectV c (evs.map (degradeCall (caps c)))
  | .deco c, evs => expectV c evs
  | .fsink _ _ _, evs => [evs]
  | .tagger _ _ c, evs => expectV c evs
  | .tfr c, evs => expectV c (tfrView evs)
  | .e2s c, evs => expectV c evs
  | .sff, _ => []
  | .multi cs, evs => expectVL cs evs
def expectVL : List Shape → List Call → List (List Call)
  | [], _ => []
  | c :: cs, evs => expectV c evs ++ expectVL cs evs
end

theorem tfrView_map (c : Caps) (evs : List Call) :
    tfrView (evs.map (degradeCall c)) = (tfrView evs).map (degradeCall c) := by
  rw [tfrView, tfrView, List.flatMap_map, List.map_flatMap]
  congr 1; funext x; cases x <;> rfl

theorem tfrView_wf (evs : List Call) (h : wfEvs evs = true) : tfrView evs = evs := by
  fun_induction wfEvs evs with
  | case1 => rfl
  | case2 t k t' a t'' rest ih =>
    simp only [Bool.and_eq_true, beq_iff_eq] at h
    obtain ⟨⟨rfl, rfl⟩, h3⟩ := h
    exact congrArg (Call.startTest t :: Call.add k t a :: Call.stopTest t :: ·) (ih h3)
  | case3 evs h1 h2 => cases h

mutual
theorem expectV_eq : ∀ (s : Shape) (evs : List Call), (tfrView evs = evs ∨ s.hasTfr = false) →
    expectV s evs = expect s evs
  | .sink _, _, _ | .fsink _ _ _, _, _ | .tt _, _, _ | .text _, _, _ | .tbt, _, _ | .sff, _, _ => rfl
  | .etod c, evs, h => expectV_eq c _ (h.imp_left fun h => by rw [tfrView_map, h])
  | .deco c, evs, h | .tagger _ _ c, evs, h | .e2s c, evs, h => expectV_eq c evs h
  | .tfr c, evs, .inl h => by
      show expectV c (tfrView evs) = expect c evs
      rw [h]; exact expectV_eq c evs (.inl h)
  | .tfr _, _, .inr h => nomatch h
  | .multi cs, evs, h => expectVL_eq cs evs h
theorem expectVL_eq : ∀ (ss : List Shape) (evs : List Call), (tfrView evs = evs ∨ Shape.hasTfrL ss = false) →
    expectVL ss evs = expectL ss evs
  | [], _, _ => rfl
  | s :: ss, evs, h => by
      have h := h.imp_right Bool.or_eq_false_iff.mp
      show expectV s evs ++ expectVL ss evs = expect s evs ++ expectL ss evs
      rw [expectV_eq s evs (h.imp_right (·.1)), expectVL_eq ss evs (h.imp_right (·.2))]
end

theorem expectV_wf {s : Shape} {evs : List Call} (hw : wfEvs evs = true ∨ s.hasTfr = false) :
    expectV s evs = expect s evs :=
  expectV_eq s evs (hw.imp_left (tfrView_wf evs))

/-- what `Spec.C08.cTbt` compares of a callback.  `cTbt` and `tbtOk` write the function out; `tbt_calls` meets them by
unfolding, at the `TestByTestResult` leaf of `reach_observed` -/
def proj (c : TbtCall) : Nat × Option Kind × Option Details := (c.test, c.status, c.details)

/-- an outcome as it can reach a result: its argument has a form that fits the kind.  Weaker than `Call.ok` (any `exc_info`,
no condition on the details), so that it is kept by `degradeCall` and `tfrView` (`fine_degrade`, `fine_tfrView`), which
`Call.ok` is not; a history of `Call.ok` calls has it (`ok_fine`). -/
def fineCall : Call → Bool
  | .add k _ a =>
      (match k, a with
       | .success, .none | .success, .details _ | .uxsuccess, .none | .uxsuccess, .details _ => true
       | .skip, .reason _ | .skip, .details _ => true
       | .error, .exc _ | .failure, .exc _ | .xfail, .exc _ => true
       | .error, .details _ | .failure, .details _ | .xfail, .details _ => true
       | _, _ => false)
  | _ => true

theorem tbtWord_eq (k : Kind) : tbtWord k = tbtStatus k := by cases k <;> rfl

theorem tbtDet_fine {k : Kind} {t : Nat} {a : Arg} (h : fineCall (.add k t a) = true) :
    tbtDet k a = tbtDetails a := by
  cases k <;> cases a <;> first | exact absurd h Bool.false_ne_true | rfl

theorem tbt_calls : ∀ (cs : List Call) (st : TbtSt), (testEvs cs).all fineCall = true →
    (cs.foldl tbtStep st).calls.map proj = st.calls.map proj ++ tbtExpect st.status st.details (testEvs cs)
  | [], st, _ => (List.append_nil _).symm
  | c :: cs, st, h => by
      rw [List.foldl_cons]
      cases c with
      | add k t a =>
        have h := Bool.and_eq_true_iff.mp h
        rw [tbt_calls cs _ h.2]
        simp only [tbtStep, testEvs_add, tbtExpect, tbtDet_fine h.1, tbtWord_eq]
      | startTest t => exact tbt_calls cs _ h
      | stopTest t =>
        rw [tbt_calls cs _ h]
        simp [tbtStep, tbtExpect, proj]
      | _ => exact tbt_calls cs _ h

theorem fine_degrade (c : Caps) (x : Call) (h : fineCall x = true) : fineCall (degradeCall c x) = true := by
  cases x with
  | add k t a =>
    cases k <;> cases a <;> first
      | exact absurd h Bool.false_ne_true
      | (simp only [degradeCall, degradeKind, degradeArg, Bool.not_eq_true']; (repeat' split) <;> first | rfl | simp_all)
  | _ => exact h

theorem fine_map_degrade (c : Caps) (evs : List Call) (h : evs.all fineCall = true) :
    (evs.map (degradeCall c)).all fineCall = true := by
  rw [List.all_map, List.all_eq_true] at *
  exact fun x hx => fine_degrade c x (h x hx)

theorem fine_tfrView (evs : List Call) (h : evs.all fineCall = true) : (tfrView evs).all fineCall = true := by
  rw [tfrView, List.all_flatMap, List.all_eq_true] at *
  intro x hx
  cases x with
  | add k t a => exact Bool.and_eq_true_iff.mpr ⟨rfl, Bool.and_eq_true_iff.mpr ⟨h _ hx, rfl⟩⟩
  | _ => rfl

theorem ok_fine (h : List Call) (hok : h.all Call.ok = true) : (testEvs h).all fineCall = true := by
  rw [List.all_eq_true] at *
  intro c hc
  have h1 := hok c (List.mem_filter.mp hc).1
  cases c with
  | add k t a => cases k <;> cases a <;> first | rfl | exact absurd h1 (by simp [Call.ok, argOk])
  | _ => rfl

/-- the test `Spec.C08.cTbt` makes at one leaf -/
def tbtOk (l : LeafTrace) (isTbt : Bool) (evs : List Call) : Bool :=
  if isTbt then l.calls.map (fun c => (c.test, c.status, c.details)) == tbtExpect none none evs
  else l.calls.isEmpty

theorem zip3All_append {α β γ : Type} {p : α → β → γ → Bool} {a1 : List α} {b1 : List β} {c1 : List γ}
    {a2 b2 c2}
    (h1 : zip3All p a1 b1 c1 = true) (h2 : zip3All p a2 b2 c2 = true) :
    zip3All p (a1 ++ a2) (b1 ++ b2) (c1 ++ c2) = true := by
  fun_induction zip3All p a1 b1 c1 with
  | case1 => exact h2
  | case2 a as b bs c cs ih =>
    have h1 := Bool.and_eq_true_iff.mp h1
    exact Bool.and_eq_true_iff.mpr ⟨h1.1, ih h1.2⟩
  | case3 => cases h1

mutual
theorem reach_observed : ∀ (s : Shape), s.noStream = true → ∀ (st : St s) (evs : List Call), Reach s st evs →
    (leaves s st).map tlog = expectV s evs ∧
    ((s.hasTbt = true → evs.all fineCall = true) →
      zip3All tbtOk ((leaves s st).map observe) (isTbtLeaf s) (expectV s evs) = true)
  | .sink f | .fsink _ _ f => fun
    | _, _, _, ⟨cs, rfl, rfl⟩ => ⟨congrArg ([·]) (foldl_log (sinkStep f) (·.log) (sinkStep_log f) cs _), fun _ => rfl⟩
  | .tt _ => fun
    | _, _, _, ⟨cs, rfl, rfl⟩ => ⟨congrArg ([·]) (foldl_log ttStep (·.log) ttStep_log cs _), fun _ => rfl⟩
  | .text _ => fun
    | _, _, _, ⟨cs, rfl, rfl⟩ =>
      ⟨congrArg ([·]) (foldl_log textStep (·.tt.log) (fun s c => textStep_tt s c ▸ ttStep_log s.tt c) cs _), fun _ => rfl⟩
  | .tbt => fun
    | _, _, _, ⟨cs, rfl, rfl⟩ =>
      ⟨congrArg ([·]) (foldl_log tbtStep (·.tt.log) (fun s c => tbtStep_tt s c ▸ ttStep_log s.tt c) cs _),
       fun hf => Bool.and_eq_true_iff.mpr ⟨beq_iff_eq.mpr (tbt_calls cs _ (hf rfl)), rfl⟩⟩
  | .etod ch => fun hn (_, inner) _ h =>
      (reach_observed ch hn inner _ h).imp_right fun r hf => r fun ht => fine_map_degrade _ _ (hf ht)
  | .tfr ch => fun hn (_, inner) _ h =>
      (reach_observed ch hn inner _ h).imp_right fun r hf => r fun ht => fine_tfrView _ (hf ht)
  | .deco ch | .tagger _ _ ch => fun hn inner _ h => reach_observed ch hn inner _ h
  | .multi ss => fun hn (_, inner) _ h => reachL_observed ss hn inner _ h
  | .e2s _ | .sff => fun hn => nomatch hn
theorem reachL_observed : ∀ (ss : List Shape), Shape.noStreamL ss = true → ∀ (st : StL ss) (evs : List Call),
    ReachL ss st evs →
    (leavesL ss st).map tlog = expectVL ss evs ∧
    ((Shape.hasTbtL ss = true → evs.all fineCall = true) →
      zip3All tbtOk ((leavesL ss st).map observe) (isTbtLeafL ss) (expectVL ss evs) = true)
  | [], _, _, _, _ => ⟨rfl, fun _ => rfl⟩
  | s :: ss, hn, (x, xs), evs, h => by
      have hn := Bool.and_eq_true_iff.mp hn
      have ⟨a1, a2⟩ := reach_observed s hn.1 x evs h.1
      have ⟨b1, b2⟩ := reachL_observed ss hn.2 xs evs h.2
      refine ⟨?_, fun hf => ?_⟩
      · show (leaves s x ++ leavesL ss xs).map tlog = expectV s evs ++ expectVL ss evs
        rw [List.map_append, a1, b1]
      · show zip3All tbtOk ((leaves s x ++ leavesL ss xs).map observe) (isTbtLeaf s ++ isTbtLeafL ss)
          (expectV s evs ++ expectVL ss evs) = true
        rw [List.map_append]
        exact zip3All_append (a2 fun ht => hf (Bool.or_eq_true_iff.mpr (.inl ht)))
          (b2 fun ht => hf (Bool.or_eq_true_iff.mpr (.inr ht)))
end

theorem reachL_tlogs : ∀ (ss : List Shape), Shape.noStreamL ss = true → ∀ (st : StL ss) (evs : List Call),
    ReachL ss st evs → (leavesL ss st).map tlog = expectVL ss evs :=
  fun ss hn st evs h => (reachL_observed ss hn st evs h).1

theorem reachL_tbt : ∀ (ss : List Shape), Shape.noStreamL ss = true → ∀ (st : StL ss) (evs : List Call),
    ReachL ss st evs → (Shape.hasTbtL ss = true → evs.all fineCall = true) →
    zip3All tbtOk ((leavesL ss st).map observe) (isTbtLeafL ss) (expectVL ss evs) = true :=
  fun ss hn st evs h => (reachL_observed ss hn st evs h).2

/-- **C08 (forwarding).**  The `startTest` / outcome / `stopTest` events in the log of each leaf, left to
right, are the events of the history seen through the adapters above that leaf: same events, same order,
outcomes degraded by `degradeCall` for the capabilities of the target of each `ExtendedToOriginalDecorator`
(a `ThreadsafeForwardingResult` sends `startTest t, outcome, stopTest t` for every outcome). -/
theorem C08_forward (s : Shape) (hs : s.noStream = true) (h : List Call) :
    (leaves s (run s (init s) h)).map tlog = expectV s (testEvs h) :=
  (reach_observed s hs _ _ (C08_reach s hs h)).1

/-- **C08 (forwarding, well-formed histories).**  When the history is a sequence of
`startTest t, outcome t, stopTest t` brackets, or no `ThreadsafeForwardingResult` is in the graph, each leaf
logs exactly the test events of the history, once each and in order, degraded only by the
`ExtendedToOriginalDecorator`s above it (`Spec.C08.expect`). -/
theorem C08_forward_wf (s : Shape) (hs : s.noStream = true) (h : List Call)
    (hw : wfEvs (testEvs h) = true ∨ s.hasTfr = false) :
    (leaves s (run s (init s) h)).map tlog = expect s (testEvs h) :=
  (C08_forward s hs h).trans (expectV_wf hw)

/-- **C08 (TestByTestResult, what is reported).**  Whatever adapters sit above a `TestByTestResult`, its
callbacks are exactly one per `stopTest` it is to receive, each carrying the test, the status word of the
outcome reported since the `startTest` (`tbtWord`) and that outcome's details (`tbtDetails`; an empty details dict
is details), for every history of calls a caller may make (`Call.ok`: the argument form fits the outcome). -/
theorem C08_tbt (s : Shape) (hs : s.noStream = true) (h : List Call) (hok : h.all Call.ok = true) :
    zip3All tbtOk ((leaves s (run s (init s) h)).map observe) (isTbtLeaf s) (expectV s (testEvs h)) = true :=
  (reach_observed s hs _ _ (C08_reach s hs h)).2 (fun _ => ok_fine h hok)

theorem tbt_root : ∀ (cs : List Call) (st : TbtSt),
    (cs.foldl tbtStep st).calls.map (fun c => (c.start, c.stop, c.tags))
      = st.calls.map (fun c => (c.start, c.stop, c.tags)) ++ rootExpect st.tt.now st.tt.tags st.start cs
  | [], st => (List.append_nil _).symm
  | c :: cs, st => by
      rw [List.foldl_cons, tbt_root cs]
      cases c with
      | add k t a => cases k <;> rfl
      | stopTest t =>
        show (st.calls ++ [_]).map _ ++ _ = _
        rw [List.map_append, List.append_assoc]; rfl
      | _ => rfl

/-- **C08 (TestByTestResult, times and tags).**  Used directly, a `TestByTestResult` reports for the n-th
`stopTest` the time current at the last `startTest` before it (none: `None`) and at the `stopTest` (the value last given to
`time()` in this run, else the wall clock) and the tags current just before the `stopTest`. -/
theorem C08_tbt_times_tags (h : List Call) :
    (run .tbt (init .tbt) h : TbtSt).calls.map (fun c => (c.start, c.stop, c.tags))
      = rootExpect .none {} .none h :=
  tbt_root h (init .tbt)

theorem deco_fold (c : Shape) : ∀ (cs : List Call) (st : St c),
    cs.foldl (step (.deco c)) st = (decoPass cs).foldl (step c) st
  | [], _ => rfl
  | x :: cs, st => by
      rw [List.foldl_cons, deco_fold c cs, step_deco, ← List.foldl_append]
      cases x <;> rfl

theorem tagger_fold (n g : TagSet) (c : Shape) : ∀ (cs : List Call) (st : St c),
    cs.foldl (step (.tagger n g c)) st = (taggerPass n g cs).foldl (step c) st
  | [], _ => rfl
  | x :: cs, st => by
      rw [List.foldl_cons, tagger_fold n g c cs, step_tagger, ← List.foldl_append]
      cases x <;> rfl

/-- Through any stack of `TestResultDecorator`s and `Tagger`s the `TestByTestResult` is in the state it gets from the
calls `pathHist` lists: every `startTest` followed by each `Tagger`'s `tags(new, gone)`, innermost first — so
(`C08_tbt_times_tags`) each callback carries the reporter's tags adjusted by all the `Tagger`s on the way, also by one
that only removes tags. -/
theorem path_run (s : Shape) (h h' : List Call) (hp : pathHist s h = some h') :
    leaves s (h.foldl (step s) (init s)) = [.tbt (h'.foldl tbtStep (init .tbt))] := by
  fun_induction pathHist s h with
  | case1 h => cases hp; rfl
  | case2 c h ih =>
    show leaves c (h.foldl (step (.deco c)) (init c)) = _
    rw [deco_fold]; exact ih hp
  | case3 n g c h ih =>
    show leaves c (h.foldl (step (.tagger n g c)) (init c)) = _
    rw [tagger_fold]; exact ih hp
  | case4 => cases hp

/-- **C08 (TestByTestResult, a callback that raises).**  In the model a raising `on_test` (`Input.faults`; whatever
the shape, though the driver takes faults only on `linearTbt` shapes) is invisible to everything reported later: the trace is that of the same history with a
well-behaved callback — in particular (`C08_tbt`, `C08_tbt_times_tags`) there still is exactly one callback per
`stopTest`, the raising one included, and every later callback carries its own test's times, tags and details, not
those of the test whose callback raised.  (That the code behaves like this model — `TestByTestResult.stopTest` leaves
the test's tag context before calling `on_test` — is what the correspondence check with faults tests.) -/
theorem C08_tbt_faults (s : Shape) (h : List Call) (faults : List Nat) :
    model { shape := s, hist := h, faults := faults } = model { shape := s, hist := h } := rfl

/-- **C08 (no pass from fail).**  Whatever the target lacks, the degraded outcome is passing (success, skip,
expected failure) only if the reported outcome is passing. -/
theorem C08_no_pass_from_fail (c : Caps) (k : Kind) (h : (degradeKind c k).passing = true) : k.passing = true :=
  passing_degrade c k ▸ h

theorem isInfix_iff (p : Text) : ∀ (s : Text), isInfix p s = true ↔ p <:+: s
  | [] => by simp [isInfix, List.infix_nil]
  | c :: s => by
      simp only [isInfix, Bool.or_eq_true, List.isPrefixOf_iff_prefix, isInfix_iff p s, List.infix_cons_iff]

open Lemmas.DetailsStr in
/-- **C08 (details text).**  `_details_to_str` — the text of the `_StringException` / reason a target without
the details protocol receives — contains the stripped text of every non-empty text detail (names in a
details dict are unique). -/
theorem C08_details_text (details : Details) (special : Option Text) (n t : Text)
    (hm : (n, Content.text t) ∈ details) (hu : ∀ p ∈ details, p.1 = n → p = (n, Content.text t))
    (hne : strip t ≠ []) : strip t <:+: detailsToStr details special := by
  have hm' : (n, Content.text t) ∈ sortDetails details := List.mem_mergeSort.mpr hm
  by_cases hs : some n = special
  · -- the special attachment: every special line comes from `(n, text t)`, so the last one is `strip t` and a newline
    have hin : strip t ++ [nl] ∈ (sortDetails details).filterMap (specialLine special) :=
      List.mem_filterMap.mpr ⟨_, hm', by simp [specialLine, textOf, hs]⟩    -- `simp` takes the `some t` arm by `hne`
    have : specialContent special (sortDetails details) = some (strip t ++ [nl]) := by
      unfold specialContent
      cases hg : List.getLast? _ with
      | none => rw [List.getLast?_eq_none_iff.mp hg] at hin; cases hin
      | some y =>
        obtain ⟨p, hp, hpy⟩ := List.mem_filterMap.mp (List.mem_of_getLast? hg)
        obtain ⟨hsp, v, hv, rfl⟩ := specialLine_eq hpy
        obtain rfl := hu p (List.mem_mergeSort.mp hp) (Option.some.inj (hsp.trans hs.symm))
        cases hv; rfl
    exact (List.prefix_append _ _).isInfix.trans (infix_detailsToStr details special _ (.inr this))
  · have : formatText n (strip t) ∈ textAtts special (sortDetails details) :=
      List.mem_filterMap.mpr ⟨_, hm', by simp [textAtt, textOf, hs]⟩
    exact (infix_formatText n _).trans (infix_detailsToStr details special _ (.inl this))

/-- `Result.detailsOk` (no duplicate among the names) in the form the proofs use -/
def UniqueNames (d : Details) : Prop := ∀ p ∈ d, ∀ q ∈ d, p.1 = q.1 → p = q

theorem unique_of_noDup : ∀ (d : Details), hasDupNames (d.map (·.1)) = false → UniqueNames d
  | [], _ => fun _ hp => nomatch hp
  | x :: d, h => by
      simp only [List.map_cons, hasDupNames, Bool.or_eq_false_iff, List.contains_eq_mem, decide_eq_false_iff_not,
        List.mem_map, not_exists, not_and] at h
      have ih := unique_of_noDup d h.2
      intro p hp q hq hpq
      rcases List.mem_cons.mp hp with hp1 | hp1 <;> rcases List.mem_cons.mp hq with hq1 | hq1
      · rw [hp1, hq1]
      · subst hp1; exact absurd hpq.symm (h.1 q hq1)
      · subst hq1; exact absurd hpq (h.1 p hp1)
      · exact ih p hp1 q hq1 hpq

theorem textsOf_infix (d : Details) (special : Option Text) (hd : UniqueNames d) :
    (textsOf d).all (isInfix · (detailsToStr d special)) = true := by
  rw [List.all_eq_true]
  intro x hx
  obtain ⟨⟨n, c⟩, hp, hpx⟩ := List.mem_filterMap.mp hx
  cases c with
  | text t =>
    simp only at hpx
    split at hpx
    · cases hpx
    · rename_i hne
      cases hpx
      exact (isInfix_iff _ _).mpr
        (C08_details_text d special n t hp (fun q hq h => hd q hq _ hp h) (by simpa using hne))
  | binary | tb => cases hpx

/-- how an argument can arrive after any number of `ExtendedToOriginalDecorator`s: unchanged, dropped,
replaced by the synthetic failure of an unexpected success, or its details rendered as exception / reason -/
def arrives (got orig : Arg) : Bool :=
  got == orig || got == .none || got == .exc .synth ||
  match orig with
  | .details d => got == detailsToExc d || got == .reason (detailsToReason d)
  | _ => false

theorem arrives_iff {got orig : Arg} : arrives got orig = true ↔
    got = orig ∨ got = .none ∨ got = .exc .synth ∨
      ∃ d, orig = .details d ∧ (got = detailsToExc d ∨ got = .reason (detailsToReason d)) := by
  cases orig <;> simp [arrives, or_assoc]

theorem arrives_refl (a : Arg) : arrives a a = true := arrives_iff.mpr (.inl rfl)
theorem arrives_none (a : Arg) : arrives .none a = true := arrives_iff.mpr (.inr (.inl rfl))
theorem arrives_synth (a : Arg) : arrives (.exc .synth) a = true := arrives_iff.mpr (.inr (.inr (.inl rfl)))
theorem arrives_exc (d : Details) : arrives (detailsToExc d) (.details d) = true :=
  arrives_iff.mpr (.inr (.inr (.inr ⟨d, rfl, .inl rfl⟩)))
theorem arrives_reason (d : Details) : arrives (.reason (detailsToReason d)) (.details d) = true :=
  arrives_iff.mpr (.inr (.inr (.inr ⟨d, rfl, .inr rfl⟩)))

theorem arrives_degrade (c : Caps) (k : Kind) (a : Arg) : arrives (degradeArg c k a) a = true := by
  have arrives_ite (p : Prop) [Decidable p] (x y a : Arg) :
      arrives (if p then x else y) a = if p then arrives x a else arrives y a := apply_ite (arrives · a) p x y
  cases k <;> cases a <;>
    simp only [degradeArg, arrives_ite, arrives_refl, arrives_none, arrives_synth, arrives_exc, arrives_reason,
      ite_self]

theorem arrives_trans (x y z : Arg) (h1 : arrives x y = true) (h2 : arrives y z = true) : arrives x z = true := by
  rcases arrives_iff.mp h1 with rfl | rfl | rfl | ⟨d, rfl, _⟩
  · exact h2
  · exact arrives_none z
  · exact arrives_synth z
  · -- details arrive only as themselves
    rcases arrives_iff.mp h2 with rfl | h | h | ⟨_, _, h | h⟩
    · exact h1
    all_goals cases h

theorem arrives_textKept (got orig : Arg) (hd : ∀ d, orig = .details d → UniqueNames d)
    (h : arrives got orig = true) : textKept got orig = true := by
  rcases arrives_iff.mp h with rfl | rfl | rfl | ⟨d, rfl, rfl | rfl⟩
  · cases got <;> rfl
  · cases orig <;> rfl
  · cases orig <;> rfl
  · exact textsOf_infix d _ (hd d rfl)
  · simp only [textKept, detailsToReason]
    cases lookup d reasonKey with
    | none => exact textsOf_infix d _ (hd d rfl)
    | some c =>
      cases c with
      | text r => exact beq_self_eq_true r
      | _ => exact textsOf_infix d _ (hd d rfl)

theorem zipAll_refl {α : Type} (p : α → α → Bool) (h : ∀ a, p a a = true) : ∀ l, zipAll p l l = true
  | [] => rfl
  | a :: l => Bool.and_eq_true_iff.mpr ⟨h a, zipAll_refl p h l⟩

theorem zipAll_imp {α β : Type} {p q : α → β → Bool} {a : List α} {b : List β}
    (h : ∀ x, ∀ y ∈ b, p x y = true → q x y = true) (h' : zipAll p a b = true) : zipAll q a b = true := by
  fun_induction zipAll p a b with
  | case1 => rfl
  | case2 x a y b ih =>
    have h' := Bool.and_eq_true_iff.mp h'
    exact Bool.and_eq_true_iff.mpr
      ⟨h x y List.mem_cons_self h'.1, ih (fun x y hy => h x y (List.mem_cons_of_mem _ hy)) h'.2⟩
  | case3 => cases h'

theorem zipAll_map_left {α β γ : Type} (p : γ → β → Bool) (f : α → γ) : ∀ (a : List α) (b : List β),
    zipAll p (a.map f) b = zipAll (fun x y => p (f x) y) a b
  | [], [] => rfl
  | [], _ :: _ => rfl
  | _ :: _, [] => rfl
  | x :: a, y :: b => congrArg (p (f x) y && ·) (zipAll_map_left p f a b)

theorem zipAll_map_right {α β γ : Type} (p : α → γ → Bool) (f : β → γ) : ∀ (a : List α) (b : List β),
    zipAll p a (b.map f) = zipAll (fun x y => p x (f y)) a b
  | [], [] => rfl
  | [], _ :: _ => rfl
  | _ :: _, [] => rfl
  | x :: a, y :: b => congrArg (p x (f y) && ·) (zipAll_map_right p f a b)

mutual
/-- The induction over `Spec.C08.expect` from which the clauses that do not look at the model all come
(no-pass-from-fail and details-text through `expect_outcomes`, `C08_once_in_order`). -/
theorem expect_rel (Q : List Call → List Call → Prop) (hrefl : ∀ evs, Q evs evs)
    (hstep : ∀ c l evs, Q l (evs.map (degradeCall c)) → Q l evs) :
    ∀ (s : Shape) (evs : List Call), ∀ l ∈ expect s evs, Q l evs
  | .sink _, evs, _, h | .fsink _ _ _, evs, _, h | .tt _, evs, _, h | .text _, evs, _, h | .tbt, evs, _, h =>
      List.mem_singleton.mp h ▸ hrefl evs
  | .etod c, _, l, h => hstep _ _ _ (expect_rel Q hrefl hstep c _ l h)
  | .deco c, evs, l, h | .tagger _ _ c, evs, l, h | .tfr c, evs, l, h | .e2s c, evs, l, h =>
      expect_rel Q hrefl hstep c evs l h
  | .sff, _, _, h => nomatch h
  | .multi cs, evs, l, h => expectL_rel Q hrefl hstep cs evs l h
theorem expectL_rel (Q : List Call → List Call → Prop) (hrefl : ∀ evs, Q evs evs)
    (hstep : ∀ c l evs, Q l (evs.map (degradeCall c)) → Q l evs) :
    ∀ (ss : List Shape) (evs : List Call), ∀ l ∈ expectL ss evs, Q l evs
  | [], _, _, h => nomatch h
  | s :: ss, evs, l, h =>
      (List.mem_append.mp h).elim (expect_rel Q hrefl hstep s evs l) (expectL_rel Q hrefl hstep ss evs l)
end

def kaOf (evs : List Call) : List (Kind × Arg) := evs.filterMap fun | .add k _ a => some (k, a) | _ => none

theorem kindsOf_eq (evs : List Call) : kindsOf evs = (kaOf evs).map (·.1) := by
  rw [kindsOf, kaOf, List.map_filterMap]; congr 1; funext x; cases x <;> rfl

theorem argsOf_eq (evs : List Call) : argsOf evs = (kaOf evs).map (·.2) := by
  rw [argsOf, kaOf, List.map_filterMap]; congr 1; funext x; cases x <;> rfl

theorem kaOf_map (c : Caps) (evs : List Call) :
    kaOf (evs.map (degradeCall c)) = (kaOf evs).map (fun ka => (degradeKind c ka.1, degradeArg c ka.1 ka.2)) := by
  rw [kaOf, kaOf, List.filterMap_map, List.map_filterMap]; congr 1; funext x; cases x <;> rfl

theorem kaOf_testEvs (h : List Call) : kaOf (testEvs h) = kaOf h := by
  rw [kaOf, kaOf, testEvs, List.filterMap_filter]; congr 1; funext x; cases x <;> rfl

/-- `cNoPassFromFail` and (through `arrives_textKept`) `cDetailsText` are the two halves of this one relation, so that one
pass of `expect_rel` serves both -/
def arrivesK (got orig : Kind × Arg) : Bool := (!got.1.passing || orig.1.passing) && arrives got.2 orig.2

theorem arrivesK_refl (ka : Kind × Arg) : arrivesK ka ka = true := by
  simp [arrivesK, arrives_refl]

theorem arrivesK_degrade (c : Caps) (x : Kind × Arg) {y : Kind × Arg}
    (h : arrivesK x (degradeKind c y.1, degradeArg c y.1 y.2) = true) : arrivesK x y = true := by
  simp only [arrivesK, Bool.and_eq_true, Bool.or_eq_true, Bool.not_eq_true'] at h ⊢
  exact ⟨h.1.imp_right (C08_no_pass_from_fail c y.1), arrives_trans _ _ _ h.2 (arrives_degrade c y.1 y.2)⟩

theorem expect_outcomes (s : Shape) (evs : List Call) : ∀ l ∈ expect s evs,
    zipAll arrivesK (kaOf l) (kaOf evs) = true :=
  expect_rel (fun l evs => zipAll arrivesK (kaOf l) (kaOf evs) = true)
    (fun _ => zipAll_refl _ arrivesK_refl _)
    (fun c l evs h => by
      rw [kaOf_map, zipAll_map_right] at h
      exact zipAll_imp (fun x _ _ => arrivesK_degrade c x) h) s evs

def sig : Call → Nat × Nat
  | .startTest t => (0, t)
  | .add _ t _ => (1, t)
  | .stopTest t => (2, t)
  | _ => (3, 0)

/-- **C08 (once, in order).**  What any leaf is to receive is, event by event, the same kind of call
(`startTest` / outcome / `stopTest`) for the same test as in the history: same length, same order. -/
theorem C08_once_in_order (s : Shape) (evs : List Call) : ∀ l ∈ expect s evs, l.map sig = evs.map sig :=
  expect_rel (fun l evs => l.map sig = evs.map sig) (fun _ => rfl)
    (fun c l evs h => by
      rw [h, List.map_map]
      apply List.map_congr_left
      intro x _; cases x <;> rfl) s evs

theorem ok_unique (h : List Call) (hok : h.all Call.ok = true) :
    ∀ ka ∈ kaOf h, ∀ d, ka.2 = Arg.details d → UniqueNames d := by
  intro ka hka d hd
  obtain ⟨c, hc, hck⟩ := List.mem_filterMap.mp hka
  have hc := List.all_eq_true.mp hok c hc
  cases c with
  | add k t a =>
    cases hck; cases hd
    exact unique_of_noDup d (by simpa [Call.ok, argOk, detailsOk] using hc)
  | _ => cases hck

theorem cTbtRoot_model (i : Input) : cTbtRoot i (model i) = true := by
  unfold cTbtRoot
  cases hp : pathHist i.shape i.hist with
  | none => rfl
  | some h' =>
    have hm : model i = [observe (.tbt (run .tbt (init .tbt) h'))] :=
      congrArg (List.map observe) (path_run i.shape i.hist h' hp)
    rw [hm]
    exact Bool.or_eq_true_iff.mpr (.inr (beq_iff_eq.mpr (C08_tbt_times_tags h')))

/-- Of the five clauses of `Spec.C08.holds`, the first four are true outside `inScope` by their guard; `tbt-root` has
none and holds of every input (`cTbtRoot_model`). -/
theorem holds_model (i : Input) : holds i (model i) = true := by
  simp only [holds, clauses, List.all_cons, List.all_nil, Bool.and_true, Bool.and_eq_true,
    cForward, cNoPassFromFail, cDetailsText, cTbt]
  cases hs : inScope i
  · exact ⟨rfl, rfl, rfl, rfl, cTbtRoot_model i⟩
  · obtain ⟨⟨hok, hn⟩, hw⟩ : (i.hist.all Call.ok = true ∧ i.shape.noStream = true) ∧
        (wfEvs (testEvs i.hist) = true ∨ i.shape.hasTfr = false) := by
      simpa only [inScope, Bool.and_eq_true, Bool.or_eq_true, Bool.not_eq_true'] using hs
    have fwd : (model i).map leafEvs = expect i.shape (testEvs i.hist) :=
      List.map_map.trans (C08_forward_wf _ hn _ hw)      -- `leafEvs ∘ observe` unfolds to `tlog`
    have outcomes : ∀ l ∈ model i, zipAll arrivesK (kaOf (leafEvs l)) (kaOf i.hist) = true := fun l hl =>
      kaOf_testEvs i.hist ▸ expect_outcomes _ _ _ (fwd ▸ List.mem_map_of_mem hl)
    simp only [Bool.not_true, Bool.false_or, List.all_eq_true]
    refine ⟨beq_iff_eq.mpr fwd, fun l hl => ?_, fun l hl => ?_, ?_, cTbtRoot_model i⟩
    · rw [kindsOf_eq, kindsOf_eq, zipAll_map_left, zipAll_map_right]
      exact zipAll_imp (fun _ _ _ h => (Bool.and_eq_true_iff.mp h).1) (outcomes l hl)
    · rw [argsOf_eq, argsOf_eq, zipAll_map_left, zipAll_map_right]
      exact zipAll_imp
        (fun x y hy h => arrives_textKept x.2 y.2 (ok_unique _ hok y hy) (Bool.and_eq_true_iff.mp h).2)
        (outcomes l hl)
    · rw [← expectV_wf hw]
      exact C08_tbt i.shape hn i.hist hok

def methodName : Kind → String
  | .success => "addSuccess" | .error => "addError" | .failure => "addFailure" | .skip => "addSkip"
  | .xfail => "addExpectedFailure" | .uxsuccess => "addUnexpectedSuccess"
def word : Kind → String
  | .success => "success" | .error => "error" | .failure => "failure" | .skip => "skip"
  | .xfail => "xfail" | .uxsuccess => "uxsuccess"

/-- the status word each `TestByTestResult.add*` assigns in `/repo` (extracted on every run) is `tbtWord` -/
theorem C08_tbt_table (k : Kind) :
    (methodName k, word (tbtWord k)) ∈ TTV.Generated.C08.tbtStatusWords := by
  cases k <;> decide

/-- an empty details dict is details: `TestByTestResult` used to take `details={}` for "no details" and raise
(fix `b64a290`, DESIGN D.2) -/
example : (run .tbt (init .tbt) [.startTest 1, .add .failure 1 (.details []), .stopTest 1] : TbtSt).calls.map proj
    = [(1, some .failure, some [])] := rfl

/-- a callback that raised for a test with test-level tags: the next test is reported with the run-level tags only -/
example :
    let i : Input := { shape := .tbt, faults := [1],
                       hist := [.startTestRun, .tags 1 0, .startTest 1, .tags 2 0, .add .success 1 .none, .stopTest 1,
                                .startTest 2, .add .success 2 .none, .stopTest 2] }
    (model i).map (fun l => l.calls.map (fun c => (c.test, c.tags))) = [[(1, 3), (2, 1)]] ∧ holds i (model i) = true := by
  decide

/-- a `Tagger` that only removes a tag, above a `TestByTestResult`: the run-level tag is gone in every callback -/
example :
    let i : Input := { shape := .tagger 0 1 (.deco .tbt),
                       hist := [.startTestRun, .tags 3 0, .startTest 1, .add .success 1 .none, .stopTest 1,
                                .startTest 2, .tags 4 0, .add .success 2 .none, .stopTest 2] }
    (model i).map (fun l => l.calls.map (fun c => (c.test, c.tags))) = [[(1, 2), (2, 6)]] ∧ holds i (model i) = true := by
  decide

/-- the forwarding clause is not vacuous: a skip and an unexpected success through
`MultiTestResult(2.6-style, TestResult)` inside a `ThreadsafeForwardingResult` -/
example :
    (leaves (.tfr (.etod (.multi [.etod (.sink .py26), .etod (.tt false)])))
      (run _ (init _) [.startTestRun, .startTest 1, .add .skip 1 (.reason ['r']), .stopTest 1,
                        .startTest 2, .add .uxsuccess 2 .none, .stopTest 2])).map tlog
    = [[.startTest 1, .add .success 1 .none, .stopTest 1, .startTest 2, .add .failure 2 (.exc .synth), .stopTest 2],
       [.startTest 1, .add .skip 1 (.reason ['r']), .stopTest 1, .startTest 2, .add .uxsuccess 2 .none, .stopTest 2]] := by
  decide

example : inScope { shape := .tfr (.etod (.multi [.etod (.sink .py26), .etod (.tt false)])),
                    hist := [.startTest 1, .add .skip 1 (.reason ['r']), .stopTest 1] } = true := by decide

example : tbtExpect none none [.startTest 4, .add .uxsuccess 4 (.details [(['x'], .text ['y'])]), .stopTest 4]
    = [(4, some .success, some [(['x'], .text ['y'])])] := rfl

/-! ## the code itself (translator tie, DESIGN D.2a item 2e)

`harness/pyres2lean.py` re-reads the adapters on every run into `TTV/Generated/EtodSrc.lean`: per outcome method of
`ExtendedToOriginalDecorator` the fallback rule (probe → substitution when the target lacks the method → argument check →
`details=` first → conversion on `TypeError` → final call → `finally`), and the canonical skeletons of the helpers, of
`TestByTestResult` and of `TestResultDecorator`. -/
section src
def ruleOf (k : Kind) : List String := (TTV.SrcRef.EtodSrc.etodAdd.lookup (methodName k)).getD []

/-- the capability a rule's `getattr` probe tests -/
def hasMethod (c : Caps) : Kind → Bool
  | .skip => c.skip | .xfail => c.xfail | .uxsuccess => c.uxs | _ => true

/-- what the rule substitutes when the probe finds nothing -/
def substOf (k : Kind) : String → Kind
  | "addSuccess" => .success
  | "addFailure(synthetic)" => .failure
  | _ => k

/-- **C08 (source: the fallback rules of `ExtendedToOriginalDecorator`).**  The rules read from the source are the
reference rules, and the model's degradation table is their meaning: a method is probed with `getattr` exactly for skip,
expected failure and unexpected success; a missing `addSkip` / `addExpectedFailure` becomes `addSuccess`, a missing
`addUnexpectedSuccess` a synthetic `addFailure`; every method tries `details=` first and converts on `TypeError` (to an
`exc_info`, to the reason — or the description of the details —, or drops them); errors, failures and unexpected successes
run under `finally: if self.failfast: self.stop()`.  (`getD i`: the i-th step of a rule in the order listed above this
section: 0 the probe, 1 the substitution, 3 `details=` first, 4 the conversion, 6 `finally`.) -/
theorem C08_src_etod_rules :
    TTV.Generated.EtodSrc.etodAdd = TTV.SrcRef.EtodSrc.etodAdd ∧
    (∀ (c : Caps) (k : Kind), degradeKind c k = if hasMethod c k then k else substOf k ((ruleOf k).getD 1 "")) ∧
    (∀ k : Kind, ((ruleOf k).getD 0 "" == "getattr-probe") = (k == .skip || k == .xfail || k == .uxsuccess)) ∧
    (∀ k : Kind, (ruleOf k).getD 3 "" = "details-first") ∧
    (∀ k : Kind, ((ruleOf k).getD 6 "" == "failfast-stop") = (k == .error || k == .failure || k == .uxsuccess)) ∧
    (∀ k : Kind, (ruleOf k).getD 4 "" =
      match k with
      | .error | .failure | .xfail => "exc-info"
      | .skip => "reason-or-description"
      | .success | .uxsuccess => "drop") := by
  refine ⟨rfl, ?_, ?_, ?_, ?_, ?_⟩
  · intro c k; cases k <;> simp [degradeKind, hasMethod, substOf, ruleOf, methodName, TTV.SrcRef.EtodSrc.etodAdd, List.lookup]
  all_goals (intro k; cases k <;> decide)

/-- **C08 (source: helpers and the other methods of `ExtendedToOriginalDecorator`).**  `_check_args` is read as a rule — "exactly
one of `err` / `details`, else `ValueError`", recognised by its truth table, not by its spelling or message; the model's
`Arg` carries exactly one of the two by construction, so the error branch is outside the histories. -/
theorem C08_src_etod_helpers :
    TTV.Generated.EtodSrc.etodCheckArgs = TTV.SrcRef.EtodSrc.etodCheckArgs ∧
    TTV.SrcRef.EtodSrc.etodCheckArgs = ["exactly-one a0 a1", "raise ValueError"] ∧
    TTV.Generated.EtodSrc.etodDetailsToExcInfo = TTV.SrcRef.EtodSrc.etodDetailsToExcInfo ∧
    TTV.Generated.EtodSrc.etodDone = TTV.SrcRef.EtodSrc.etodDone ∧
    TTV.Generated.EtodSrc.etodProgress = TTV.SrcRef.EtodSrc.etodProgress ∧
    TTV.Generated.EtodSrc.etodTags = TTV.SrcRef.EtodSrc.etodTags ∧
    TTV.Generated.EtodSrc.etodTime = TTV.SrcRef.EtodSrc.etodTime ∧
    TTV.Generated.EtodSrc.etodStartTest = TTV.SrcRef.EtodSrc.etodStartTest ∧
    TTV.Generated.EtodSrc.etodStopTest = TTV.SrcRef.EtodSrc.etodStopTest ∧
    TTV.Generated.EtodSrc.etodStopTestRun = TTV.SrcRef.EtodSrc.etodStopTestRun :=
  ⟨rfl, rfl, rfl, rfl, rfl, rfl, rfl, rfl, rfl, rfl⟩

/-- **C08 (source: `TestByTestResult`).**  `startTest` records the start time and clears the per-test fields; `stopTest`
takes the stop time and the tags, leaves the test's tag context (`super().stopTest`) and only then calls `on_test` with
exactly the six keyword arguments; the outcome methods store the status word (`C08_tbt_table`) and the details. -/
theorem C08_src_tbt :
    TTV.Generated.EtodSrc.tbtStartTest = TTV.SrcRef.EtodSrc.tbtStartTest ∧
    TTV.Generated.EtodSrc.tbtStopTest = TTV.SrcRef.EtodSrc.tbtStopTest ∧
    TTV.Generated.EtodSrc.tbtErrToDetails = TTV.SrcRef.EtodSrc.tbtErrToDetails ∧
    TTV.Generated.EtodSrc.tbtAddSkip = TTV.SrcRef.EtodSrc.tbtAddSkip ∧
    TTV.Generated.EtodSrc.tbtAddSuccess = TTV.SrcRef.EtodSrc.tbtAddSuccess ∧
    TTV.Generated.EtodSrc.tbtAddError = TTV.SrcRef.EtodSrc.tbtAddError ∧
    TTV.Generated.EtodSrc.tbtAddUnexpectedSuccess = TTV.SrcRef.EtodSrc.tbtAddUnexpectedSuccess ∧
    (TTV.SrcRef.EtodSrc.tbtStopTest.drop 2 =
      ["  v0 = set(self.current_tags)", "  super().stopTest(a0)",
       "  self._on_test(test=a0, status=self._status, start_time=self._start_time, stop_time=self._stop_time, tags=v0, details=self._details)"]) :=
  ⟨rfl, rfl, rfl, rfl, rfl, rfl, rfl, rfl⟩

/-- **C08 (source: `TestResultDecorator` / `Tagger`).**  Every method of the decorator makes exactly one call of the same
name on the decorated result (outcomes with `details=` passed through); `Tagger.startTest` is the forwarded `startTest`
followed by `tags(new, gone)` — unconditionally. -/
theorem C08_src_deco_forward :
    TTV.Generated.EtodSrc.decoForward = TTV.SrcRef.EtodSrc.decoForward ∧
    TTV.Generated.EtodSrc.taggerStartTest = TTV.SrcRef.EtodSrc.taggerStartTest ∧
    (∀ k : Kind, ((TTV.SrcRef.EtodSrc.decoForward.lookup (methodName k)).getD []).length = 1) ∧
    (∀ (n g : TagSet) (c : Shape) (st : St c) (t : Nat),
      step (.tagger n g c) st (.startTest t) = step c (step c st (.startTest t)) (.tags n g)) := by
  refine ⟨rfl, rfl, ?_, fun _ _ _ _ _ => rfl⟩
  intro k; cases k <;> decide
end src

end TTV.Props.C08
