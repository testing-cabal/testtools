import TTV.Spec.C09
import TTV.Lemmas.Stream
import TTV.Lemmas.ConvertSrc
import TTV.Lemmas.StreamDeco
import TTV.Generated.ConvertSrc
/-! # C09 — TestResult → StreamResult → TestResult conversion preserves every test

All statements are for **every** well-formed history (any number of tests, any outcome kinds and payloads, any
number of details and chunks, any `tags()` / `time()` calls).

Forward, the stream is compared with the specification through `shape`, event by event.  The way back is computed on the
consumer's table, test by test: the events of one test are one key's lifetime (`run_lifetime`, from any table; a converted test leaves the table as it found it, `run_test`), so
`consume` of a run's stream is `reportsOf`, without `consume = reports` of `Props/C10` (not imported).  The attachments of a
report are a fold of `addChunk` over the file events, which adds up to the specification's `carried` detail by detail
(`details_fold`).  The reports are read back by `Props.C10.interp_brackets`; tags are compared as sets (`SetEq`).
Several runs are cut apart by `splitMid` / `splitExt`. -/
namespace TTV.Props.C09
open TTV.Stream TTV.Stream.Convert TTV.Spec.C09

theorem chunkLoop_some (mk : Bytes → Bool → Event) : ∀ (cs : List Bytes) (b : Bytes),
    chunkLoop mk (some b) cs = (chunksWithEof (b :: cs)).map fun c => mk c.1 c.2
  | [], b => by simp [chunkLoop, chunksWithEof]
  | c :: cs, b => by
      have ih := chunkLoop_some mk cs c
      simp [chunkLoop, ih, chunksWithEof]

/-- **C09 (chunks)**: for every chunk list the loop emits the chunks in order with `eof` exactly on the last one; a
detail without chunks yields one empty `eof` chunk. -/
theorem C09_chunks (mk : Bytes → Bool → Event) (cs : List Bytes) :
    chunkLoop mk none cs = (chunksWithEof cs).map fun c => mk c.1 c.2 := by
  cases cs with
  | nil => simp [chunkLoop, chunksWithEof]
  | cons c cs => simp only [chunkLoop, List.nil_append]; exact chunkLoop_some mk cs c

theorem chunksWithEof_bytes (cs : List Bytes) : ((chunksWithEof cs).map (·.1)).flatten = cs.flatten := by
  rcases List.eq_nil_or_concat cs with rfl | ⟨init, l, rfl⟩
  · rfl
  · simp [chunksWithEof, Function.comp_def]

theorem shape_fileEvent (id : Nat) (ts : Ts) (name mime : Nat) (c : Bytes × Bool) :
    shape (fileEvent id ts name mime c.1 c.2) = fileShape id name mime c := rfl

theorem convertArgs_status (r : Result) : (convertArgs r).1 = streamStatus r := by
  rcases r with _ | _ | p | p | p | p <;> first | rfl | (cases p <;> rfl)

theorem streamStatus_ne_exist (r : Result) : streamStatus r ≠ .exist := by
  cases r <;> simp [streamStatus]

theorem convertArgs_reason (r : Result) : (convertArgs r).2.2 = reasonOf r := by
  rcases r with _ | _ | p | p | p | p <;> first | rfl | (cases p <;> rfl)

theorem convertArgs_details (r : Result) : asDict ((convertArgs r).2.1.getD []) = attachments r := by
  rcases r with _ | _ | p | p | p | p <;> first | rfl | (cases p <;> first | rfl | decide)

theorem detailPart_shape (id : Nat) (ts : Ts) (ds : Option (List DetailIn)) :
    (detailPart id ts ds).map shape
      = ((asDict (ds.getD [])).map fun d => (chunksWithEof d.chunks).map (fileShape id d.name d.mime)).flatten := by
  cases ds with
  | none => rfl
  | some ds =>
    simp only [detailPart, detailEvents, Option.getD_some, List.map_flatten, List.map_map]
    congr 1
    refine List.map_congr_left fun d _ => ?_
    simp only [Function.comp_def, C09_chunks, List.map_map, shape_fileEvent]

theorem convert_shape (id : Nat) (ts : Ts) (tags : List Nat) (r : Result) :
    (convert id ts tags r).map shape =
      ((attachments r).map fun d => (chunksWithEof d.chunks).map (fileShape id d.name d.mime)).flatten
      ++ reasonShapes id r
      ++ [{ testId := some id, status := some (streamStatus r), fileName := none, fileBytes := none, eof := false, mime := none }] := by
  simp only [convert, List.map_append, detailPart_shape, convertArgs_details, convertArgs_reason, convertArgs_status, reasonShapes]
  cases reasonOf r <;> rfl

theorem convTest_shape (s : St) (t : TestIn) : (convTest s t).2.map shape = expectShapes t := by
  simp only [convTest, List.map_cons, convert_shape, expectShapes]
  simp [shape, blank]

theorem convAll_shape : ∀ (ts : List TestIn) (s : St), (convAll s ts).map shape = (ts.map expectShapes).flatten
  | [], _ => rfl
  | t :: ts, s => by simp [convAll, convTest_shape, convAll_shape ts]

theorem splitMid_run (es : List Event) : ∀ (acc : List Event) (rest : List StreamEv),
    splitMid (some acc) (es.map .status ++ .stop :: rest) = (splitMid none rest).map ((acc ++ es) :: ·) := by
  induction es with
  | nil => intro acc rest; simp [splitMid]
  | cons e es ih => intro acc rest; simp [splitMid, ih]

theorem splitMid_runs : ∀ runs : List (List TestIn), splitMid none ((runs.map midRun).flatten) = some (runs.map toStream)
  | [] => rfl
  | r :: runs => by
      simp only [List.map_cons, List.flatten_cons, midRun, List.cons_append, List.append_assoc,
        List.nil_append, splitMid]
      rw [splitMid_run, splitMid_runs runs]
      simp

/-- **C09 (stream well-formed)**: between the converters the stream is, for each run, `startTestRun`, then per test —
in order — an `inprogress` event, for each detail in dict order its chunks with `eof` exactly on the last (a detail
without chunks: one empty `eof` chunk), the reason file for a skip with a reason, and exactly one final status event
(error and failure as `fail`), then `stopTestRun`. -/
theorem C09_stream_wf (i : Convert.Input) :
    (Convert.model i).mid = (i.runs.map fun tests => [.start] ++ (toStream tests).map .status ++ [.stop]).flatten
    ∧ ∀ tests, (toStream tests).map shape = (tests.map expectShapes).flatten :=
  ⟨rfl, fun tests => convAll_shape tests _⟩

/-- one key's lifetime, from any table.  Computed on the table itself: the converter's output is a sequence of such
blocks (chained by `run_append` in `run_convAll`), and `Props/C10` is not imported. -/
theorem run_lifetime (tbl : Tbl) (k : Key) (e0 fin : Event) (files : List Event)
    (h0 : key e0 = some k) (hf0 : isFinal e0 = false)
    (hfiles : ∀ f ∈ files, key f = some k ∧ isFinal f = false)
    (hk : key fin = some k) (hfin : isFinal fin = true) :
    run tbl (e0 :: (files ++ [fin]))
      = (tbl.del k, [(k, upd (files.foldl upd (upd ((tbl.get k).getD (create k.1 e0)) e0)) fin)]) := by
  have hgen : ∀ (files : List Event) (r : Report), (∀ f ∈ files, key f = some k ∧ isFinal f = false) →
      run (tbl.set k r) (files ++ [fin]) = (tbl.del k, [(k, upd (files.foldl upd r) fin)]) := by
    intro files
    induction files with
    | nil =>
      intro r _
      simp [run, step, hk, hfin, Tbl.get_set_self, Tbl.del_set]
    | cons f files ih =>
      intro r hh
      obtain ⟨hkf, hff⟩ := hh f (by simp)
      have := ih (upd r f) (fun g hg => hh g (by simp [hg]))
      simp only [List.cons_append, run, step, hkf, hff, Tbl.get_set_self, Option.getD_some, Bool.false_eq_true,
        if_false, Tbl.set_set, this, List.nil_append, List.foldl_cons]
  have := hgen files (upd ((tbl.get k).getD (create k.1 e0)) e0) hfiles
  simp only [run, step, h0, hf0, Bool.false_eq_true, if_false, this, List.nil_append]

theorem carried_eq (d : DetailIn) :
    carried d = if d.chunks.flatten = [] then none else some { name := d.name, mime := d.mime, bytes := d.chunks.flatten } := by
  unfold carried
  split <;> simp [*]

/-- detail payloads: bytes are preserved exactly — the carried bytes are the concatenation of the chunks -/
theorem C09_detail_bytes (d : DetailIn) (x : Detail) (h : carried d = some x) :
    x.name = d.name ∧ x.mime = d.mime ∧ x.bytes = d.chunks.flatten ∧ x.bytes ≠ [] := by
  rw [carried_eq] at h
  split at h
  · cases h
  · next hb => cases h; exact ⟨rfl, rfl, rfl, hb⟩

/-- a detail is dropped only if it has no bytes at all -/
theorem C09_detail_dropped (d : DetailIn) : carried d = none ↔ d.chunks.flatten = [] := by
  simp [carried_eq]

/-- `addChunk` for a file event of name `n` and type `mime` carrying the bytes given (`addChunk_fileEvent`) -/
def addBytes (ds : List Detail) (n mime : Nat) : Bytes → List Detail
  | [] => ds
  | b :: bs => addFile ds n (some mime) (b :: bs)

theorem addBytes_append (ds : List Detail) (n mime : Nat) (a b : Bytes) :
    addBytes (addBytes ds n mime a) n mime b = addBytes ds n mime (a ++ b) := by
  cases a <;> cases b <;> simp [addBytes, addFile_addFile]

theorem chunks_fold (n mime : Nat) : ∀ (cs : List Bytes) (ds : List Detail),
    cs.foldl (fun ds c => addBytes ds n mime c) ds = addBytes ds n mime cs.flatten
  | [], _ => rfl
  | c :: cs, ds => by rw [List.foldl_cons, chunks_fold n mime cs, addBytes_append, List.flatten_cons]

theorem addBytes_carried (ds : List Detail) (d : DetailIn) (h : d.name ∉ detailNames ds) :
    addBytes ds d.name d.mime d.chunks.flatten = ds ++ (carried d).toList := by
  unfold carried addBytes
  cases d.chunks.flatten with
  | nil => simp
  | cons b bs => simpa using addFile_of_not_mem ds d.name (some d.mime) (b :: bs) h

theorem addChunk_fileEvent (ds : List Detail) (id : Nat) (ts : Ts) (n mime : Nat) (c : Bytes) (eof : Bool) :
    addChunk ds (fileEvent id ts n mime c eof) = addBytes ds n mime c := by
  cases c <;> simp [addChunk, fileEvent, addBytes, blank]

theorem detail_fold (ds : List Detail) (id : Nat) (ts : Ts) (d : DetailIn) (h : d.name ∉ detailNames ds) :
    (chunkLoop (fileEvent id ts d.name d.mime) none d.chunks).foldl addChunk ds = ds ++ (carried d).toList := by
  have h0 := chunks_fold d.name d.mime ((chunksWithEof d.chunks).map (·.1)) ds
  rw [List.foldl_map, chunksWithEof_bytes, addBytes_carried ds d h] at h0
  rw [C09_chunks, List.foldl_map]
  simpa only [addChunk_fileEvent] using h0

theorem details_fold (id : Nat) (ts : Ts) : ∀ (dl : List DetailIn) (acc : List Detail),
    (dl.map (·.name)).Nodup → (∀ d ∈ dl, d.name ∉ detailNames acc) →
    ((dl.map fun d => chunkLoop (fileEvent id ts d.name d.mime) none d.chunks).flatten).foldl addChunk acc
      = acc ++ dl.filterMap carried
  | [], acc, _, _ => by simp
  | d :: dl, acc, hnd, hdis => by
      simp only [List.map_cons, List.nodup_cons] at hnd
      simp only [List.map_cons, List.flatten_cons, List.foldl_append, detail_fold acc id ts d (hdis d (by simp))]
      rw [details_fold id ts dl _ hnd.2]
      · simp only [List.filterMap_cons, List.append_assoc]
        cases carried d <;> simp
      · intro d' hd' hmem
        rw [detailNames, List.map_append, List.mem_append] at hmem
        rcases hmem with h | h
        · exact hdis d' (by simp [hd']) h
        · -- a name `carried d` adds is `d`'s
          obtain ⟨x, hx, hn⟩ := List.mem_map.mp h
          have : d.name = d'.name := (C09_detail_bytes d x (Option.mem_toList.mp hx)).1.symm.trans hn
          exact hnd.1 (this ▸ List.mem_map_of_mem hd')

theorem asDict_names_sub : ∀ (ds : List DetailIn), ∀ x ∈ (asDict ds).map (·.name), x ∈ ds.map (·.name)
  | [], x, hx => by simp [asDict] at hx
  | d :: ds, x, hx => by
      simp only [asDict] at hx
      split at hx
      · next d' hfind =>
        simp only [List.map_cons, List.mem_cons, List.mem_map, List.mem_filter] at hx
        rcases hx with rfl | ⟨y, ⟨hy, _⟩, rfl⟩
        · have : d'.name = d.name := by simpa using List.find?_some hfind
          rw [this]; exact List.mem_cons_self
        · exact List.mem_cons_of_mem _ (asDict_names_sub ds y.name (List.mem_map_of_mem hy))
      · rcases List.mem_cons.mp hx with rfl | hx
        · exact List.mem_cons_self
        · exact List.mem_cons_of_mem _ (asDict_names_sub ds x hx)

theorem asDict_nodup : ∀ (ds : List DetailIn), ((asDict ds).map (·.name)).Nodup
  | [] => by simp [asDict]
  | d :: ds => by
      have ih := asDict_nodup ds
      simp only [asDict]
      split
      · next d' hfind =>
        have hname : d'.name = d.name := by simpa using List.find?_some hfind
        refine List.nodup_cons.mpr ⟨fun hmem => ?_, ih.sublist (List.filter_sublist.map _)⟩
        obtain ⟨y, hy, hyn⟩ := List.mem_map.mp hmem
        exact bne_iff_ne.mp (List.mem_filter.mp hy).2 (hyn.trans hname)
      · next hfind =>
        refine List.nodup_cons.mpr ⟨fun hmem => ?_, ih⟩
        obtain ⟨y, hy, hyn⟩ := List.mem_map.mp hmem
        exact List.find?_eq_none.mp hfind y hy (beq_iff_eq.mpr hyn)

def filesOf (id : Nat) (ts : Ts) (r : Result) : List Event :=
  detailPart id ts (convertArgs r).2.1 ++ reasonPart id ts (convertArgs r).2.2

def finOf (id : Nat) (ts : Ts) (tags : List Nat) (r : Result) : Event :=
  { blank id ts with status := some (convertArgs r).1, tags := some tags }

theorem convert_split (id : Nat) (ts : Ts) (tags : List Nat) (r : Result) :
    convert id ts tags r = filesOf id ts r ++ [finOf id ts tags r] := by
  simp [convert, filesOf, finOf]

theorem mem_filesOf (id : Nat) (ts : Ts) (r : Result) : ∀ f ∈ filesOf id ts r, ∃ n m c e, f = fileEvent id ts n m c e := by
  intro f hf
  rcases List.mem_append.mp hf with hf | hf
  · generalize (convertArgs r).2.1 = ds at hf
    cases ds with
    | none => cases hf
    | some ds =>
      simp only [detailPart, detailEvents, List.mem_flatten, List.mem_map] at hf
      obtain ⟨l, ⟨d, _, rfl⟩, hf⟩ := hf
      rw [C09_chunks] at hf
      obtain ⟨c, _, rfl⟩ := List.mem_map.mp hf
      exact ⟨_, _, _, _, rfl⟩
  · generalize (convertArgs r).2.2 = rs at hf
    cases rs with
    | none => cases hf
    | some rs => exact ⟨_, _, _, _, List.mem_singleton.mp hf⟩

theorem filesOf_key (id : Nat) (ts : Ts) (r : Result) :
    ∀ f ∈ filesOf id ts r, key f = some (id, none) ∧ isFinal f = false := by
  intro f hf
  obtain ⟨n, m, c, e, rfl⟩ := mem_filesOf id ts r f hf
  exact ⟨rfl, rfl⟩

theorem finOf_final (id : Nat) (ts : Ts) (tags : List Nat) (r : Result) : isFinal (finOf id ts tags r) = true := by
  simp only [isFinal, finOf, convertArgs_status]
  cases r <;> rfl

theorem detailPart_fold (id : Nat) (ts : Ts) (ds : Option (List DetailIn)) :
    (detailPart id ts ds).foldl addChunk [] = (asDict (ds.getD [])).filterMap carried := by
  cases ds with
  | none => rfl
  | some ds => simpa [detailPart, detailEvents] using details_fold id ts (asDict ds) [] (asDict_nodup ds) (by simp [detailNames])

theorem files_fold (id : Nat) (ts : Ts) (r : Result) : (filesOf id ts r).foldl addChunk [] = expectDetails r := by
  cases hr : reasonOf r with
  | none => simp only [filesOf, expectDetails, convertArgs_reason, hr, reasonPart, List.append_nil, detailPart_fold, convertArgs_details]
  | some rs =>
    -- only a skip has a reason, and then no details
    obtain rfl : r = .skip (.reason rs) := by
      rcases r with _ | _ | _ | _ | _ | (_ | _ | _) <;> cases hr
      rfl
    show [fileEvent id ts 0 1 (encode rs) true].foldl addChunk [] = (carried { name := 0, mime := 1, chunks := [encode rs] }).toList
    simpa [addChunk_fileEvent] using
      addBytes_carried [] { name := 0, mime := 1, chunks := [encode rs] } (by simp [detailNames])

/-- the time in force after an optional `time()` call, on the converter's side; the specification's `Spec.C09.lastTime` is the
same function (`nowAt_eq`) -/
def nowAt (now : Option Nat) : Option Nat → Option Nat
  | some n => some n
  | none => now

def reportOf (s : St) (t : TestIn) : Report :=
  { id := t.id
    tags := changeTags (changeTags s.gtags t.gtags) t.ltags
    details := expectDetails t.result
    status := streamStatus t.result
    ts0 := some (stamp (nowAt s.now t.t0))
    ts1 := some (stamp (nowAt (nowAt s.now t.t0) t.t1)) }

/-- the `inprogress` event `startTest` sends -/
def startEvent (id : Nat) (ts : Ts) : Event := { blank id ts with status := some .inprogress }

theorem convTest_events (s : St) (t : TestIn) :
    (convTest s t).2 = startEvent t.id (stamp (nowAt s.now t.t0))
        :: (filesOf t.id (stamp (nowAt (nowAt s.now t.t0) t.t1)) t.result
            ++ [finOf t.id (stamp (nowAt (nowAt s.now t.t0) t.t1)) (changeTags (changeTags s.gtags t.gtags) t.ltags) t.result]) :=
  congrArg (List.cons _) (convert_split ..)

theorem convTest_state (s : St) (t : TestIn) :
    (convTest s t).1 = { gtags := changeTags s.gtags t.gtags, now := nowAt (nowAt s.now t.t0) t.t1 } :=
  rfl

theorem start_record (id : Nat) (ts : Ts) :
    upd (create id (startEvent id ts)) (startEvent id ts)
      = { id := id, tags := [], details := [], status := .inprogress, ts0 := some ts, ts1 := some ts } := by
  simp [upd, create, startEvent, blank]

theorem upd_fin (r : Report) (id : Nat) (ts : Ts) (tags : List Nat) (res : Result) :
    upd r (finOf id ts tags res) = { r with status := (convertArgs res).1, ts1 := some ts, tags := tags } := by
  simp [upd, finOf, blank]

theorem run_test (tbl : Tbl) (s : St) (t : TestIn) (h : (t.id, none) ∉ tbl.keys) :
    run tbl (convTest s t).2 = (tbl, [((t.id, none), reportOf s t)]) := by
  rw [convTest_events s t, run_lifetime tbl (t.id, none) _ _ _ rfl rfl (filesOf_key _ _ _) rfl (finOf_final _ _ _ _),
    (Tbl.get_eq_none_iff tbl _).mpr h, Tbl.del_of_not_mem tbl _ h]
  refine congrArg (fun x => (tbl, [(((t.id, none) : Key), x)])) ?_
  rw [Option.getD_none, start_record, upd_fin]
  obtain ⟨hid, hts0, hdet⟩ := foldl_upd (filesOf t.id (stamp (nowAt (nowAt s.now t.t0) t.t1)) t.result)
    { id := t.id, tags := [], details := [], status := .inprogress, ts0 := some (stamp (nowAt s.now t.t0)),
      ts1 := some (stamp (nowAt s.now t.t0)) }
  simp only [reportOf, hid, hts0, hdet, files_fold, convertArgs_status]

def reportsOf : St → List TestIn → List Report
  | _, [] => []
  | s, t :: ts => reportOf s t :: reportsOf (convTest s t).1 ts

theorem run_convAll : ∀ (ts : List TestIn) (s : St),
    (run [] (convAll s ts)).1 = [] ∧ (run [] (convAll s ts)).2.map (·.2) = reportsOf s ts
  | [], _ => by simp [convAll, run, reportsOf]
  | t :: ts, s => by
      obtain ⟨h1, h2⟩ := run_convAll ts (convTest s t).1
      simp only [convAll, run_append, run_test [] _ _ List.not_mem_nil, h1, List.singleton_append, List.map_cons, h2,
        reportsOf, and_self]

/-- **C09 (one report per test)**: the consumer behind the stream sees, for every history, exactly one completed
record per test, in order, and nothing is left over when the run stops. -/
theorem C09_one_report_per_test (s : St) (ts : List TestIn) : consume (convAll s ts) = reportsOf s ts := by
  obtain ⟨h1, h2⟩ := run_convAll ts s
  simp [consume, consumeKeyed, h1, h2, flush]

theorem convAll_no_exist : ∀ (ts : List TestIn) (s : St), ∀ e ∈ convAll s ts, e.status ≠ some .exist
  | [], _, e, he => by simp [convAll] at he
  | t :: ts, s, e, he => by
      simp only [convAll, List.mem_append] at he
      rcases he with he | he
      · rw [convTest_events s t] at he
        simp only [List.mem_cons, List.mem_append, List.not_mem_nil, or_false] at he
        rcases he with rfl | he | rfl
        · simp [startEvent]
        · obtain ⟨n, m, c, e', rfl⟩ := mem_filesOf _ _ _ e he
          simp [fileEvent, blank]
        · simpa [finOf, convertArgs_status] using streamStatus_ne_exist t.result
      · exact convAll_no_exist ts _ e he

theorem toExtended_convAll (s : St) (ts : List TestIn) :
    toExtended (convAll s ts) = [.startTestRun] ++ ((reportsOf s ts).map bracket).flatten ++ [.stopTestRun] := by
  have : (convAll s ts).filter (fun e => e.status != some .exist) = convAll s ts := by
    rw [List.filter_eq_self]
    intro e he
    simpa using convAll_no_exist ts s e he
  simp only [toExtended, this, C09_one_report_per_test]

theorem reportsOf_no_exist : ∀ (ts : List TestIn) (s : St), ∀ r ∈ reportsOf s ts, r.status ≠ .exist
  | [], _, r, hr => by simp [reportsOf] at hr
  | t :: ts, s, r, hr => by
      simp only [reportsOf, List.mem_cons] at hr
      rcases hr with rfl | hr
      · exact streamStatus_ne_exist t.result
      · exact reportsOf_no_exist ts _ r hr

/-- as sets, not as lists: `changeTags` ends in `Deco.norm`, the specification's `tagChange` does not normalise -/
def SetEq (a b : List Nat) : Prop := ∀ x, x ∈ a ↔ x ∈ b

theorem changeTags_setEq (a b : List Nat) (h : SetEq a b) (c : Option (List Nat × List Nat)) :
    SetEq (changeTags a c) (tagChange b c) := by
  cases c with
  | none => exact h
  | some p =>
    obtain ⟨new, gone⟩ := p
    intro x
    simp only [changeTags, tagChange, Spec.C10.applyTags, Deco.mem_norm, List.mem_filter, List.mem_append, h x]

theorem sameSet_of_setEq (a b c : List Nat) (h1 : Spec.C10.sameSet a b = true) (h2 : SetEq b c) : Spec.C10.sameSet a c = true := by
  simp only [Spec.C10.sameSet, Bool.and_eq_true, List.all_eq_true, List.contains_iff_mem] at h1 ⊢
  exact ⟨fun x hx => (h2 x).mp (h1.1 x hx), fun x hx => h1.2 x ((h2 x).mpr hx)⟩

theorem specOutcome_streamStatus (r : Result) : Spec.C10.specOutcome (streamStatus r) = some (replayOutcome r) := by
  cases r <;> rfl

theorem nowAt_eq (now t : Option Nat) : nowAt now t = lastTime now t := by cases t <;> rfl

theorem stamp_eq (now : Option Nat) : stamp now = clockOf now := by cases now <;> rfl

theorem matchesSeen_of_replays : ∀ (ts : List TestIn) (s : St) (g : List Nat) (seen : List Spec.C10.Seen), SetEq s.gtags g →
    Spec.C10.all2 Spec.C10.replays (reportsOf s ts) seen = true →
    Spec.C10.all2 matchesSeen (expectTests g s.now ts) seen = true
  | [], _, _, [], _, _ => rfl
  | [], _, _, _ :: _, _, h => by cases h
  | t :: ts, s, g, seen, hg, h => by
      cases seen with
      | nil => simp [reportsOf, Spec.C10.all2] at h
      | cons x seen =>
        simp only [reportsOf, Spec.C10.all2, Bool.and_eq_true] at h
        obtain ⟨hx, hrest⟩ := h
        have hg' := changeTags_setEq s.gtags g hg t.gtags
        have ih := matchesSeen_of_replays ts (convTest s t).1 (tagChange g t.gtags) seen
          (by rw [convTest_state s t]; exact hg') hrest
        rw [convTest_state s t] at ih
        simp only [nowAt_eq] at ih
        simp only [expectTests, Spec.C10.all2, Bool.and_eq_true]
        refine ⟨?_, ih⟩
        simp only [Spec.C10.replays, reportOf, Bool.and_eq_true, beq_iff_eq, specOutcome_streamStatus, Option.some.injEq, nowAt_eq,
          stamp_eq, Spec.C10.timeOk] at hx
        simp only [matchesSeen, Bool.and_eq_true, beq_iff_eq]
        -- conjunct by conjunct the same, but for the tags
        exact hx.imp_left <| .imp_left <| .imp_left <| .imp_right fun h3 =>
          sameSet_of_setEq _ _ _ h3 (changeTags_setEq _ _ hg' t.ltags)

def isBody : ExtEv → Bool
  | .startTestRun | .stopTestRun => false
  | _ => true

theorem splitExt_body : ∀ (body : List ExtEv), body.all isBody = true → ∀ (acc rest : List ExtEv),
    splitExt (some acc) (body ++ .stopTestRun :: rest) = (splitExt none rest).map ((acc ++ body) :: ·)
  | [], _, acc, rest => by simp [splitExt]
  | x :: body, hb, acc, rest => by
      simp only [List.all_cons, Bool.and_eq_true] at hb
      have := splitExt_body body hb.2 (acc ++ [x]) rest
      cases x with
      | startTestRun | stopTestRun => cases hb.1
      | _ => simpa [splitExt] using this

theorem bracket_body (r : Report) : (bracket r).all isBody = true := by
  unfold bracket
  split
  · rfl
  · cases r.ts0 <;> cases r.ts1 <;> rfl

theorem brackets_body (rs : List Report) : ((rs.map bracket).flatten).all isBody = true := by
  simp [List.all_flatten, bracket_body]

def bodyOf (tests : List TestIn) : List ExtEv := ((reportsOf { gtags := [], now := none } tests).map bracket).flatten

theorem splitExt_runs : ∀ runs : List (List TestIn),
    splitExt none ((runs.map fun tests => toExtended (toStream tests)).flatten) = some (runs.map bodyOf)
  | [] => rfl
  | r :: runs => by
      simp only [List.map_cons, List.flatten_cons, toStream, toExtended_convAll, List.cons_append,
        List.append_assoc, List.nil_append, splitExt]
      rw [splitExt_body _ (brackets_body _) [] _]
      have := splitExt_runs runs
      simp only [toStream, toExtended_convAll, List.cons_append,
        List.nil_append] at this
      simp [this, bodyOf]

theorem roundtrip_tests (tests : List TestIn) :
    ∃ seen, Spec.C10.interp {} (bodyOf tests) = some seen
      ∧ Spec.C10.all2 matchesSeen (expectTests [] none tests) seen = true := by
  obtain ⟨seen, h1, h2⟩ := Props.C10.interp_brackets _ (reportsOf_no_exist tests { gtags := [], now := none }) none
  exact ⟨seen, h1, matchesSeen_of_replays tests { gtags := [], now := none } [] seen (fun _ => Iff.rfl) h2⟩

/-- **C09 (round trip)**: for every well-formed history of runs on the same converter pair the final extended result
receives, per run, `startTestRun`, then per test — in order — one well-formed `startTest · outcome · stopTest` bracket
with the same test id, the same outcome (error and failure both replayed as failure), exactly the reporter's current
tags at the outcome in force, the time in force at `startTest` and at the outcome — the last one supplied **in that
run**, else the wall clock (`now`): never a time left over from an earlier run —, the skip reason (as the `reason`
attachment) and every detail that has any bytes under the same name and content type with its chunks concatenated,
then `stopTestRun`. -/
theorem C09_roundtrip (i : Convert.Input) :
    (Convert.model i).ext = (i.runs.map fun tests => [.startTestRun] ++ bodyOf tests ++ [.stopTestRun]).flatten
    ∧ ∀ tests, ∃ seen, Spec.C10.interp {} (bodyOf tests) = some seen
        ∧ Spec.C10.all2 matchesSeen (expectTests [] none tests) seen = true := by
  refine ⟨?_, roundtrip_tests⟩
  simp only [Convert.model, toStream, toExtended_convAll, bodyOf]

/-- in the expectations of a run that supplies no `time()` every test is stamped with the wall clock.  That the earlier runs
have no say in this (`startTestRun` resets tags and clock) is not stated here: it is how `cRoundTrip` reads a trace, every run
against `expectTests [] none` of its own tests. -/
theorem C09_runs_independent (tests : List TestIn) (h : ∀ t ∈ tests, t.t0 = none ∧ t.t1 = none) :
    ∀ x ∈ expectTests [] none tests, x.tStart = .now ∧ x.tEnd = .now := by
  suffices ∀ g, ∀ x ∈ expectTests g none tests, x.tStart = .now ∧ x.tEnd = .now from this []
  induction tests with
  | nil => intro g x hx; simp [expectTests] at hx
  | cons t ts ih =>
    intro g x hx
    obtain ⟨h0, h1⟩ := h t (by simp)
    simp only [expectTests, h0, h1, lastTime, List.mem_cons] at hx
    rcases hx with rfl | hx
    · exact ⟨rfl, rfl⟩
    · exact ih (fun t' ht' => h t' (by simp [ht'])) _ x hx

theorem holds_model (i : Convert.Input) : holds i (Convert.model i) = true := by
  simp only [holds, clauses, List.all_cons, List.all_nil, Bool.and_true, Bool.and_eq_true]
  refine ⟨?_, ?_⟩
  · simp only [cStreamWf, Convert.model, splitMid_runs]
    apply Props.C10.all2_map_self
    intro tests
    simp [toStream, convAll_shape]
  · simp only [cRoundTrip, Convert.model, splitExt_runs]
    apply Props.C10.all2_map_self
    intro tests
    obtain ⟨seen, h1, h2⟩ := roundtrip_tests tests
    simp only [h1, h2]

private def demo : Convert.Input :=
  { explicitStart := true
    runs := [[ { id := 0, gtags := some ([1], []), t0 := some 3, ltags := some ([2], [1]), t1 := none,
                 result := .failure (.details [{ name := 2, mime := 1, chunks := [[], [65], [66, 67], []] },
                                               { name := 3, mime := 0, chunks := [] }]) },
               { id := 1, gtags := none, t0 := none, ltags := none, t1 := some 5, result := .skip (.reason [119, 233]) },
               { id := 0, gtags := none, t0 := none, ltags := none, t1 := none, result := .error .err } ],
             [ { id := 2, gtags := none, t0 := none, ltags := none, t1 := none, result := .success none } ]] }

/-- `mid`: 13 + 2 status events, each run between `start` and `stop`; `ext`: 7 calls per test (`time`, `tags`, `startTest`,
`time`, outcome, `stopTest`, `tags`), each run between `startTestRun` and `stopTestRun` -/
example : ((Convert.model demo).mid.length, (Convert.model demo).ext.length) = (19, 32) := by decide
/-- a run that supplies no time carries the wall clock: `toStream` starts every run from the blank state, so no time of
another run (the first one of `demo` supplies 3 and 5) can reach it -/
example : (toStream (demo.runs.getD 1 [])).map (·.timestamp) = [some .now, some .now] := by decide
example : (reportsOf { gtags := [], now := none } (demo.runs.getD 0 [])).map (fun r => (r.id, r.status, r.tags, r.details.length))
    = [(0, .fail, [2], 1), (1, .skip, [1], 1), (0, .fail, [1], 1)] := by decide
example : encode [119, 233, 8364, 0x1F600] = [119, 0xC3, 0xA9, 0xE2, 0x82, 0xAC, 0xF0, 0x9F, 0x98, 0x80] := by decide

/-! ## tie to the source (`harness/pystream.py` → `TTV/Generated/ConvertSrc.lean`, regenerated on every run)
`Convert.model` does not read `Input.explicitStart`: the converter is as blank from `__init__` as after `startTestRun` (`C09_src_init`,
`C09_src_start_test_run`), a start implied by the first `startTest` keeps what `tags()` / `time()` set before it
(`C09_src_implied_start`), and `startTest` sends the same event whether the run was started or not (`C09_src_start_test`). -/
open TTV.ConvertSrc in
/-- **`_convert` is the code's**: for every outcome (called as the `add…` methods call it: `err` or `details`, reason for a
skip) the model's `convert` — `traceback` detail for an exc_info, per detail the chunk loop with its one-chunk look-ahead
(`eof` only on the event after the loop, an empty chunk if there was none), the reason file, one final status event with the
current tags — is the interpretation of the statement skeleton found in the source -/
theorem C09_src_convert (id : Nat) (ts : Ts) (tags : List Nat) (r : Result) :
    vInterp id ts tags (callArgs r) Generated.ConvertSrc.convert (callArgs r).details = some (Convert.convert id ts tags r) := by
  have h : Generated.ConvertSrc.convert = refConvert := by decide
  rw [h]; exact vInterp_ref id ts tags r

open TTV.ConvertSrc in
/-- **`startTestRun` is the code's**: whatever the converter's state was (tags and clock of an earlier run), after
`startTestRun` it is the state every run of the model starts from: no run-level tags, no supplied time -/
theorem C09_src_start_test_run (s0 : St) :
    xInterp Generated.ConvertSrc.startTestRun s0 = some { gtags := [], now := none } := by
  have h : Generated.ConvertSrc.startTestRun = refStart := by decide
  rw [h]; rfl

open TTV.ConvertSrc in
/-- **`__init__` is the code's**: before any run is started the converter already has a (blank) tag context and clock, so
`tags()` and `time()` may precede the first `startTest` -/
theorem C09_src_init (s0 : St) : xInterp Generated.ConvertSrc.init s0 = some { gtags := [], now := none } := by
  have h : Generated.ConvertSrc.init = refInit := by decide
  rw [h]; rfl

open TTV.ConvertSrc in
/-- **`_implied_start` is the code's**: a run that is started by its first `startTest` (no `startTestRun()` call) keeps the
run-level tags and the time supplied before - the reset done by `startTestRun` is undone for exactly these two -/
theorem C09_src_implied_start (s0 : St) :
    iInterp Generated.ConvertSrc.startTestRun Generated.ConvertSrc.impliedStart s0 none = some s0 := by
  have h1 : Generated.ConvertSrc.startTestRun = refStart := by decide
  have h2 : Generated.ConvertSrc.impliedStart = refImpliedStart := by decide
  rw [h1, h2]; rfl

open TTV.ConvertSrc in
/-- **`startTest` is the code's**: started explicitly or not, the `inprogress` event carries the last supplied time (the
wall clock if there is none) and the converter's run-level state is what it was: the first event of the model's `convTest`
(`startEvent` in `convTest_events`) -/
theorem C09_src_start_test (started : Bool) (id : Nat) (s : St) :
    tInterp Generated.ConvertSrc.startTestRun Generated.ConvertSrc.impliedStart started id Generated.ConvertSrc.startTest s
      = some (s, [{ blank id (stamp s.now) with status := some .inprogress }]) := by
  have h1 : Generated.ConvertSrc.startTestRun = refStart := by decide
  have h2 : Generated.ConvertSrc.impliedStart = refImpliedStart := by decide
  have h3 : Generated.ConvertSrc.startTest = refStartTest := by decide
  rw [h1, h2, h3]
  cases started <;> rfl

end TTV.Props.C09
