import TTV.Model.Conc
import TTV.Spec.C12
import TTV.Lemmas.ConcBlock
import TTV.Lemmas.TfrSkel
import TTV.Generated.TfrSkel
/-! # C12 — ThreadsafeForwardingResult: per-test atomicity under every interleaving

All statements are for every number of threads, every forwarder program, every fault plan and every schedule (arbitrary
`List Nat`, no bound).  `holds_model`: the executable spec `Spec.C12.holds` is true of the model's trace.  The `C12_*` theorems say
what its clauses mean, and more: about every reachable state, or about what the operations of one forwarder emit (`stepOp`,
`sections`); `C12_src_*` tie the block semantics `stepOp` all of this is about
to the control skeletons that `harness/tfrskel.py` reads out of `testtools/testresult/real.py` on every run
(`TTV/Generated/TfrSkel.lean`). -/
namespace TTV.Props.C12
open TTV.Conc TTV.Spec.C12

/-- the programs as `Spec.C12.cPerThread` reads them: a thread that is not there has no sections -/
def secsFn (ts : List Thread) (i : Nat) : List Section := (ts[i]?.map Thread.secs).getD []

theorem inv_init (ts : List Thread) :
    Inv ts.length (secsFn ts) (init ts) [] [] [] (fun i => (secsFn ts i).map Seg.sec) := by
  refine Inv.fresh (by simp) (fun i hi => ?_) (fun i _ => (segSecs_map_sec _).symm)
  simp [secsFn, hi, progSteps_eq_segSteps]

theorem inv_run (ts : List Thread) (sched : List Nat) : HasInv ts.length (secsFn ts) (run (init ts) sched) :=
  run_preserves sched ⟨_, _, _, _, inv_init ts⟩

theorem final_flat (i : Input) : ∃ closed, Flat i.threads.length (secsFn i.threads) (final i) closed := by
  obtain ⟨⟨closed, _, _, _, h⟩, hfin⟩ := run_drain_finishes i.sched ⟨_, _, _, _, inv_init i.threads⟩ (Nat.le_refl _)
  exact ⟨closed, h.finished hfin⟩

/-- **C12 (fault shapes)** — every critical section of every forwarder program, under every fault plan, is a
well-shaped block (`Spec.C12.shapeOk`): one control call, or `time · startTest t · time · [tags] · [tags] ·
outcome t · stopTest t` cut only as `C12_shape_cut` says. -/
theorem C12_block_shape (t : Thread) : ∀ s ∈ t.secs, shapeOk s = true :=
  sections_shape t.faults t.failfast t.ops {}

theorem secsFn_shape (ts : List Thread) (j : Nat) : ∀ s ∈ secsFn ts j, shapeOk s = true := by
  unfold secsFn
  cases ts[j]? with
  | none => nofun
  | some t => exact C12_block_shape t

theorem secsFn_testsOnce (ts : List Thread) (j : Nat) :
    zipAll blockFor (outcomeOps ((ts[j]?.map Thread.ops).getD [])) ((secsFn ts j).filter isTestSec) = true := by
  unfold secsFn
  cases ts[j]? with
  | none => rfl
  | some t => exact sections_testsOnce t.faults t.failfast t.ops {}

/-- What the executable specification accepts, for any trace: no scheduler here. -/
theorem holds_of_flat {i : Input} {t : Trace} {closed : List (Nat × Section)} (hlog : t.log = flatLog closed)
    (hown : ∀ p ∈ closed, p.1 < i.threads.length)
    (hacc : ∀ j, j < i.threads.length → secsFn i.threads j = ownedBy j closed)
    (hfin : t.finished = true) (hsems : t.sems = readings t.log) (hsem : t.sem = 1) : holds i t = true := by
  have hp : parse t.log = some closed := hlog ▸ parse_flat closed
  simp only [holds, clauses, List.all_cons, List.all_nil, Bool.and_true, Bool.and_eq_true]
  refine ⟨?_, ?_, ?_, ?_, ?_, ?_, hfin⟩
  · simp [cMutex, hp]
  · simp only [cShape, hp, List.all_eq_true]
    intro p hpm
    exact secsFn_shape _ p.1 _ (hacc p.1 (hown p hpm) ▸ mem_ownedBy hpm)
  · simp only [cPerThread, hp, Bool.and_eq_true, List.all_eq_true, decide_eq_true_eq, List.mem_range, beq_iff_eq]
    exact ⟨hown, fun j hj => (hacc j hj).symm⟩
  · simp only [cTestsOnce, hp, List.all_eq_true, List.mem_range]
    intro j hj
    rw [secsOf_eq_ownedBy, ← hacc j hj]
    exact secsFn_testsOnce _ j
  · rw [cExclusive, hlog, exclusive_flat]
  · simp [cSemCounter, hsems, hsem]

theorem holds_model (i : Input) : holds i (model i) = true := by
  obtain ⟨closed, h⟩ := final_flat i
  exact holds_of_flat h.log h.owners h.acct h.fin h.semLog h.semv

/-- **C12 (blocks, never interleaved)** — after *any* schedule the log of the shared semaphore and target
is a sequence of complete sections `acquire_i · calls · release_i`, each being one critical section of
thread `i`'s own program, followed by at most one open section: that of the current holder, which is
a prefix of one of the holder's sections. -/
theorem C12_blocks (ts : List Thread) (sched : List Nat) :
    ∃ closed cur, (run (init ts) sched).log = flatLog closed ++ openLog (run (init ts) sched).sem cur
      ∧ (∀ p ∈ closed, p.1 < ts.length ∧ p.2 ∈ secsFn ts p.1)
      ∧ (∀ h, (run (init ts) sched).sem = some h → ∃ todo, cur ++ todo ∈ secsFn ts h) := by
  obtain ⟨closed, cur, todo, rem, h⟩ := inv_run ts sched
  refine ⟨closed, cur, h.log_eq, ?_, ?_⟩
  · exact fun p hp => h.closed_mem hp
  · intro k hk
    obtain ⟨hlt, _⟩ := h.ins k hk
    refine ⟨todo, ?_⟩
    rw [h.acct k hlt]
    simp [hk]

/-- **C12 (what a raise leaves behind)** — in a well-shaped block a call that raised is the last call of the
block, except for a raising outcome, which is followed by exactly its `stopTest` (the inner `finally`). -/
theorem C12_shape_cut (s pre post : Section) (c : Call) (h : shapeOk s = true) (hs : s = pre ++ (c, true) :: post) :
    post = [] ∨ ∃ k id r, c = .outcome k id ∧ post = [(.stopTest id, r)] :=
  cutOk_of_shapeOk s h pre c post hs

/-- **C12 (every operation once, in the thread's order)** — after *any* schedule the complete sections of
thread `i` in the log are a prefix of `i`'s own section list (what `i` sends when it runs alone), and
all of it once `i` has no steps left. -/
theorem C12_once_in_order (ts : List Thread) (sched : List Nat) :
    ∃ closed cur, (run (init ts) sched).log = flatLog closed ++ openLog (run (init ts) sched).sem cur
      ∧ ∀ i, i < ts.length →
          (∃ rest, secsFn ts i = ownedBy i closed ++ rest)
          ∧ ((run (init ts) sched).pcs[i]? = some [] → secsFn ts i = ownedBy i closed) := by
  obtain ⟨closed, cur, todo, rem, h⟩ := inv_run ts sched
  refine ⟨closed, cur, h.log_eq, ?_⟩
  intro i hi
  refine ⟨⟨_, by rw [h.acct i hi, List.append_assoc]⟩, ?_⟩
  exact fun hpc => (h.done hpc).2

/-- **C12 (projection)** — in the final log of any run, what thread `j` did on the shared objects is exactly
what it does when it runs alone: every operation exactly once, in program order, each test with its own
start time, end time and tags. -/
theorem C12_projection (i : Input) (j : Nat) (hj : j < i.threads.length) :
    (model i).log.filter (fun e => e.1 == j) = flatLog ((secsFn i.threads j).map fun s => (j, s)) := by
  obtain ⟨closed, h⟩ := final_flat i
  simp only [model, h.log, filter_flatLog, h.acct j hj]

/-- what one forwarder does alone is the log of its sections (so `C12_projection` compares with a real run) -/
theorem C12_alone (t : Thread) (sched : List Nat) :
    (model { threads := [t], sched := sched }).log = flatLog (t.secs.map fun s => (0, s)) := by
  have h := C12_projection { threads := [t], sched := sched } 0 (by simp)
  obtain ⟨closed, hf⟩ := final_flat { threads := [t], sched := sched }
  have hall : (model { threads := [t], sched := sched }).log.filter (fun e => e.1 == 0)
      = (model { threads := [t], sched := sched }).log := by
    rw [List.filter_eq_self]
    intro e he
    simp only [model, hf.log, flatLog, List.mem_flatten, List.mem_map] at he
    obtain ⟨_, ⟨p, hp, rfl⟩, he⟩ := he
    have := hf.owners p hp
    simp at this
    simp [fst_of_mem_secEvents he, this]
  rw [hall] at h
  simpa [secsFn] using h

theorem sections_time_tags (f : List Nat) (ff : Bool) (l : Loc) {o : Op} (os : List Op)
    (ho : (∃ t, o = .time t) ∨ ∃ a b, o = .tags a b) :
    (sections f ff l (o :: os)).1 = (sections f ff (stepOp f l o).loc os).1 ∧ (stepOp f l o).loc.start = l.start := by
  rcases ho with ⟨t, rfl⟩ | ⟨a, b, rfl⟩
  · simp [sections, runOp, Op.unsuccessful, secList, stepOp]
  · refine ⟨by simp [sections, runOp, Op.unsuccessful, secList, stepOp], ?_⟩
    simp only [stepOp]
    split <;> rfl

/-- **C12 (own start time)** — the first call of an outcome's block is `time(start)` for the start time the forwarder holds,
whatever `time()`/`tags()` operations come before the outcome: they leave it alone.  (`startTest` is what sets it, to the time then
current: `C12_wellformed_block`.) -/
theorem C12_own_start_time (f : List Nat) (ff : Bool) (id : TId) (k : Kind) : ∀ (mid : List Op) (l : Loc) (start : Time),
    (∀ o ∈ mid, (∃ t, o = .time t) ∨ ∃ a b, o = .tags a b) → l.start = start →
    ∃ r rest tl, (sections f ff l (mid ++ [.outcome k id])).1 = ((Call.time start, r) :: rest) :: tl
  | [], l, start, _, hs => by
      obtain ⟨r, rest, h1⟩ := stepOp_outcome_head f l k id
      exact ⟨r, rest, _, by rw [List.nil_append, sections, runOp_secs, h1, hs]; rfl⟩
  | o :: mid, l, start, hm, hs => by
      obtain ⟨h1, h2⟩ := sections_time_tags f ff l (mid ++ [.outcome k id]) (hm o List.mem_cons_self)
      rw [List.cons_append, h1]
      exact C12_own_start_time f ff id k mid _ start (fun o' ho' => hm o' (List.mem_cons_of_mem _ ho')) (h2.trans hs)

/-- **C12 (a well-formed test, no faults)** — `startTest t · time b · outcome k t` in any forwarder state
produces exactly the block `time(start) · startTest t · time(b) · [run-level tags] · [test tags] · outcome k t ·
stopTest t`, where `start` is the time current at `startTest`; nothing raises. -/
theorem C12_wellformed_block (l : Loc) (id : TId) (k : Kind) (b : Nat) :
    sections [] false l [.startTest id, .time (some b), .outcome k id]
      = ([ [(.time l.nowT, false), (.startTest id, false), (.time (.at b), false)]
            ++ (if anyTags l.gtags then [(Call.tags l.gtags.1 l.gtags.2, false)] else [])
            ++ (if anyTags l.ttags then [(Call.tags l.ttags.1 l.ttags.2, false)] else [])
            ++ [(.outcome k id, false), (.stopTest id, false)] ], [false, false, false]) := by
  simp only [sections, runOp, Bool.false_and, Bool.false_eq_true, if_false, stepOp_outcome_no_faults]
  rfl

/-- **C12 (failfast on the forwarder)** — with `failfast` set on a forwarder an unsuccessful outcome that did not raise is
followed by one more critical section, `stop()` on the target (and only then); nothing else changes. -/
theorem C12_failfast_stop (f : List Nat) (l : Loc) (k : Kind) (id : TId)
    (hk : (Op.outcome k id).unsuccessful = true) (hr : (stepOp f l (.outcome k id)).raised = false) :
    (runOp f true l (.outcome k id)).1
      = secList (stepOp f l (.outcome k id)).sec ++ [[(.ctl .stop, f.contains (stepOp f l (.outcome k id)).loc.n)]]
    ∧ ∀ o, (o.unsuccessful = false ∨ (stepOp f l o).raised = true) → (runOp f true l o).1 = secList (stepOp f l o).sec := by
  constructor
  · rw [runOp_secs, hk, hr]; rfl
  · intro o ho
    rw [runOp_secs]
    rcases ho with ho | ho <;> simp [ho]

/-- **C12 (a test's tags are not used up by its first outcome)** — forwarding an outcome leaves the buffered tags (test-local
and run-level) and the "inside a test" flag as they were, whether or not a call of the block raised: every further outcome of
the same test replays the same tags (`C12_second_outcome_same_tags`); only `stopTest()` forgets the test-local ones. -/
theorem C12_tags_survive_outcome (f : List Nat) (l : Loc) (k : Kind) (id : TId) :
    (stepOp f l (.outcome k id)).loc.ttags = l.ttags ∧ (stepOp f l (.outcome k id)).loc.gtags = l.gtags
      ∧ (stepOp f l (.outcome k id)).loc.inTest = l.inTest ∧ (stepOp f l (.stopTest id)).loc.ttags = ([], []) := by
  obtain ⟨n, start, h⟩ : ∃ n start, (stepOp f l (.outcome k id)).loc = { l with n := n, start := start } := by
    simp only [stepOp]
    split <;> exact ⟨_, _, rfl⟩
  rw [h]
  exact ⟨rfl, rfl, rfl, rfl⟩

/-- **C12 (two outcomes inside one startTest / stopTest bracket)** — two outcomes of one test, of any kinds, with nothing between
them: what stdlib unittest emits for a failing body plus a failing tearDown, `startTest t · addFailure t · addError t · stopTest t`,
is one case.  Each outcome gets its own whole block, and BOTH blocks carry the run-level tags and the test's own tags (the second
block has no start time of its own: `time(None)`). -/
theorem C12_second_outcome_same_tags (l : Loc) (id : TId) (k k' : Kind) :
    (sections [] false l [.outcome k id, .outcome k' id]).1
      = [ [(.time l.start, false), (.startTest id, false), (.time l.nowT, false)]
            ++ (if anyTags l.gtags then [(Call.tags l.gtags.1 l.gtags.2, false)] else [])
            ++ (if anyTags l.ttags then [(Call.tags l.ttags.1 l.ttags.2, false)] else [])
            ++ [(.outcome k id, false), (.stopTest id, false)],
          [(.time .unset, false), (.startTest id, false), (.time l.nowT, false)]
            ++ (if anyTags l.gtags then [(Call.tags l.gtags.1 l.gtags.2, false)] else [])
            ++ (if anyTags l.ttags then [(Call.tags l.ttags.1 l.ttags.2, false)] else [])
            ++ [(.outcome k' id, false), (.stopTest id, false)] ] := by
  simp only [sections, runOp, Bool.false_and, Bool.false_eq_true, if_false, stepOp_outcome_no_faults]
  rfl

/-- **C12 (release)** — after *any* schedule a thread that stands at an operation boundary (its remaining steps
are whole sections) does not hold the semaphore — whether or not the operation before raised. -/
theorem C12_release (ts : List Thread) (sched : List Nat) (i : Nat) (p : List Section)
    (hpc : (run (init ts) sched).pcs[i]? = some (progSteps p)) : (run (init ts) sched).sem ≠ some i := by
  obtain ⟨closed, cur, todo, rem, h⟩ := inv_run ts sched
  intro hs
  obtain ⟨_, _, a, rest, hpc', ha⟩ := h.holder hs
  rw [hpc] at hpc'
  cases p with
  | nil => cases hpc'
  | cons b p => exact ha (List.cons.inj (Option.some.inj hpc')).1.symm

/-- the outer `finally: self.semaphore.release()` of `_add_result_with_semaphore` and of the control methods, in the model -/
theorem C12_release_always (s : Section) : ∃ pre, secSteps s = pre ++ [Step.rel] :=
  ⟨Step.acq :: callSteps s, rfl⟩

/-- **C12 (no deadlock)** — after *any* schedule, if some thread is unfinished then some thread is enabled. -/
theorem C12_no_deadlock (ts : List Thread) (sched : List Nat) (h : finished (run (init ts) sched) = false) :
    ∃ i, i < ts.length ∧ enabled (run (init ts) sched) i = true := by
  obtain ⟨closed, cur, todo, rem, hinv⟩ := inv_run ts sched
  exact exists_enabled hinv h

/-- **C12 (progress)** — every step of an enabled thread consumes one of the finitely many micro-steps. -/
theorem C12_progress (s : St) (i : Nat) (h : enabled s i = true) : remaining (stepThread s i) + 1 = remaining s :=
  remaining_step h

def AllEnabled : St → List Nat → Prop
  | _, [] => True
  | s, i :: rest => enabled s i = true ∧ AllEnabled (stepThread s i) rest

/-- **C12 (termination)** — a schedule that picks enabled threads only (`AllEnabled`: all that `fair` in the two names means; nothing
about whose turn it is) uses up one micro-step per pick, so it cannot be longer than the total number of micro-steps … -/
theorem C12_fair_remaining : ∀ (sched : List Nat) (s : St), AllEnabled s sched →
    remaining (run s sched) + sched.length = remaining s
  | [], s, _ => by simp [run]
  | i :: rest, s, h => by
      have h1 := remaining_step h.1
      have h2 := C12_fair_remaining rest (stepThread s i) h.2
      simp only [run, List.foldl_cons, List.length_cons] at h2 ⊢
      omega

/-- … and when it is that long every thread has finished -/
theorem C12_fair_finished (sched : List Nat) (s : St) (h : AllEnabled s sched) (hl : sched.length = remaining s) :
    finished (run s sched) = true :=
  finished_of_remaining_zero (by have := C12_fair_remaining sched s h; omega)

/-- **C12 (the run always completes)** — for every input the model's run (the given schedule, then the lowest
enabled thread) ends with every thread finished and the semaphore free. -/
theorem C12_terminates (i : Input) : (model i).finished = true ∧ (final i).sem = none := by
  obtain ⟨_, h⟩ := final_flat i
  exact ⟨h.fin, h.sem⟩

/-- **C12 (the semaphore's counter)** — under EVERY schedule, fault plan and program mix the counter of the shared semaphore is 1
when no thread is inside a critical section and 0 while one is: never 2.  Every reading taken after an operation on the semaphore
is 0 after an acquire and 1 after a release; when the run is over the counter is 1 - released exactly as often as acquired
(`C12_counter_final`). -/
theorem C12_counter (ts : List Thread) (sched : List Nat) :
    let s := run (init ts) sched
    s.semv = (if s.sem.isNone then 1 else 0) ∧ s.semv ≤ 1 ∧ s.semLog = readings s.log ∧ ∀ v ∈ s.semLog, v ≤ 1 := by
  obtain ⟨c, cu, t, r, h⟩ := inv_run ts sched
  refine ⟨h.cnt.1, ?_, h.cnt.2, ?_⟩
  · rw [h.cnt.1]; split <;> omega
  · intro v hv
    rw [h.cnt.2] at hv
    simp only [readings, List.mem_filterMap] at hv
    obtain ⟨e, _, he⟩ := hv
    cases hk : e.2 <;> simp [hk, EvK.reading?] at he <;> omega

theorem C12_counter_final (i : Input) : (model i).sem = 1 ∧ (model i).sems = readings (model i).log := by
  obtain ⟨_, h⟩ := final_flat i
  exact ⟨h.semv, h.semLog⟩

/-- **C12 (control calls land between blocks)** — after *any* schedule: every call the target has received - `stop()` and the
other control calls like the calls of a test's block - was made while the calling thread, and no other, was inside a critical
section.  A control call is never delivered in the middle of another thread's block. -/
theorem C12_control_between_blocks (ts : List Thread) (sched : List Nat) :
    exclusiveFrom [] (run (init ts) sched).log = true := by
  obtain ⟨c, cu, t, r, h⟩ := inv_run ts sched
  rw [h.log_eq, exclusive_flat_append]
  cases hs : (run (init ts) sched).sem with
  | none => rfl
  | some k => simpa [openLog, exclusiveFrom] using exclusive_calls k cu []

/-! ### what a non-blocking acquire in `stop()` would do (the model can say it; no method of the class does it)

`stop()` written as `acquire(blocking=False) · try: target.stop() · finally: release()` - the trial change `seeded/C12-g` - is the
micro-step program `seededStop`.
Thread 0 is pre-empted inside its block, thread 1 runs that `stop()` and then a whole test, thread 0 resumes: `stop` is
delivered in the middle of thread 0's block, thread 1's block too, and the counter ends at 2. -/

def seededStop : List Step := [.tryAcq, .call (.ctl .stop) false, .rel]

def blockOf (id : TId) : Section :=
  [(.time .unset, false), (.startTest id, false), (.time .wall, false), (.outcome .success id, false), (.stopTest id, false)]

def seededState : St := { pcs := [secSteps (blockOf (.t 0)), seededStop ++ secSteps (blockOf (.t 1))] }

def seededRun : St := run seededState ([0, 0, 0] ++ List.replicate 10 1 ++ List.replicate 5 0)

theorem C12_nonblocking_stop_breaks :
    seededRun.semv = 2 ∧ finished seededRun = true
      ∧ Spec.C12.exclusiveFrom [] seededRun.log = false
      ∧ (seededRun.semLog == readings seededRun.log) = false
      ∧ (Spec.C12.parse seededRun.log).isSome = false := by
  decide

/-! ## tie to the source: the control skeletons of `ThreadsafeForwardingResult`
See `TTV/Model/TfrSkel.lean` for the skeleton type, its interpreter and what is trusted. -/

/-- **C12 (source, the block)** — interpreting the skeleton of `_add_result_with_semaphore` *as found in the source*, for any
fault plan, forwarder state, outcome kind and test: the micro-steps it performs are `acquire`, exactly the calls of
the model's critical section (with the same calls raising), `release`; an exception leaves the method iff the model
says the operation raised; the forwarder-local state afterwards is the model's; no unrecognised statement. -/
theorem C12_src_block (f : List Nat) (l : Loc) (k : Kind) (id : TId) :
    TfrSkel.interp f { kind := k, id := id } Generated.TfrSkel.addResult { loc := l } =
      { loc := (stepOp f l (.outcome k id)).loc, steps := secSteps ((stepOp f l (.outcome k id)).sec.getD []),
        raised := (stepOp f l (.outcome k id)).raised, bad := false } := by
  have e : Generated.TfrSkel.addResult = TfrSkel.refAddResult := by decide
  rw [e]; exact TfrSkel.interp_refAddResult f l k id

def srcCtl : Ctl → TfrSkel.Skel
  | .startTestRun => Generated.TfrSkel.startTestRun
  | .stopTestRun => Generated.TfrSkel.stopTestRun
  | .stop => Generated.TfrSkel.stop
  | .done => Generated.TfrSkel.done
  | .shouldStop => Generated.TfrSkel.getShouldStop

/-- **C12 (source, control calls)** — `startTestRun` / `stopTestRun` / `stop` / `done` / reading `shouldStop` as found in the
source: `acquire · the call · release` whatever the call does (and for `startTestRun` the buffers and the clock are
reset first), as the model's `stepOp` has it. -/
theorem C12_src_ctl (f : List Nat) (l : Loc) (a : TfrSkel.Args) (c : Ctl) :
    TfrSkel.interp f a (srcCtl c) { loc := l } =
      { loc := (stepOp f l (.ctl c)).loc, steps := secSteps ((stepOp f l (.ctl c)).sec.getD []),
        raised := (stepOp f l (.ctl c)).raised, bad := false } := by
  have e : srcCtl c = if c = .startTestRun then TfrSkel.refStartTestRun else TfrSkel.refCtl c := by cases c <;> decide
  rw [e]; exact TfrSkel.interp_ctl f l a c

/-- **C12 (source, forwarder-local operations)** — `startTest`, `stopTest`, `tags`, `time` as found in the source touch no
shared object, cannot raise (the right-hand sides `{ loc := … }` have `steps := []`, `raised := false`, `bad := false`, the
defaults of `ISt`; the model agrees: `TfrSkel.stepOp_local`), and leave the local state the model's `stepOp` computes (start time
taken at `startTest`, tags merged into the test's or the run's buffer according to `_in_test`, test tags dropped at `stopTest`). -/
theorem C12_src_local (f : List Nat) (l : Loc) :
    (∀ id, TfrSkel.interp f { id := id } Generated.TfrSkel.startTest { loc := l } = { loc := (stepOp f l (.startTest id)).loc })
    ∧ (∀ id, TfrSkel.interp f { id := id } Generated.TfrSkel.stopTest { loc := l } = { loc := (stepOp f l (.stopTest id)).loc })
    ∧ (∀ new gone, TfrSkel.interp f { new := new, gone := gone } Generated.TfrSkel.tags { loc := l }
          = { loc := (stepOp f l (.tags new gone)).loc })
    ∧ (∀ t, TfrSkel.interp f { time := t } Generated.TfrSkel.time { loc := l } = { loc := (stepOp f l (.time t)).loc }) := by
  have e1 : Generated.TfrSkel.startTest = TfrSkel.refStartTest := by decide
  have e2 : Generated.TfrSkel.stopTest = TfrSkel.refStopTest := by decide
  have e3 : Generated.TfrSkel.tags = TfrSkel.refTags := by decide
  have e4 : Generated.TfrSkel.time = TfrSkel.refTime := by decide
  rw [e1, e2, e3, e4]
  refine ⟨fun _ => rfl, fun _ => rfl, fun _ _ => ?_, fun _ => rfl⟩
  obtain ⟨_, _, inTest, _, _, _⟩ := l
  cases inTest <;> rfl

/-- **C12 (source, which outcome goes where)** — each `add*` method hands its own method of the target to
`_add_result_with_semaphore` (so the outcome call of the block is the outcome that was reported), the unsuccessful ones then
consult `failfast` on the forwarder (`Conc.runOp`); `_any_tags`, `TestResult._now`, the clock reset of `TestResult.startTestRun`, the
`shouldStop` property and `_stop_if_failfast` are the code the model's `anyTags` / `Loc.nowT` / `stepOp` transcribe. -/
theorem C12_src_forward :
    Generated.TfrSkel.forward = TfrSkel.refForward
    ∧ Generated.TfrSkel.anyTagsIsEitherNonEmpty = true ∧ Generated.TfrSkel.nowIsLastTimeOrWallClock = true
    ∧ Generated.TfrSkel.startTestRunClearsClock = true ∧ Generated.TfrSkel.shouldStopIsTheGuardedGetter = true
    ∧ Generated.TfrSkel.stopIfFailfastIsGuardedStop = true := by decide

/-- the `add*` methods after which the source calls `_stop_if_failfast()` - the flags of its table, which is `refForward` by
`C12_src_forward` - are the outcomes the model calls unsuccessful -/
theorem C12_src_failfast_kinds :
    ∀ k : Kind, (TfrSkel.refForward.find? (·.1 == k)).map (·.2.2) = some (Op.outcome k (.t 0)).unsuccessful := by
  intro k; cases k <;> rfl

/-- the micro-steps the source performs for one operation of a forwarder (`ff`: failfast set on it): the interpreted
skeleton of the method, and after an unsuccessful outcome that did not raise - `_stop_if_failfast()` - that of `stop` -/
def srcOpSteps (f : List Nat) (ff : Bool) (l : Loc) (o : Op) : List Step :=
  match o with
  | .outcome k id =>
    let b := TfrSkel.interp f { kind := k, id := id } Generated.TfrSkel.addResult { loc := l }
    b.steps ++ (if ff && o.unsuccessful && !b.raised then (TfrSkel.interp f {} (srcCtl .stop) { loc := b.loc }).steps else [])
  | .ctl c => (TfrSkel.interp f {} (srcCtl c) { loc := l }).steps
  | _ => []

theorem progSteps_runOp (f : List Nat) (ff : Bool) (l : Loc) (o : Op) : progSteps (runOp f ff l o).1 = srcOpSteps f ff l o := by
  have single : ∀ s : Section, progSteps [s] = secSteps s := fun s => List.append_nil _
  rw [runOp_secs, progSteps_append]
  cases o with
  | outcome k id =>
    have hs := stepOp_outcome_sec f l k id
    simp only [srcOpSteps, C12_src_block, C12_src_ctl, hs, Option.getD_some, secList, single]
    congr 1
    split <;> rfl
  | ctl c => simp [srcOpSteps, C12_src_ctl, Op.unsuccessful, stepOp, secList, progSteps]
  | _ => simp [srcOpSteps, Op.unsuccessful, stepOp, secList, progSteps]

def locsOf (f : List Nat) (ff : Bool) : Loc → List Op → List Loc
  | _, [] => []
  | l, o :: os => l :: locsOf f ff (runOp f ff l o).2.2 os

/-- every micro-step list the model runs is made of interpreted source blocks: the steps of a thread are the
concatenation, over its operations, of the steps the source skeleton of that operation performs -/
theorem C12_src_thread_steps (f : List Nat) (ff : Bool) : ∀ (ops : List Op) (l : Loc),
    progSteps (sections f ff l ops).1 = (ops.zip (locsOf f ff l ops)).flatMap fun p => srcOpSteps f ff p.2 p.1
  | [], _ => rfl
  | o :: os, l => by
      rw [sections, locsOf, List.zip_cons_cons, List.flatMap_cons, progSteps_append, progSteps_runOp,
        C12_src_thread_steps f ff os]

def exT0 : Thread := { ops := [.time (some 3), .startTest (.t 0), .time (some 4), .outcome .success (.t 0), .stopTest (.t 0)], faults := [] }
def exT1 : Thread := { ops := [.tags [7] [], .startTest (.t 0), .outcome .error (.t 0), .stopTest (.t 0), .ctl .stop], faults := [4] }

/-- two threads, an interleaving schedule with blocked picks and a raising outcome: thread 1 gets the
semaphore first, thread 0 has to wait although it is picked, the raising `addError` is followed by
`stopTest` and the release -/
example : (model { threads := [exT0, exT1], sched := [1, 0, 1, 0, 0, 1, 1, 1, 0, 1, 1, 0] }).log =
    [(1, .acq), (1, .call (.time .wall) false), (1, .call (.startTest (.t 0)) false), (1, .call (.time .wall) false),
     (1, .call (.tags [7] []) false), (1, .call (.outcome .error (.t 0)) true), (1, .call (.stopTest (.t 0)) false), (1, .rel),
     (0, .acq), (0, .call (.time (.at 3)) false), (0, .call (.startTest (.t 0)) false), (0, .call (.time (.at 4)) false),
     (0, .call (.outcome .success (.t 0)) false), (0, .call (.stopTest (.t 0)) false), (0, .rel),
     (1, .acq), (1, .call (.ctl .stop) false), (1, .rel)] := by decide

example : (model { threads := [exT0, exT1], sched := [1, 0, 1, 0, 0, 1, 1, 1, 0, 1, 1, 0] }).exc =
    [[false, false, false, false, false], [false, false, true, false, false]] := by decide

/-- the hypothesis of `C12_no_deadlock` is satisfiable: a reachable unfinished state in which
thread 0 is blocked and thread 1 holds the semaphore -/
example : finished (run (init [exT0, exT1]) [1, 0]) = false ∧ (run (init [exT0, exT1]) [1, 0]).sem = some 1
    ∧ enabled (run (init [exT0, exT1]) [1, 0]) 0 = false ∧ enabled (run (init [exT0, exT1]) [1, 0]) 1 = true := by decide

/-- a log with an interleaved call is rejected by the spec (the clauses are not trivially true) -/
example : cMutex { threads := [], sched := [] }
    { log := [(0, .acq), (1, .call (.ctl .stop) false), (0, .rel)], exc := [], finished := true } = false := by decide

/-- a block without `stopTest` after a raising outcome is rejected -/
example : shapeOk [(.time .wall, false), (.startTest (.t 0), false), (.time .wall, false), (.outcome .error (.t 0), true)] = false := by decide

end TTV.Props.C12
