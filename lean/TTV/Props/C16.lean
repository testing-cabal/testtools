import TTV.Model.Content
import TTV.Spec.C16
import TTV.Lemmas.ContentDecode
import TTV.Lemmas.ContentUtf8
import TTV.Lemmas.ContentStream
import TTV.Lemmas.ContentCT
import TTV.Lemmas.ContentCopy
import TTV.Lemmas.ContentSkel
import TTV.Generated.ContentSrc
/-! # C16 — Content is lossless and independent of chunking

Everything is for all texts, byte strings, chunkings, chunk sizes ≥ 1, seek offsets, origins, histories.  Only the two clauses about
content types (round trip, history independence) are proved outside the known-finding classes (`inFinding`); every other clause
holds on the whole domain. -/
namespace TTV.Props.C16
open TTV.Content TTV.Spec.C16
open TTV.Lemmas.ContentDecode TTV.Lemmas.ContentUtf8 TTV.Lemmas.ContentStream TTV.Lemmas.ContentCT TTV.Lemmas.ContentCopy

/-- C16 (bytes): `iter_bytes()` of a Content yields exactly what its source yields. -/
theorem C16_bytes (ctA ctB : Nat) (a b : List Bytes) :
    ∃ e, model (.eq ctA ctB a b) = .eq a b e := ⟨_, rfl⟩

/-- C16 (equality): two Contents are equal iff their types are equal and their bytes, joined, are equal —
however each of them is chunked. -/
theorem C16_eq_iff (ctA ctB : Nat) (a b : List Bytes) :
    model (.eq ctA ctB a b) = .eq a b true ↔ (ctA = ctB ∧ a.flatten = b.flatten) := by
  simp [model]

/-- C16 (chunk independence): for ANY lawful incremental decoder — feeding `a` then `b` is feeding `a ++ b` —
the pieces of `iter_text()` over any chunking (empty chunks, cuts inside multi-byte sequences), joined (`asText`), are the decoding
of the joined bytes in one go; a decode error of one is a decode error of the other. -/
theorem C16_chunk_independent {σ : Type} (D : Decoder σ) (h : Lawful D) (chunks : List Bytes) :
    asText D chunks = decodeAll D chunks.flatten := asText_eq_decodeAll h chunks

theorem C16_chunk_independent_two {σ : Type} (D : Decoder σ) (h : Lawful D) (c₁ c₂ : List Bytes)
    (hb : c₁.flatten = c₂.flatten) : asText D c₁ = asText D c₂ := by
  rw [C16_chunk_independent D h, C16_chunk_independent D h, hb]

theorem C16_step_decoder_lawful {σ : Type} (init : σ) (step : σ → Nat → Option (σ × Text)) (flush : σ → Option Text) :
    Lawful { init := init, feed := feedBytes step, flush := flush } := lawful_of_step init step flush

theorem C16_latin1_lawful : Lawful latin1 := latin1_lawful
theorem C16_ascii_lawful : Lawful ascii := ascii_lawful
theorem C16_utf8_lawful : Lawful utf8 := utf8_lawful

/-- the UTF-8 machine never holds more than three pending bytes -/
theorem C16_utf8_pending_le_three (s s' : U8) (b : Nat) (o : Text) (hs : s.need ≤ 3)
    (h : u8step s b = some (s', o)) : s'.need ≤ 3 := by
  unfold u8step at h
  by_cases hn : s.need = 0
  · rw [if_pos hn] at h
    by_cases h1 : b < 0x80
    · rw [if_pos h1] at h; cases h; exact Nat.zero_le _
    rw [if_neg h1] at h
    by_cases h2 : (0xC2 ≤ b && b ≤ 0xDF) = true
    · rw [if_pos h2] at h; cases h; exact (by decide : 1 ≤ 3)
    rw [if_neg h2] at h
    by_cases h3 : (0xE0 ≤ b && b ≤ 0xEF) = true
    · rw [if_pos h3] at h; cases h; exact (by decide : 2 ≤ 3)
    rw [if_neg h3] at h
    by_cases h4 : (0xF0 ≤ b && b ≤ 0xF4) = true
    · rw [if_pos h4] at h; cases h; exact Nat.le_refl 3
    · rw [if_neg h4] at h; cases h
  · rw [if_neg hn] at h
    by_cases hr : (s.lo ≤ b && b ≤ s.hi) = true
    · rw [if_pos hr] at h
      by_cases h1 : s.need = 1
      · rw [if_pos h1] at h; cases h; exact Nat.zero_le _
      · rw [if_neg h1] at h; cases h; exact Nat.le_trans (Nat.sub_le _ _) hs
    · rw [if_neg hr] at h; cases h

/-- whole-string ISO-8859-1 decoding is the reference: every byte maps to the code point of the same number -/
theorem C16_latin1_is_reference (b : Bytes) : decodeAll latin1 b = latin1Ref b := decodeAll_latin1 b
/-- whole-string ASCII decoding is the reference: bytes above 127 are refused -/
theorem C16_ascii_is_reference (b : Bytes) : decodeAll ascii b = asciiRef b := decodeAll_ascii b
/-- the UTF-8 machine, run over all the bytes and flushed, is exactly RFC 3629: shortest forms only, no surrogates, nothing
above U+10FFFF, truncated input is an error -/
theorem C16_utf8_machine_is_rfc3629 (b : Bytes) : decodeAll utf8 b = utf8Ref b := decodeAll_utf8 b

/-- the reference decoder accepts exactly the encodings of texts over Unicode scalar values -/
theorem C16_utf8_reference_exact (b : Bytes) (s : Text) :
    utf8Ref b = some s ↔ (utf8Encode s = b ∧ s.all validCp = true) := by
  constructor
  · exact utf8Ref_some b s
  · rintro ⟨rfl, hv⟩; exact utf8Ref_utf8Encode s hv

/-- so the pieces of `iter_text()` of a `text/*; charset=utf8` content, chunked in any way, join to the RFC 3629 decoding of its bytes -/
theorem C16_as_text_utf8 (chunks : List Bytes) : asText utf8 chunks = utf8Ref chunks.flatten := asText_utf8 chunks

/-- and without a charset parameter it is the ISO-8859-1 reading of the bytes -/
theorem C16_as_text_default (chunks : List Bytes) (whole : Option Text) :
    decodeModel true .absent chunks whole = decodeModel true .latin1 chunks whole
    ∧ asText latin1 chunks = latin1Ref chunks.flatten :=
  ⟨rfl, asText_latin1 chunks⟩

/-- the one-shot decoder the model uses for a charset (`oracle` answers for codecs that are not modelled) -/
def modelWhole (cs : Charset) (oracle : Option Text) (b : Bytes) : Option Text :=
  match cs with
  | .absent | .latin1 => decodeAll latin1 b
  | .utf8 => decodeAll utf8 b
  | .ascii => decodeAll ascii b
  | .opaque => oracle

theorem modelWhole_eq_wholeRef (cs : Charset) (oracle : Option Text) (b : Bytes) : modelWhole cs oracle b = wholeRef cs b oracle := by
  cases cs <;> simp only [modelWhole, wholeRef, decodeAll_latin1, decodeAll_utf8, decodeAll_ascii]

/-- `decodeModel` written with the specification's `wholeRef` for the one-shot result, and with pieces (what `iterText` gave;
for an opaque codec the oracle value as one piece) that join to it: the incremental decoders are lawful -/
theorem decodeModel_wholeRef (isText : Bool) (cs : Charset) (chunks : List Bytes) (oracle : Option Text) :
    ∃ pieces : Option (List Text), pieces.map List.flatten = wholeRef cs chunks.flatten oracle ∧
      decodeModel isText cs chunks oracle =
        if !isText then .decode none (some .valueError) none (some .valueError) (wholeRef cs chunks.flatten oracle)
        else .decode (wholeRef cs chunks.flatten oracle)
            (if (wholeRef cs chunks.flatten oracle).isNone then some .unicodeDecodeError else none)
            pieces (if pieces.isNone then some .unicodeDecodeError else none) (wholeRef cs chunks.flatten oracle) := by
  cases cs with
  | absent | latin1 => exact ⟨_, asText_latin1 chunks, by rw [← modelWhole_eq_wholeRef]; rfl⟩
  | utf8 => exact ⟨_, asText_utf8 chunks, by rw [← modelWhole_eq_wholeRef]; rfl⟩
  | ascii => exact ⟨_, asText_ascii chunks, by rw [← modelWhole_eq_wholeRef]; rfl⟩
  | «opaque» => exact ⟨oracle.map fun w => [w], by cases oracle <;> simp [wholeRef], rfl⟩

def astextOf : Trace → Option Text
  | .decode a _ _ _ _ => a
  | _ => none

/-- C16 (as_text, every codec): `as_text()` joins the bytes and decodes them once (`/repo` `788e0fd`), so its result is a function
of the joined bytes alone - for the three modelled codecs their reference decoding, for any other codec whatever its one-shot
decoder answers (the oracle value) - and two chunkings of the same bytes cannot give different texts, WHATEVER the codec.
(For `iter_text()` the same needs the incremental decoder to be lawful: `C16_chunk_independent`.) -/
theorem C16_as_text_whole (isText : Bool) (cs : Charset) (c₁ c₂ : List Bytes) (oracle : Option Text)
    (h : c₁.flatten = c₂.flatten) :
    astextOf (decodeModel isText cs c₁ oracle) = astextOf (decodeModel isText cs c₂ oracle)
    ∧ (isText = true → astextOf (decodeModel isText cs c₁ oracle) = wholeRef cs c₁.flatten oracle) := by
  obtain ⟨_, _, e₁⟩ := decodeModel_wholeRef isText cs c₁ oracle
  obtain ⟨_, _, e₂⟩ := decodeModel_wholeRef isText cs c₂ oracle
  rw [e₁, e₂, h]
  cases isText
  · exact ⟨rfl, fun h => nomatch h⟩
  · exact ⟨rfl, fun _ => rfl⟩

/-- the model's encoder is core Lean's UTF-8 encoder (`String.utf8EncodeChar`) -/
theorem C16_encoder_is_core (c : Char) : encodeCp c.toNat = (String.utf8EncodeChar c).map UInt8.toNat :=
  encodeCp_eq_core c

/-- C16 (text round trip): for every text over Unicode scalar values (astral characters, combining marks and NUL
included) `text_content(s).as_text() = s`. -/
theorem C16_text_roundtrip (s : Text) (hs : s.all validCp = true) :
    model (.text s) = .text [utf8Encode s] true (some s) := by
  simp only [model]
  rw [C16_as_text_utf8]
  simp [utf8Ref_utf8Encode s hs]

/-- … and the same for every other chunking of the encoded bytes -/
theorem C16_text_roundtrip_any_chunking (s : Text) (hs : s.all validCp = true) (chunks : List Bytes)
    (hc : chunks.flatten = utf8Encode s) : asText utf8 chunks = some s := by
  rw [C16_as_text_utf8, hc, utf8Ref_utf8Encode s hs]

/-- strings over `Char` (Lean's type of Unicode scalar values) -/
theorem C16_text_roundtrip_chars (s : List Char) (chunks : List Bytes)
    (hc : chunks.flatten = utf8Encode (s.map Char.toNat)) : asText utf8 chunks = some (s.map Char.toNat) := by
  refine C16_text_roundtrip_any_chunking _ (List.all_eq_true.2 fun _ h => ?_) _ hc
  obtain ⟨c, _, rfl⟩ := List.mem_map.1 h
  exact validCp_toNat c

/-- C16 (chunk loop): for every chunk size ≥ 1 and EVERY short-read plan (a raw stream may return fewer bytes than
asked for before end of file; each read returns at least one byte while data remains) the loop "read until an
empty read" terminates — every non-empty read consumes a byte — and its chunks are non-empty, at most
`chunk_size` long, and concatenate to exactly the remaining bytes (no off-by-one when the length is a multiple,
nothing dropped after a short read). -/
theorem C16_iter_chunks (n : Nat) (hn : 1 ≤ n) (caps : List Nat) (hc : caps.all (1 ≤ ·) = true) (rem : Bytes) :
    (chunks n caps rem).flatten = rem ∧ ∀ c ∈ chunks n caps rem, c ≠ [] ∧ c.length ≤ n :=
  ⟨chunks_flatten n hn caps hc rem, chunks_sizes n caps rem⟩

/-- a short read is not taken for end of file: after a read that returned fewer than `chunk_size` bytes while more
remain, the loop reads again (instance of the above; this is what the seeded regression `seeded/C16-b` broke) -/
example : chunks 4 [3] [1, 2, 3, 4, 5, 6, 7, 8, 9] = [[1, 2, 3], [4, 5, 6, 7], [8, 9]] := by decide

/-- C16 (stream, sizes): in the log of every scenario every chunk handed to the consumer is non-empty and at most
`chunk_size` long. -/
theorem C16_stream_chunk_sizes (i : StreamIn) : ∀ c, Ev.chunk c ∈ streamModel i → c ≠ [] ∧ c.length ≤ i.chunkSize :=
  fun _ h => chunk_mem_streamModel h

/-- C16 (stream, bytes): whenever the requested seek is one the stream accepts, the first consumption — and every
consumption of a file or buffered content — completes without error and its chunks concatenate to the bytes from
the (clamped) seek position to end of file, for both stream kinds, all origins, `buffer_now` or not, and every
short-read plan of the stream. -/
theorem C16_stream_bytes (i : StreamIn) (hn : 1 ≤ i.chunkSize) (hc : i.caps.all (1 ≤ ·) = true) (p : Nat)
    (hp : startPos i = some p) :
    let cons := consumptions (streamModel i)
    let good := fun seg : List Ev => seg.any isDone = true ∧ seg.any isRaised = false
      ∧ (seg.filterMap chunkOf).flatten = (dataOf i).drop p
    (∀ seg ∈ cons.take 1, good seg) ∧ ((i.isFile = true ∨ i.bufferNow = true) → ∀ seg ∈ cons, good seg) := by
  have hfl := chunks_flatten _ hn _ hc
  exact ⟨fun seg h => segOk_iff.1 (List.all_eq_true.1 (consumptions_first hfl hp) seg h),
    fun hfb seg h => segOk_iff.1 (List.all_eq_true.1 (consumptions_fixed hfl hp (hfb.imp_right .inl)) seg h)⟩

/-- C16 (re-evaluation; seed `seeded/C16-f`): a content made from a stream (not a file, not buffered) WITH a seek offset the stream accepts
seeks again every time its bytes are asked for: EVERY consumption completes without error and yields the bytes from the position its
seek leads to, the stream standing where the previous evaluation left it. -/
theorem C16_reeval (i : StreamIn) (hn : 1 ≤ i.chunkSize) (hc : i.caps.all (1 ≤ ·) = true) (off : Int) (wh p : Nat)
    (hf : i.isFile = false) (hb : i.bufferNow = false) (hsk : i.seekTo = some (off, wh)) (hp : startPos i = some p) :
    reevalOk i off wh i.pos0 (consumptions (streamModel i)) = true :=
  consumptions_reeval (chunks_flatten _ hn _ hc) hf hb hsk hp

/-- … and when the offset counts from the start or the end of the data (`seek_whence` 0 or 2) that is the SAME byte string every
time: the bytes from the requested offset to the end of the data, in the first, second, … consumption alike. -/
theorem C16_reeval_abs (i : StreamIn) (hn : 1 ≤ i.chunkSize) (hc : i.caps.all (1 ≤ ·) = true) (off : Int) (wh p : Nat)
    (hf : i.isFile = false) (hb : i.bufferNow = false) (hsk : i.seekTo = some (off, wh)) (hw : wh ≠ 1) (hp : startPos i = some p) :
    ∀ seg ∈ consumptions (streamModel i), seg.any isDone = true ∧ seg.any isRaised = false
      ∧ (seg.filterMap chunkOf).flatten = (dataOf i).drop p := by
  have h := consumptions_fixed (chunks_flatten _ hn _ hc) hp (.inr (.inr (by simpa [absSeek, hsk] using hw)))
  exact fun seg hseg => segOk_iff.1 (List.all_eq_true.1 h seg hseg)

/-- C16 (`c == c`): a content whose every evaluation is asked for the same bytes - a file (opened afresh), a buffered content, a
stream content with a seek offset counted from the start or the end - equals itself every time it is compared, however often it was
consumed before. -/
theorem C16_eq_self (i : StreamIn) (hn : 1 ≤ i.chunkSize) (hc : i.caps.all (1 ≤ ·) = true) (p : Nat) (hp : startPos i = some p)
    (hcfg : i.isFile = true ∨ i.bufferNow = true ∨ absSeek i = true) :
    (streamEqModel i).filterMap eqAnswer = List.replicate i.eqs true :=
  eqSelf_fixed (chunks_flatten _ hn _ hc) hp hcfg

/-- C16 (lazy): without `buffer_now` nothing is read, sought or opened before the content is iterated (the log
starts with `made`); with `buffer_now` every read happens at construction (no stream event after `made`). -/
theorem C16_stream_lazy (i : StreamIn) :
    (i.bufferNow = false → ∃ rest, streamModel i = Ev.made :: rest) ∧
    (i.bufferNow = true → ∀ e ∈ (streamModel i).dropWhile (!isMade ·), isIO e = false) :=
  ⟨fun h => ⟨_, streamModel_lazy h⟩,
    fun h e he => by simpa using List.all_eq_true.1 (streamModel_buf_post h) e he⟩

/-- the known-finding classes of `KNOWN_FINDINGS.txt` -/
def inFinding (ct : CT) : Bool := charsetComma ct || valueCRLF ct || valueEncodedWord ct || nameNotLowerToken ct

theorem inFinding_eq_false_iff {ct : CT} : inFinding ct = false ↔
    charsetComma ct = false ∧ valueCRLF ct = false ∧ valueEncodedWord ct = false ∧ nameNotLowerToken ct = false := by
  simp only [inFinding, Bool.or_eq_false_iff, and_assoc]

/- Full statement (false of the code, findings charset-comma / param-crlf / param-encoded-word):
   ∀ ct, ct.wf → ctypeModel ct = .ctype (render ct) (.ok { ct with params := sortParams ct.params }) -/
/-- C16 (content type round trip), outside the finding classes: for lower-case token type, subtype and
parameter names and ANY values without line breaks (quotes, backslashes, separators, NUL, non-ASCII included)
rendering with `__repr__` and re-parsing gives the same type, subtype and parameter dict. -/
theorem C16_ct_roundtrip_partial (ct : CT) (hw : ct.wfWide = true) (hf : inFinding ct = false) :
    model (.ctype ct) = .ctype (render ct) (.ok { ct with params := sortParams ct.params }) := by
  obtain ⟨hcc, hnl, _, hname⟩ := inFinding_eq_false_iff.1 hf
  exact ctypeModel_roundtrip ct (wf_of_wide hw hname) hnl hcc

/-- `ContentType("text", "plain", {"charset": "a,b"})` -/
def ctComma : CT := ⟨[116, 101, 120, 116], [112, 108, 97, 105, 110], [(charsetName, [97, 44, 98])]⟩
/-- `ContentType("a", "b", {"k": "x\ny"})` -/
def ctNewline : CT := ⟨[97], [98], [([107], [120, 10, 121])]⟩
/-- `ContentType("a", "b", {"k": 'x\y"z; =,/é', "a-b": "", "a": " "})` -/
def ctHard : CT := ⟨[97], [98], [([107], [120, 92, 121, 34, 122, 59, 32, 61, 44, 47, 233]), ([97, 45, 98], []), ([97], [32])]⟩

/-- finding charset-comma: the model reproduces the truncation (`charset="a,b"` comes back as `a`) -/
theorem C16_charsetComma_witness :
    ctComma.wf = true ∧ charsetComma ctComma = true ∧
      parseCT (render ctComma) = .ok ⟨ctComma.type, ctComma.subtype, [(charsetName, [97])]⟩ := by
  refine ⟨by decide, by decide, ?_⟩
  rw [parseCT_render ctComma (by decide) (by decide)]
  simp [sortedPairs, ctComma, fixCharset, charsetName, chComma, lowerName, lower, lowerC]

/-- finding param-crlf: the model reproduces the `ValueError` -/
theorem C16_valueCRLF_witness :
    ctNewline.wf = true ∧ valueCRLF ctNewline = true ∧ parseCT (render ctNewline) = .raised .valueError :=
  ⟨by decide, by decide, parseCT_render_crlf (by decide)⟩

/-- `ContentType("a", "b", {"K": "v"})` -/
def ctUpperName : CT := ⟨[97], [98], [([75], [118])]⟩

/-- finding param-name: an upper-case parameter name is in the property's domain, and comes back lower-cased -/
theorem C16_nameNotLowerToken_witness :
    ctUpperName.wfWide = true ∧ nameNotLowerToken ctUpperName = true ∧
      parseCT (render ctUpperName) = .ok ⟨[97], [98], [([107], [118])]⟩ := by
  refine ⟨by decide, by decide, ?_⟩
  rw [parseCT_render ctUpperName (by decide) (by decide)]
  simp [sortedPairs, ctUpperName, fixCharset, charsetName, lowerName, lower, lowerC]

/-- non-vacuity: a value full of characters that need care is in the domain and outside the classes -/
example : ctHard.wfWide = true ∧ inFinding ctHard = false := by decide

/-- C16 (history independence): content types parsed one after the other in one process — in any letter case, a type again
after a variant of it — each come back as themselves: type, subtype and parameter names lower-cased (they are
case-insensitive), parameter values exactly as given.  (The model has no state; that the code has none either is what the
correspondence check on such sequences establishes.) -/
theorem C16_ct_history_independent (cts : List CT) (hw : cts.all CT.wfU = true)
    (hf : cts.all (fun ct => !inFinding ct.lowered) = true) :
    model (.ctypeSeq cts) = .ctypeSeq (cts.map fun ct => (render ct, .ok { ct.lowered with params := sortParams ct.lowered.params })) := by
  simp only [model]
  congr 1
  apply List.map_congr_left
  intro ct hct
  obtain ⟨hcc, hnl, _, _⟩ := inFinding_eq_false_iff.1 ((Bool.not_eq_true' _).mp (List.all_eq_true.mp hf ct hct))
  exact ctypePair_lowered ct (List.all_eq_true.mp hw ct hct) hnl hcc

/-- C16 (snapshot): for every history of source changes, copies and reads, each copy evaluates the source exactly
once (at copy time) and reading the k-th copy returns what the source held when that copy was made. -/
theorem C16_snapshot (init : List Bytes) (ops : List CopyOp) :
    cSnapshot (.copy init ops) (model (.copy init ops)) = true := model_snapshot init ops

/-- readable instance: copy, then any number of later changes of the source, then read the copy -/
theorem C16_snapshot_after_changes (cur : List Bytes) (later : List (List Bytes)) :
    (copyRun ⟨cur, []⟩ ([CopyOp.copy] ++ later.map CopyOp.set ++ [CopyOp.readCopy 0])).getLast? = some ⟨some cur, 0⟩ := by
  have : ∀ (l : List (List Bytes)) (c : List Bytes), copyRun ⟨c, [cur]⟩ (l.map CopyOp.set ++ [CopyOp.readCopy 0])
      = l.map (fun _ => ⟨none, 0⟩) ++ [⟨some cur, 0⟩] := by
    intro l
    induction l with
    | nil => intro c; rfl
    | cons x xs ih => intro c; exact congrArg (List.cons _) (ih x)
  rw [List.append_assoc]
  show (_ :: copyRun ⟨cur, [cur]⟩ (later.map CopyOp.set ++ [CopyOp.readCopy 0])).getLast? = _
  rw [this, ← List.cons_append, List.getLast?_concat]

/-- by `rfl`, so that a clause added to `Spec.C16.clauses` breaks the proof here and is not passed over -/
theorem clauses_all (i : Input) (t : Trace) : holds i t =
    (cShape i t && (cBytes i t && (cEq i t && (cText i t && (cJson i t && (cAsText i t && (cChunking i t && (cCharset i t &&
    (cChunkSizes i t && (cChunkConcat i t && (cReeval i t && (cEqSelf i t && (cLazy i t && (cCtRoundtrip i t &&
    (cCtHistory i t && (cSnapshot i t && true)))))))))))))))) := rfl

/-! In each scenario the clauses that speak of it are rewritten to `true` by the theorem that proves them; every other clause
is `true` by its definition, which `rfl` computes. -/

/-- which inputs fall in no known-finding class (those for which `TTV.Drv.C16.classes` is empty) -/
def noFinding : Input → Bool
  | .ctype ct => !inFinding ct
  | .ctypeSeq cts => cts.all fun ct => !inFinding ct.lowered
  | _ => true

/- Full statement `∀ i, i.wf → holds i (model i) = true` is false: the model reproduces the defects of the finding
   classes (`C16_charsetComma_witness`, `C16_valueCRLF_witness`). -/
/-- the executable specification is true of the model's trace for every input of the domain outside
the known-finding classes (which hold content types only: for every other scenario `noFinding` is `true`) -/
theorem holds_model_partial (i : Input) (hw : i.wf = true) (hf : noFinding i = true) : holds i (model i) = true := by
  cases i with
  | eq ctA ctB a b => simp only [clauses_all, model, cBytes, cEq, beq_self_eq_true]; rfl
  | text s =>
    rw [clauses_all, C16_text_roundtrip s hw]
    simp only [cText, List.flatten_cons, List.flatten_nil, List.append_nil, utf8Ref_utf8Encode s hw, beq_self_eq_true]; rfl
  | json d =>
    simp only [clauses_all, model, cJson, List.flatten_cons, List.flatten_nil, List.append_nil, utf8Ref_utf8Encode d hw,
      beq_self_eq_true]; rfl
  | decode isText cs chunks whole =>
    obtain ⟨pieces, hp, e⟩ := decodeModel_wholeRef isText cs chunks whole
    rw [clauses_all, model, e]
    cases isText
    · simp only [Bool.not_false, if_true, cAsText, cChunking, cCharset, Option.isNone_none, beq_self_eq_true]; rfl
    · simp only [Bool.not_true, Bool.false_eq_true, if_false, if_true, cAsText, cChunking, cCharset, hp, beq_self_eq_true]; rfl
  | stream i =>
    have hfl := delivers_of_wf hw
    rw [clauses_all, model, model_chunkSizes i, model_chunkConcat hfl, model_reeval hfl, model_eqSelf hfl, model_lazy i]; rfl
  | ctype ct =>
    rw [clauses_all, C16_ct_roundtrip_partial ct hw (by simpa [noFinding] using hf)]
    simp only [cCtRoundtrip, beq_self_eq_true]; rfl
  | ctypeSeq cts =>
    rw [clauses_all, C16_ct_history_independent cts hw hf, cCtHistory_lowered]; rfl
  | copy init ops => rw [clauses_all, model, model_snapshot init ops]; rfl

/-- off the two content-type scenarios no finding class applies: there the specification holds on the whole domain -/
theorem holds_model_no_ctype (i : Input) (hw : i.wf = true) (hc : ∀ ct, i ≠ .ctype ct) (hs : ∀ cts, i ≠ .ctypeSeq cts) :
    holds i (model i) = true :=
  holds_model_partial i hw <| by
    cases i with
    | ctype ct => exact absurd rfl (hc ct)
    | ctypeSeq cts => exact absurd rfl (hs cts)
    | _ => rfl

/-! ## tie to the source
`TTV.Generated.ContentSrc` is produced by `harness/pycontent2lean.py` from `testtools/content.py`, `content_type.py` and
`testresult/real.py` on every run; `TTV.ContentSkel.*I` interpret that data over the model.
For `_iter_text`, `_iter_chunks`, `__repr__` / `_quote` and the charset work-around, that the interpretation is the model function
takes an induction: it is proved once for a reference term (`Lemmas/ContentSkel.lean`), with which the generated term is then
compared.  For `as_text`, `content_from_reader` and `content_from_stream` / `content_from_file` the interpreter only walks through
a few statements and is evaluated on the generated steps themselves, so statements that do not interact may stand in any order. -/

/-- the model's `iterText` is the interpretation of the statements of `Content._iter_text` as found in the source — the
encoding looked up with default ISO-8859-1, a NEW incremental decoder made in this very call (so nothing survives from an
earlier use of the Content), one piece per chunk, the final flush, its result yielded when non-empty -/
theorem C16_src_iter_text {σ : Type} (D : Decoder σ) (chunks : List Bytes) :
    ContentSkel.iterTextI D chunks Generated.ContentSrc.iterText = some (iterText D chunks)
      ∧ ContentSkel.defaultOf Generated.ContentSrc.iterText = some .iso8859_1 := by
  have e : Generated.ContentSrc.iterText = ContentSkel.refIterText := by decide
  rw [e]; exact ⟨ContentSkel.iterTextI_ref D chunks, ContentSkel.defaultOf_ref⟩

/-- what the model says `as_text()` gives (text or exception) is the interpretation of `Content.as_text` as found in the source:
a non-text type is refused, the charset is looked up with default ISO-8859-1, the bytes are JOINED and decoded ONCE -/
theorem C16_src_as_text (isText : Bool) (cs : Charset) (chunks : List Bytes) (oracle : Option Text) :
    ContentSkel.asTextI isText (modelWhole cs oracle) chunks Generated.ContentSrc.asText false
      = (match decodeModel isText cs chunks oracle with | .decode a e _ _ _ => some (a, e) | _ => none)
    ∧ ContentSkel.defaultOfAsText Generated.ContentSrc.asText = some .iso8859_1 := by
  refine ⟨?_, by decide⟩
  obtain ⟨_, _, e⟩ := decodeModel_wholeRef isText cs chunks oracle
  rw [e]
  cases isText
  · rfl
  · simp only [ContentSkel.asTextI, Generated.ContentSrc.asText, if_true, modelWhole_eq_wholeRef]
    cases wholeRef cs chunks.flatten oracle <;> rfl

/-- `content_from_reader` as found in the source: with `buffer_now` the reader is evaluated once, at construction, into a LIST
of its chunks which every later `iter_bytes()` replays (as `streamModel` does); without it the reader is evaluated each time -/
theorem C16_src_content_from_reader (bufferNow : Bool) (cs : List Bytes) :
    ContentSkel.readerI bufferNow cs Generated.ContentSrc.contentFromReader .evaluateEachTime
      = some (if bufferNow then .buffered cs else .evaluateEachTime) := by
  cases bufferNow <;> simp [ContentSkel.readerI, Generated.ContentSrc.contentFromReader]

/-- `content_from_stream` and `content_from_file` as found in the source hand `content_from_reader` a FUNCTION whose every call makes a
new `_iter_chunks` generator (for a file: opens it, reads, closes): each evaluation of the content is the model's `readAll` - seek
again, read to the end -, which is what `lazyIters` / `lazyEqs` run once per consumption / operand.  (Seed `seeded/C16-f` captured one
generator object instead: only the first evaluation read anything.) -/
theorem C16_src_from_source (i : StreamIn) (s : Stream) (consumer : Bool) :
    (ContentSkel.makeI (if i.isFile then Generated.ContentSrc.contentFromFile else Generated.ContentSrc.contentFromStream) none).bind
      (ContentSkel.evalReaderI i s consumer) = some (readAll i s consumer) := by
  cases h : i.isFile <;>
    simp [Generated.ContentSrc.contentFromFile, Generated.ContentSrc.contentFromStream, ContentSkel.makeI, ContentSkel.evalReaderI, h]

/-- the model's `chunks` is the interpretation of `_iter_chunks` as found in the source: the optional seek first, then the read
loop in one of its two shapes — `chunk = read(); while chunk: yield chunk; chunk = read()` or the same loop rotated, `while True:
chunk = read(); if not chunk: break; yield chunk` (that both mean `chunks` is proved, not assumed by the translator) -/
theorem C16_src_iter_chunks (n : Nat) (caps : List Nat) (rem : Bytes) :
    ContentSkel.chunksI Generated.ContentSrc.iterChunks n caps rem = some (chunks n caps rem) := by
  have e : Generated.ContentSrc.iterChunks = ContentSkel.refChunks
      ∨ Generated.ContentSrc.iterChunks = ContentSkel.refChunksRotated := by decide
  rcases e with e | e
  · rw [e]; exact ContentSkel.chunksI_ref n caps rem
  · rw [e]; exact ContentSkel.chunksI_refRotated n caps rem

/-- the model's `render` (with `quoteValue`) is the interpretation of `ContentType.__repr__` and `_quote` as found in the
source: `type/subtype`, then — only when there are parameters — `"; "` and the sorted items `k="<v with \ and " escaped>"`
joined by `"; "` -/
theorem C16_src_repr (ct : CT) : ContentSkel.renderI Generated.ContentSrc.reprCT ct = render ct := by
  have e : Generated.ContentSrc.reprCT = ContentSkel.refRepr := by decide
  rw [e]; exact ContentSkel.renderI_ref ct

/-- the model's `fixCharset` is the interpretation of the work-around at the end of `_make_content_type` as found in the
source: only the `charset` parameter is cut, at its first comma -/
theorem C16_src_charset_fix (ps : List (Text × Text)) :
    ContentSkel.fixI Generated.ContentSrc.charsetFix ps = fixCharset ps := by
  have e : Generated.ContentSrc.charsetFix = ContentSkel.refFix := by decide
  rw [e]; exact ContentSkel.fixI_ref ps

end TTV.Props.C16
