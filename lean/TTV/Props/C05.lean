import TTV.Spec.C05
import TTV.Lemmas.RunUnique
import TTV.Generated.DetailSrc
import TTV.Lemmas.SrcRefRes
/-! # C05 — all details and every traceback reach the result

The theorems are about `TTV.Run.runOnce` for every program, every result flavour and every left-over `force_failure`;
`holds_model_partial` lifts them to repeated runs.  Apart from these: two about a single write to the dict
(`C05_unique_never_overwrites`, `C05_traceback_never_overwrites`), and at the end (section `src`) the tie to the source as
read into `TTV/Generated/DetailSrc.lean`.  Hypothesis `wf p` (see `Spec/RunCommon.lean`), which for this
property also says that no user-supplied detail is named `reason` (the framework attaches its own `reason` by a
plain `addDetail`) and that the content objects / failed expectations supplied by user code are pairwise
distinct (the clause `mismatch-fixture-details` identifies a detail by its content).  Known finding D3 (`lateCollision`): a plain
`addDetail(n)` that replaces an entry no plain `addDetail` had set (a traceback, a mismatch or fixture detail, renamed or
not) loses that entry; the clauses
`tracebacks` and `mismatch-fixture-details` are therefore proved outside that class (`holds_model_partial`), and
`C05_finding_witness` shows the model exhibiting the defect inside it. -/
namespace TTV.Props.C05
open TTV.Run TTV.Spec.Run TTV.Spec.C05

theorem onExcOf_eq (t : Trace) : onExcOf t = t.events.filterMap onExcEv := by
  unfold onExcOf; congr 1; funext e; cases e <;> rfl

theorem outcomeOf_skip {p : Program} (ff0 : Bool) {r : Nat} (h : p.skipDeco = some r) :
    outcomeOf (runOnce p ff0) = some (degrade p.flavour .skip, visibleDetails p.flavour .skip [(nmReason, .reason r)]) :=
  outcomeOf_of_events (congrArg Trace.events (runOnce_skip p ff0 r h)) (by simp)

theorem detailsOf_view {p : Program} {ff0 : Bool} {o : Outcome} {r sel : Option Exc} (v : RunView p ff0 o r sel) :
    detailsOf (runOnce p ff0) = reported p (runCore p ff0).1 o sel := by
  rw [detailsOf, v.outcome]; rfl

theorem detailsOf_shown {p : Program} {ff0 : Bool} {o : Outcome} {r sel : Option Exc} (v : RunView p ff0 o r sel)
    (hsd : showsDetails p.flavour = true) :
    detailsOf (runOnce p ff0) = frozenDetails (runCore p ff0).1 (finalDetails (handlers p) (runCore p ff0).1 sel) := by
  rw [detailsOf_view v, reported, visibleDetails, if_pos hsd]

theorem names_frozen (s : RS) (d : Details) : (frozenDetails s d).map (·.1) = dnames d := by
  simp [frozenDetails, dnames, List.map_map, Function.comp_def]

theorem names_visible_sublist (f : Flavour) (o : Outcome) (d : Details) :
    ((visibleDetails f o d).map (·.1)).Sublist (d.map (·.1)) := by
  unfold visibleDetails
  split
  · exact List.Sublist.refl _
  · split
    · exact List.Sublist.map _ List.filter_sublist
    · simp

theorem idsNodupN_iff (l : List DName) : cNamesDistinct.idsNodupN l = true ↔ l.Nodup :=
  nodupB_iff _ rfl (fun _ _ => rfl) l

theorem degrade_id (f : Flavour) (o : Outcome) (h1 : f ≠ .py26) (h2 : f ≠ .stream) : degrade f o = o := by
  cases f <;> first | exact absurd rfl h1 | exact absurd rfl h2 | rfl

theorem find_reason_visible (f : Flavour) (d : Details) (h1 : f ≠ .py26) (h2 : f ≠ .stream) :
    (visibleDetails f .skip d).find? (fun x => x.1 == nmReason) = d.find? (fun x => x.1 == nmReason) := by
  unfold visibleDetails
  split
  · rfl
  · simp only [h1, h2, ne_eq, not_false_eq_true, and_self, if_true, List.find?_filter]
    congr 1
    funext x
    by_cases h : x.1 = nmReason <;> simp [h]

theorem find_frozen (s : RS) (d : Details) (n : DName) :
    (frozenDetails s d).find? (fun x => x.1 == n) =
      (d.find? (fun x => x.1 == n)).map fun x => (x.1, freeze s.clock x.2) := by
  simp only [frozenDetails, List.find?_map]
  rfl

theorem flatMap_zipIdx {α β : Type} (l : List α) (k : Nat) (F : α × Nat → List β) (g : α → List β)
    (hF : ∀ x i, F (x, i) = g x) : (l.zipIdx k).flatMap F = l.flatMap g := by
  induction l generalizing k with
  | nil => rfl
  | cons x l ih => simp only [List.zipIdx_cons, List.flatMap_cons, hF, ih]

theorem subMulti_of_perm : ∀ (xs ys zs : List Exc), ys.Perm (xs ++ zs) → subMulti xs ys = true
  | [], _, _, _ => rfl
  | x :: xs, ys, zs, h => by
    have hx : x ∈ ys := h.mem_iff.mpr (by simp)
    have h' : (ys.erase x).Perm (xs ++ zs) := by
      have := h.erase x
      simpa using this
    simp only [subMulti, Bool.and_eq_true]
    exact ⟨by simpa using hx, subMulti_of_perm xs _ zs h'⟩

theorem tbsIn_frozen (s : RS) (d : Details) : tbsIn (frozenDetails s d) = tbsIn d := by
  rw [tbsIn_eq, tbsIn_eq, frozenDetails, List.filterMap_map]
  congr 1
  funext x
  exact tbOf_freeze s.clock x

theorem extraTbs_eq (p : Program) (st : Stage) :
    ((match st.term with
       | .expectFailure _ (some e) _ => [e]
       | _ => []) ++
      (if p.xfailDeco && st.id == p.body.id then
         (match termObj st.term with
          | some obj => if isSub obj.cls .exc then [obj] else []
          | none => [])
       else [])) = extraTbs p st := by
  unfold extraTbs decoTb decoOf
  congr 1
  generalize st.term = t
  cases t with
  | expectFailure r eo x => cases eo <;> rfl
  | _ => rfl

theorem requiredTbs_eq (p : Program) (ff0 : Bool) (t : Trace) :
    requiredTbs p ff0 t = (raisedAll p ff0 t).filter (fun e => needsTb e.cls) ++ (executed p t).flatMap (extraTbs p) := by
  unfold requiredTbs
  congr 2
  funext st
  exact extraTbs_eq p st

theorem relatedTbs_eq (p : Program) (ff0 : Bool) (t : Trace) :
    relatedTbs p ff0 t = raisedAll p ff0 t ++ (executed p t).flatMap (extraTbs p) := by
  unfold relatedTbs
  congr 2
  funext st
  exact extraTbs_eq p st

/-- read off the generated table `noTracebackRows` -/
theorem needsTb_not_exempt (c : Cls) (h : needsTb c = true) : noTraceback c = false := by
  rw [Bool.eq_false_iff]
  intro hn
  simp only [noTraceback, TTV.Generated.C01.noTracebackRows, List.any_cons, List.any_nil, clsOfRow, Bool.or_false,
    Bool.or_eq_true, beq_iff_eq] at hn
  rcases hn with hn | hn | hn <;> subst hn <;> simp [needsTb, isSub, Cls.ancestors] at h

theorem tbs_required (excs X T : List Exc) (h : T.Perm (tbFilter excs ++ X)) :
    subMulti (excs.filter (fun e => needsTb e.cls) ++ X) T = true := by
  apply subMulti_of_perm _ _ ((tbFilter excs).filter fun e => !needsTb e.cls)
  have e1 : (tbFilter excs).filter (fun e => needsTb e.cls) = excs.filter (fun e => needsTb e.cls) := by
    simp only [tbFilter, List.filter_filter]
    apply List.filter_congr
    intro x _
    cases hx : needsTb x.cls
    · rfl
    · simp [needsTb_not_exempt x.cls hx]
  have h2 := (List.filter_append_perm (fun e => needsTb e.cls) (tbFilter excs)).symm
  rw [e1] at h2
  refine h.trans ((h2.append_right X).trans ?_)
  simp only [List.append_assoc]
  exact List.Perm.append_left _ List.perm_append_comm

theorem tbs_related (excs X T : List Exc) (h : T.Perm (tbFilter excs ++ X)) :
    subMulti T (excs ++ X) = true := by
  apply subMulti_of_perm _ _ (excs.filter fun e => !(!noTraceback e.cls))
  have h2 := (List.filter_append_perm (fun e => !noTraceback e.cls) excs).symm
  refine (h2.append_right X).trans ?_
  refine List.Perm.trans ?_ (h.symm.append_right _)
  simp only [tbFilter, List.append_assoc]
  exact List.Perm.append_left _ List.perm_append_comm

theorem zipIdx_findStage (p : Program) : ∀ (l : List Stage) (k0 : Nat), (∀ st ∈ l, findStage p st.id = some st) →
    (((l.map Stage.id).zipIdx (k0 + 1)).filterMap fun (id, k) => (findStage p id).map fun st => (k, st)) =
      (l.zipIdx k0).map fun x => (x.2 + 1, x.1)
  | [], _, _ => rfl
  | x :: xs, k0, h => by
    simp only [List.map_cons, List.zipIdx_cons, List.filterMap_cons, h x List.mem_cons_self, Option.map_some]
    rw [zipIdx_findStage p xs (k0 + 1) (fun st hst => h st (List.mem_cons_of_mem _ hst))]

/-- the core of the clause `mismatch-fixture-details`.  Once: its content is neither in a second unique entry
(`nodup_contents`) nor in an entry set by plain `addDetail` (those hold identities of `A`). -/
theorem stored_once {FD : Details} {pl : List DName} {T : List Exc} {A : List (DName × UC)}
    {U : List (DName × Content)} (k : Nat) (hJ : J FD pl false T A U) (hK : (keysU U ++ keysA A).Nodup)
    (u : DName × Content) (hu : u ∈ U) :
    ((FD.map fun x => (x.1, freeze k x.2)).filter fun x => x.2 == freeze k u.2).length = 1 ∧
    ∃ y ∈ FD.map fun x => (x.1, freeze k x.2), y.2 = freeze k u.2 ∧ isRenaming u.1 y.1 = true := by
  have hM := hJ.uqs rfl
  have hC := Match2_contents _ _ hM
  refine ⟨?_, ?_⟩
  · have e1 : ((FD.map fun x => (x.1, freeze k x.2)).filter fun x => x.2 == freeze k u.2) =
        (FD.filter fun x => freeze k x.2 == freeze k u.2).map fun x => (x.1, freeze k x.2) := by
      rw [List.filter_map]; rfl
    rw [e1, List.length_map]
    have e2 : (FD.filter fun x => freeze k x.2 == freeze k u.2) =
        ((uqEntries FD pl).filter fun x => freeze k x.2 == freeze k u.2) := by
      unfold uqEntries
      rw [List.filter_filter]
      apply List.filter_congr
      intro x hx
      cases hq : (freeze k x.2 == freeze k u.2) with
      | false => rfl
      | true =>
        have hq' : freeze k x.2 = freeze k u.2 := by simpa using hq
        have hiu : isUq x.2 = true := by
          rw [← isUq_freeze k, hq', isUq_freeze]; exact hJ.uq_isUq u hu
        -- an entry set by plain `addDetail` cannot carry the content of `u`: that content's identity would be among
        -- `keysA A` (the entry holds what the last `addDetail` gave it) and among `keysU U`, which are disjoint
        have hnp : x.1 ∉ pl := by
          intro hp
          obtain ⟨c0, hxa, hc0⟩ := hJ.plainEntry x hx hp
          have hk2 : (0, c0.id) ∈ keysA A := List.mem_map.mpr ⟨_, hxa, rfl⟩
          have hk3 : (0, c0.id) ∈ keysU U := by
            rw [keysU, List.mem_filterMap]
            refine ⟨u, hu, ?_⟩
            rw [← ckey_freeze k, ← hq', hc0, ckey_freeze]; rfl
          exact (List.nodup_append.mp hK).2.2 _ hk3 _ hk2 rfl
        simp [hnp, hiu]
    have hcount : ((uqEntries FD pl).filter fun x => freeze k x.2 == freeze k u.2).length =
        ((uqEntries FD pl).map fun x => freeze k x.2).count (freeze k u.2) := by
      rw [List.count_eq_countP, List.countP_map, List.countP_eq_length_filter]; rfl
    rw [e2, hcount]
    have e3 : (uqEntries FD pl).map (fun x => freeze k x.2) = U.map (fun x => freeze k x.2) := by
      have := congrArg (List.map (freeze k)) hC
      simpa [List.map_map, Function.comp_def] using this
    rw [e3, (nodup_contents k U hJ.uq_isUq (List.nodup_append.mp hK).1).count]
    simp only [List.mem_map]
    rw [if_pos ⟨u, hu, rfl⟩]
  · obtain ⟨m, hm, hr⟩ := Match2_mem _ _ hM u hu
    exact ⟨(m, freeze k u.2), List.mem_map.mpr ⟨_, ((mem_uqEntries _ _ _).mp hm).1, rfl⟩, rfl, hr⟩

/-- C05 (renaming never overwrites): `addDetailUniqueName(n, c)` appends a new entry — under `n` itself or a
`-k` renaming of it that is not yet a key of the dict; every entry present before is still there, unchanged.
(The rename loop of `addDetailUniqueName` / `gather_details` always finds a free name.) -/
theorem C05_unique_never_overwrites (d : Details) (n : DName) (c : Content) :
    addUnique d n c = d ++ [(uniq d n, c)] ∧ uniq d n ∉ dnames d ∧ isRenaming n (uniq d n) = true :=
  ⟨dset_of_not_mem d _ c (uniq_not_mem d n), uniq_not_mem d n, uniq_renaming d n⟩

/-- C05 (traceback labels never overwrite): `_report_traceback` stores the traceback under a label
(`traceback`, `traceback-1`, `traceback-1-2`, …) that is not yet a key of the dict — the label loop has enough
fuel by a pigeonhole argument on the strictly growing suffix lists. -/
theorem C05_traceback_never_overwrites (s : RS) (e : Exc) :
    (reportTb s e).details = s.details ++ [(tbName s, .tb e)] ∧ tbName s ∉ dnames s.details := by
  refine ⟨?_, tbName_fresh s⟩
  rw [reportTb_details, dset_of_not_mem _ _ _ (tbName_fresh s)]

theorem final_inv (p : Program) (ff0 : Bool) (hwf : wf p = true) (sel : Option Exc) :
    ∃ T A U, InvAll p (runCore p ff0).1 T A U ∧
      J (finalDetails (handlers p) (runCore p ff0).1 sel) (runCore p ff0).1.plain (runCore p ff0).1.clobbered T A U := by
  obtain ⟨T, A, U, hA⟩ := runCore_invAll p ff0 hwf
  exact ⟨T, A, U, hA, hA.d.js.final (handlers p) sel⟩

/-- C05 (tracebacks, outside the finding class): on results that receive the details dict, the tracebacks among
the reported details are exactly — as a multiset, none lost, none invented, none twice — those of every
exception handed to the runner whose class is not exempt (skip / expected failure / unexpected success), in
whatever stage it was raised (constituents of MultipleExceptions counted separately, the forced failure
included), plus the assertion behind each `expectFailure` and the failure caught by the expectedFailure
decorator.  Hypothesis: no plain `addDetail` replaced a generated entry in this run (finding D3).
Full statement (false, see `C05_finding_witness`): the same without the hypothesis `hcl`. -/
theorem C05_tracebacks_partial (p : Program) (ff0 : Bool) (hwf : wf p = true) (hskip : p.skipDeco = none)
    (hsd : showsDetails p.flavour = true) (hcl : (runCore p ff0).1.clobbered = false) :
    (tbsIn (detailsOf (runOnce p ff0))).Perm
      (tbFilter (runCore p ff0).1.excs ++ (runCore p ff0).1.execd.flatMap (extraTbs p)) := by
  obtain ⟨o, r, sel, v⟩ := runOnce_view p ff0 hwf hskip
  obtain ⟨T, A, U, hA, hJ⟩ := final_inv p ff0 hwf sel
  rw [detailsOf_shown v hsd, tbsIn_frozen, hJ.tbs hcl]
  exact hA.d.tperm

/-- C05 (user details): on results that receive the details dict, every name attached by plain `addDetail`
arrives with the value of the last `addDetail` for that name, its bytes read when the outcome is reported —
whatever else happened in the run (also inside the finding class). -/
theorem C05_user_details (p : Program) (ff0 : Bool) (hwf : wf p = true) (hskip : p.skipDeco = none)
    (hsd : showsDetails p.flavour = true) (n : DName) (c : UC)
    (h : lastAdd ((runCore p ff0).1.execd.flatMap fun st => plainOf st.acts) n = some c) :
    (detailsOf (runOnce p ff0)).find? (fun x => x.1 == n) = some (n, evalAt (runCore p ff0).1.clock c) := by
  obtain ⟨o, r, sel, v⟩ := runOnce_view p ff0 hwf hskip
  obtain ⟨T, A, U, hA, hJ⟩ := final_inv p ff0 hwf sel
  rw [detailsOf_shown v hsd, find_frozen, hJ.ud n c (hA.d.adds ▸ h)]
  simp [freeze_user]

/-- C05 (names): the reported details never contain a name twice. -/
theorem C05_names_distinct (p : Program) (ff0 : Bool) (hwf : wf p = true) :
    ((detailsOf (runOnce p ff0)).map (·.1)).Nodup := by
  cases hskip : p.skipDeco with
  | some r =>
    rw [detailsOf, outcomeOf_skip ff0 hskip]
    exact List.Nodup.sublist (names_visible_sublist _ _ _) (by simp)
  | none =>
    obtain ⟨o, r, sel, v⟩ := runOnce_view p ff0 hwf hskip
    obtain ⟨T, A, U, hA, hJ⟩ := final_inv p ff0 hwf sel
    rw [detailsOf_view v]
    apply List.Nodup.sublist (names_visible_sublist _ _ _)
    rw [names_frozen]
    exact hJ.nodup

/-- C05 (onException handlers): every handler registered with `addOnException` is called exactly once per
exception handed to the runner, in registration order, exception by exception — and all of these calls precede
the outcome event. -/
theorem C05_onexception (p : Program) (ff0 : Bool) (hwf : wf p = true) (hskip : p.skipDeco = none) :
    onExcOf (runOnce p ff0) = handlerCalls p.nOnExc (runCore p ff0).1.excs ∧
    ((runOnce p ff0).events.dropWhile fun | .outcome _ _ => false | _ => true).all
      (fun | .onExc _ _ => false | _ => true) = true := by
  obtain ⟨o, r, sel, v⟩ := runOnce_view p ff0 hwf hskip
  have hev := congrArg Trace.events v.shape
  refine ⟨?_, ?_⟩
  · rw [onExcOf_eq, hev, filterMap_bracket _ (fun e he => by cases e <;> first | rfl | cases he), v.core.onExcs]
  · rw [hev, dropWhile_bracket _ (fun e => by cases e <;> rfl) v.core.logPure, List.all_cons, Bool.true_and,
      List.all_eq_true]
    intro e he
    have := closing_marks _ e he
    cases e <;> first | rfl | cases this

/-- the guard of the clauses that read the details dict: they claim nothing of a flavour that receives no details, nor of
a run skipped by decorator -/
theorem guarded (p : Program) (b : Bool) (h : showsDetails p.flavour = true → p.skipDeco = none → b = true) :
    (!showsDetails p.flavour || p.skipDeco.isSome || b) = true := by
  cases hsd : showsDetails p.flavour with
  | false => rfl
  | true =>
    cases hskip : p.skipDeco with
    | some r => rfl
    | none => simpa using h hsd hskip

section perRun
variable (p : Program) (ff0 : Bool) (hwf : wf p = true)
include hwf

theorem clause_onException : cOnException p ff0 (runOnce p ff0) = true := by
  cases hskip : p.skipDeco with
  | some r => simp [cOnException, hskip]
  | none =>
    obtain ⟨o, r, sel, v⟩ := runOnce_view p ff0 hwf hskip
    obtain ⟨h1, h2⟩ := C05_onexception p ff0 hwf hskip
    simp only [cOnException, hskip, Option.isSome_none, Bool.false_or, Bool.and_eq_true, beq_iff_eq, v.reads.raised]
    exact ⟨h1, h2⟩

theorem clause_namesDistinct : cNamesDistinct p ff0 (runOnce p ff0) = true :=
  (idsNodupN_iff _).mpr (C05_names_distinct p ff0 hwf)

theorem timed_runOnce (hskip : p.skipDeco = none) :
    timed p (runOnce p ff0) = (runCore p ff0).1.execd.zipIdx.map fun x => (x.2 + 1, x.1) := by
  obtain ⟨o, r, sel, v⟩ := runOnce_view p ff0 hwf hskip
  rw [timed, v.reads.ids]
  exact zipIdx_findStage p _ 0 (fun st hst => findStage_of_mem p hwf st (v.core.execdIn st hst))

theorem plainAdds_runOnce (hskip : p.skipDeco = none) :
    plainAdds p (runOnce p ff0) = (runCore p ff0).1.execd.flatMap fun st => plainOf st.acts := by
  rw [plainAdds, timed_runOnce p ff0 hwf hskip, List.flatMap_map]
  exact flatMap_zipIdx _ 0 _ _ fun st _ => plainOf_eq st.acts

theorem finalClock_eq (hskip : p.skipDeco = none) : finalClock (runOnce p ff0) = (runCore p ff0).1.clock := by
  obtain ⟨o, r, sel, v⟩ := runOnce_view p ff0 hwf hskip
  obtain ⟨T, A, U, hA⟩ := runCore_invAll p ff0 hwf
  rw [finalClock, v.reads.ids, hA.d.clock, List.length_map]

theorem clause_userDetails : cUserDetails p ff0 (runOnce p ff0) = true := by
  simp only [cUserDetails]
  refine guarded p _ fun hsd hskip => ?_
  rw [plainAdds_runOnce p ff0 hwf hskip, List.all_eq_true]
  rintro ⟨⟨n, c⟩, i⟩ hx
  have hget := List.mem_zipIdx_iff_getElem?.mp hx
  simp only [Bool.or_eq_true]
  by_cases hlater : (((runCore p ff0).1.execd.flatMap fun st => plainOf st.acts).drop (i + 1)).any (fun x => x.1 == n) = true
  · exact Or.inl hlater
  · right
    have hl := lastAdd_of_idx _ n c i hget (Bool.not_eq_true _ ▸ hlater)
    simp [C05_user_details p ff0 hwf hskip hsd n c hl, finalClock_eq p ff0 hwf hskip]

theorem clause_tracebacks (hcl : p.skipDeco = none → (runCore p ff0).1.clobbered = false) :
    cTracebacks p ff0 (runOnce p ff0) = true := by
  unfold cTracebacks
  refine guarded p _ fun hsd hskip => ?_
  obtain ⟨o, r, sel, v⟩ := runOnce_view p ff0 hwf hskip
  have hperm := C05_tracebacks_partial p ff0 hwf hskip hsd (hcl hskip)
  simp only [requiredTbs_eq, relatedTbs_eq, v.reads.executed, v.reads.raised, Bool.and_eq_true]
  exact ⟨tbs_required _ _ _ hperm, tbs_related _ _ _ hperm⟩

theorem unique_cov (hskip : p.skipDeco = none) (U : List (DName × Content)) (hC : Cov (runCore p ff0).1 U)
    (n : DName) (c : Content)
    (h : (n, c) ∈ uniqueAdds p (runOnce p ff0)) :
    ∃ u ∈ U, u.1 = n ∧ freeze (runCore p ff0).1.clock u.2 = c := by
  obtain ⟨o, r, sel, v⟩ := runOnce_view p ff0 hwf hskip
  have hfin := finalClock_eq p ff0 hwf hskip
  simp only [uniqueAdds, timed_runOnce p ff0 hwf hskip, v.reads.ids, hfin, List.mem_flatMap, List.mem_map] at h
  obtain ⟨⟨k, st⟩, ⟨⟨st', i⟩, hz, hk⟩, h⟩ := h
  simp only [Prod.mk.injEq] at hk
  obtain ⟨rfl, rfl⟩ := hk
  have hi := List.mem_zipIdx_iff_getElem?.mp hz
  have hmem : st' ∈ (runCore p ff0).1.execd := List.mem_of_getElem? hi
  simp only [List.mem_append, List.mem_flatMap] at h
  rcases h with ⟨act, hact, h⟩ | h
  · cases act with
    | expect mid ds =>
      obtain ⟨h1, h2⟩ := mem_uqActs_expect st'.acts mid ds hact
      simp only [List.mem_append, List.mem_map, List.mem_singleton] at h
      rcases h with ⟨x, hx, he⟩ | he
      · cases he
        exact ⟨_, hC.acts st' hmem _ (h2 x hx), rfl, freeze_user _ _⟩
      · cases he
        exact ⟨_, hC.acts st' hmem _ h1, rfl, rfl⟩
    | useFixture f ds cu =>
      simp only [List.mem_map] at h
      obtain ⟨x, hx, he⟩ := h
      cases he
      rcases hC.fix st' hmem f ds cu hact with ⟨pre, post, hp⟩ | ⟨post, hp, _, _⟩ | ⟨t, ht, hg⟩
      · rw [v.core.stack] at hp; simp at hp
      · rw [v.core.stack] at hp; simp at hp
      · -- the spec finds the gathering time of a fixture by looking its cleanUp's id up among the stage ids; that is the
        -- index `t` of the cleanUp because no id runs twice
        have hidx : ((runCore p ff0).1.execd.map Stage.id).idxOf cu.id = t := by
          obtain ⟨hlt, hget⟩ := List.getElem?_eq_some_iff.mp ht
          have hlt' : t < ((runCore p ff0).1.execd.map Stage.id).length := by simpa using hlt
          have := (runCore_execd_nodup p ff0 hwf).idxOf_getElem t hlt'
          simpa [hget] using this
        rw [hidx]
        refine ⟨_, hg _ (List.mem_map_of_mem hx), rfl, ?_⟩
        rw [freeze_idem, freeze_user]
    | _ => simp at h
  · have hterm := hC.term i st' hi
    cases ht : st'.term with
    | assertFail e ds =>
      rw [ht] at h hterm
      simp only [List.mem_map] at h
      obtain ⟨x, hx, he⟩ := h
      cases he
      exact ⟨_, hterm _ (List.mem_map_of_mem hx), rfl, freeze_user _ _⟩
    | fixtureFail ds e ces se =>
      rw [ht] at h hterm
      simp only [List.mem_map] at h
      obtain ⟨x, hx, he⟩ := h
      cases he
      refine ⟨_, hterm _ (List.mem_map_of_mem hx), rfl, ?_⟩
      rw [freeze_idem, freeze_user]
    | _ => rw [ht] at h; simp at h

end perRun

/-- C05 (mismatch and fixture details, outside the finding class): on results that receive the details dict,
every detail handed over by an `expectThat` / `assertThat` mismatch, the marker of every failed expectation, and
every detail of every used fixture (also of a fixture whose setUp failed) arrives exactly once — under its own
name or a `-k` renaming of it — with the bytes due (mismatch details: read when the outcome is reported; fixture
details: read when gathered, i.e. right before the fixture's cleanUp; a failed fixture: at that moment).
Hypothesis: no plain `addDetail` replaced a generated entry in this run (finding D3).
Full statement (false inside the class): the same without the hypothesis `hcl`. -/
theorem C05_mismatch_fixture_partial (p : Program) (ff0 : Bool) (hwf : wf p = true) (hskip : p.skipDeco = none)
    (hsd : showsDetails p.flavour = true) (hcl : (runCore p ff0).1.clobbered = false) :
    ∀ x ∈ uniqueAdds p (runOnce p ff0),
      ((detailsOf (runOnce p ff0)).filter fun y => y.2 == x.2).length = 1 ∧
      ∃ y ∈ detailsOf (runOnce p ff0), y.2 = x.2 ∧ isRenaming x.1 y.1 = true := by
  obtain ⟨o, r, sel, v⟩ := runOnce_view p ff0 hwf hskip
  obtain ⟨T, A, U, hA, hJ⟩ := final_inv p ff0 hwf sel
  rw [hcl] at hJ
  have hK : (keysU U ++ keysA A).Nodup := by
    have := (hA.keyInv hwf).nodup
    rw [v.core.stack] at this
    simpa [pendingKeys] using this
  rintro ⟨n, c⟩ hx
  obtain ⟨u, hu, rfl, rfl⟩ := unique_cov p ff0 hwf hskip U hA.cov n c hx
  rw [detailsOf_shown v hsd]
  exact stored_once (runCore p ff0).1.clock hJ hK u hu

theorem clause_uniqueDetails (p : Program) (ff0 : Bool) (hwf : wf p = true)
    (hcl : p.skipDeco = none → (runCore p ff0).1.clobbered = false) :
    cUniqueDetails p ff0 (runOnce p ff0) = true := by
  simp only [cUniqueDetails]
  refine guarded p _ fun hsd hskip => ?_
  rw [List.all_eq_true]
  rintro ⟨n, c⟩ hx
  simp only [Bool.and_eq_true, beq_iff_eq, List.any_eq_true]
  exact C05_mismatch_fixture_partial p ff0 hwf hskip hsd (hcl hskip) _ hx

/-- C05 (skip reason): a skip reported by the case's own skip reporter carries a `reason` detail, and it is the
reason of one of the skip exceptions raised in the run.  (`cReason` is guarded: for the flavours `.py26`, `.stream` and
under a user handler for skips it claims nothing.) -/
theorem C05_reason (p : Program) (ff0 : Bool) (hwf : wf p = true) : cReason p ff0 (runOnce p ff0) = true := by
  simp only [cReason, Bool.or_eq_true, beq_iff_eq]
  by_cases h1 : p.flavour = .py26
  · exact Or.inl (Or.inl (Or.inl h1))
  by_cases h2 : p.flavour = .stream
  · exact Or.inl (Or.inl (Or.inr h2))
  by_cases h3 : p.userHandlers.any (fun h => match h.2 with | .user _ .skip => true | _ => false) = true
  · exact Or.inl (Or.inr h3)
  right
  cases hskip : p.skipDeco with
  | some r =>
    rw [outcomeOf_skip ff0 hskip, degrade_id _ _ h1 h2]
    simp [find_reason_visible _ _ h1 h2]
  | none =>
    obtain ⟨o, r, sel, v⟩ := runOnce_view p ff0 hwf hskip
    rw [v.outcome, degrade_id _ _ h1 h2]
    cases v.decided with
    | success hnil => rfl
    | lastResort e hsel hh => rfl
    | handled e rep hsel hh =>
      cases rep with
      | user i o' =>
        -- a user-supplied skip reporter is excluded above
        cases o' <;> try rfl
        rcases reporter_cases p e _ hh with ⟨c, hm⟩ | ⟨o', ho', -⟩
        · exact absurd (List.any_eq_true.mpr ⟨_, hm, rfl⟩) h3
        · cases ho'
      | std o' =>
        cases o' <;> try rfl
        -- the case's own skip reporter: it adds the reason of the selected exception, one of the skips raised
        have hfind : ((reported p (runCore p ff0).1 .skip (some e)).find? (fun x => x.1 == nmReason)).map (·.2)
            = some (Content.reason e.tag) := by
          rw [reported, find_reason_visible _ _ h1 h2, find_frozen]
          simp only [finalDetails, hh, if_true, find_dset_self]
          rfl
        simp only [Reporter.outcome, hfind, v.reads.raised, Bool.or_eq_true]
        right
        simp only [List.contains_eq_mem, List.mem_map, List.mem_filter, decide_eq_true_eq]
        exact ⟨e, ⟨select_mem _ _ _ hsel, by simp [hh]⟩, rfl⟩

theorem perRun_runMany_partial (c : Program → Bool → Trace → Bool) (p : Program)
    (h : ∀ ff0, (p.skipDeco = none → (runCore p ff0).1.clobbered = false) → c p ff0 (runOnce p ff0) = true) :
    ∀ (n : Nat) (ff0 : Bool), clobberedRuns p n ff0 = false → perRun c p ff0 (runMany p n ff0) = true
  | 0, _, _ => rfl
  | n + 1, ff0, hc => by
    simp only [clobberedRuns, Bool.or_eq_false_iff, Bool.and_eq_false_iff] at hc
    have h1 : p.skipDeco = none → (runCore p ff0).1.clobbered = false := by
      intro hs
      rcases hc.1 with h1 | h1
      · simp [hs] at h1
      · exact h1
    simp only [runMany, perRun, h ff0 h1, Bool.true_and]
    exact perRun_runMany_partial c p h n _ hc.2

theorem lift_model_partial (c : Program → Bool → Trace → Bool) (i : Input) (hl : lateCollision i = false)
    (h : wf i.prog = true → ∀ ff0, (i.prog.skipDeco = none → (runCore i.prog ff0).1.clobbered = false) →
      c i.prog ff0 (runOnce i.prog ff0) = true) : lift c i (model i) = true := by
  unfold lift model
  cases hwf : wf i.prog with
  | false => simp
  | true => simp [runMany_length, perRun_runMany_partial c i.prog (h hwf) i.runs false hl]

/-- The executable spec of C05 holds of the model's trace for every input outside the known-finding class
`lateCollision` (D3: a plain `addDetail(n)` replaced an entry that no plain `addDetail` had set).
Full statement (false inside the class, see `C05_finding_witness`): `∀ i, holds i (model i) = true`. -/
theorem holds_model_partial (i : Input) (h : lateCollision i = false) : holds i (model i) = true := by
  simp only [holds, clauses, List.all_cons, List.all_nil, Bool.and_true, Bool.and_eq_true]
  exact ⟨lift_model _ i (fun hwf ff0 => clause_userDetails _ ff0 hwf),
    lift_model_partial _ i h (fun hwf ff0 hcl => clause_uniqueDetails _ ff0 hwf hcl),
    lift_model_partial _ i h (fun hwf ff0 hcl => clause_tracebacks _ ff0 hwf hcl),
    lift_model _ i (fun hwf ff0 => clause_namesDistinct _ ff0 hwf),
    lift_model _ i (fun hwf ff0 => C05_reason _ ff0 hwf),
    lift_model _ i (fun hwf ff0 => clause_onException _ ff0 hwf)⟩

/-! ## the finding: a plain `addDetail('traceback')` in tearDown replaces the traceback of the test's failure -/
def witness : Program :=
  { skipDeco := none, xfailDeco := false
    setUp := .mk 1 [] .ret
    body := .mk 2 [] (.raise1 ⟨.failure, 1⟩)
    tearDown := .mk 3 [.addDetail nmTraceback ⟨1, false⟩] .ret
    userHandlers := [], nOnExc := 0, attrs0 := [], flavour := .ext }

/-- the witness registers no cleanup, so its run can be evaluated (the cleanup loop is defined by well-founded recursion
and does not reduce by `decide`) -/
theorem witness_stack : (mainPhase witness false).stack = [] := by decide

theorem C05_finding_witness_class : lateCollision ⟨witness, 1⟩ = true := by
  simp only [lateCollision, clobberedRuns, runCore_noCleanups witness false witness_stack]
  decide

theorem C05_finding_witness : ∃ i, lateCollision i = true ∧ holds i (model i) = false := by
  refine ⟨⟨witness, 1⟩, C05_finding_witness_class, ?_⟩
  simp only [model, runMany, runOnce, runCore_noCleanups witness false witness_stack]
  decide

/-- the hypotheses `wf`, `skipDeco = none` and `showsDetails` of `C05_tracebacks_partial` are satisfiable together (the example
below): a failing test method and a failing tearDown, a lazy plain detail, a mismatching `expectThat` with a detail of the
same name -/
def demo : Program :=
  { skipDeco := none, xfailDeco := false
    setUp := .mk 1 [.addDetail ⟨3, []⟩ ⟨1, true⟩] .ret
    body := .mk 2 [.expect 0 [(⟨3, []⟩, ⟨2, false⟩)]] (.raise1 ⟨.failure, 1⟩)
    tearDown := .mk 3 [] (.raise1 ⟨.exc, 2⟩)
    userHandlers := [], nOnExc := 2, attrs0 := [], flavour := .ext }

example : wf demo = true ∧ demo.skipDeco = none ∧ showsDetails demo.flavour = true := by decide
/-- the fourth hypothesis of `C05_tracebacks_partial`, `clobbered = false`, holds of `demo` as well (`demo` registers no cleanup, so
its run can be evaluated like that of `witness`) -/
example : (runCore demo false).1.clobbered = false := by
  rw [runCore_noCleanups demo false (by decide)]; decide
example : lateCollision ⟨witness, 1⟩ = true := C05_finding_witness_class

/-! ## the code itself (translator tie, DESIGN D.2a item 2e)

`harness/pyres2lean.py` re-reads the detail-naming code on every run into `TTV/Generated/DetailSrc.lean`: the parameters of
the three unique-name loops (recognised up to local names, layout and `== None`), and the canonical skeletons of
`addDetail`, `getDetails`, `_add_reason`, `onException` and `RunTest._got_user_exception`. -/
section src
def loopOf (f : String) : List String := (TTV.SrcRef.DetailSrc.nameLoops.lookup f).getD []

/-- **C05 (source: the unique-name loops).**  `addDetailUniqueName` and `gather_details` try the plain name first and then
`name-1`, `name-2`, … built from the *original* name with a counter that starts at 1 for every call / detail — `uniqFrom`;
`_report_traceback` tries the plain label first and then appends `-k` to the label *as it stands* (`traceback`,
`traceback-1`, `traceback-1-2`, …) with a counter that starts at 0 and lives as long as the run — `tbLabel`. -/
theorem C05_src_name_loops :
    TTV.Generated.DetailSrc.nameLoops = TTV.SrcRef.DetailSrc.nameLoops ∧
    loopOf "addDetailUniqueName" = ["start 1", "base original", "counter per-call", "first plain", "format %s-%d", "store addDetail"] ∧
    loopOf "gather_details" = ["start 1", "base original", "counter per-detail", "first plain", "format %s-%d", "store copy-content"] ∧
    loopOf "_report_traceback" =
      ["start 0", "base cumulative", "counter per-run-and-label", "first plain", "format %s-%d", "store addDetail-traceback"] ∧
    -- the model's loops, step by step
    (∀ (n : DName) (k : Nat) (taken : List DName),
      uniqFrom n k taken =
        (let cand := if k = 0 then n else n.push k
         if cand ∈ taken then uniqFrom n (k + 1) (taken.erase cand) else cand)) ∧
    (∀ (names : List DName) (fuel c : Nat) (l : DName),
      tbLabel names (fuel + 1) c l =
        (let l' := if c = 0 then l else l.push c
         if l' ∈ names then tbLabel names fuel (c + 1) l' else (l', c + 1))) := by
  refine ⟨rfl, rfl, rfl, rfl, ?_, fun _ _ _ _ => rfl⟩
  intro n k taken
  rw [uniqFrom]
  split <;> rfl

/-- **C05 (source: `addDetail`, `getDetails`, `_add_reason`, the loops' bodies, `onException`).**  `addDetail` stores under
the given name (plain set: the last value wins), `_add_reason` under the name `reason`, `onException` reports the traceback
unless the class is one of the three no-traceback classes and then calls the user handlers in order. -/
theorem C05_src_shapes :
    TTV.Generated.DetailSrc.addDetail = TTV.SrcRef.DetailSrc.addDetail ∧
    TTV.Generated.DetailSrc.getDetails = TTV.SrcRef.DetailSrc.getDetails ∧
    TTV.Generated.DetailSrc.addReason = TTV.SrcRef.DetailSrc.addReason ∧
    TTV.Generated.DetailSrc.addDetailUniqueName = TTV.SrcRef.DetailSrc.addDetailUniqueName ∧
    TTV.Generated.DetailSrc.reportTraceback = TTV.SrcRef.DetailSrc.reportTraceback ∧
    TTV.Generated.DetailSrc.gatherDetails = TTV.SrcRef.DetailSrc.gatherDetails ∧
    TTV.Generated.DetailSrc.onException = TTV.SrcRef.DetailSrc.onException :=
  ⟨rfl, rfl, rfl, rfl, rfl, rfl, rfl⟩

/-- **C05 (source: `RunTest._got_user_exception`).**  A non-empty `MultipleExceptions` is unpacked in the order of its
arguments, each through `_got_user_exception` again (`gotAll`); a plain exception goes to `onException` (traceback, user
handlers) and is then appended to `_exceptions` (`got`). -/
theorem C05_src_got_user_exception :
    TTV.Generated.DetailSrc.gotUserException = TTV.SrcRef.DetailSrc.gotUserException ∧
    (∀ (s : RS) (e : Exc) (es : List Exc), gotAll s (e :: es) = gotAll (got s e) es) ∧
    (∀ (s : RS) (e : Exc), (got s e).excs = s.excs ++ [e]) :=
  ⟨rfl, fun _ _ _ => rfl, got_excs⟩
/-- **C05 (source: the reporters, what a run resets, fixtures, cleanups).**  The five `_report_*` handlers end with one call of the
outcome method with `details=self.getDetails()` (the details are read when the outcome is reported); `_report_skip` adds the
reason first; `__init__` calls `_reset()` and then creates the `addOnException` handler list (so `_reset()` — a second run — keeps
the handlers); `_reset` empties the cleanups, the traceback counters and the details; `expectFailure` adds the reason, then
the traceback; `useFixture` gathers the fixture's details; `_run_cleanups` pops until the list is empty. -/
theorem C05_src_reports :
    TTV.Generated.DetailSrc.caseInit = TTV.SrcRef.DetailSrc.caseInit ∧
    TTV.Generated.DetailSrc.caseReset = TTV.SrcRef.DetailSrc.caseReset ∧
    TTV.Generated.DetailSrc.expectFailure = TTV.SrcRef.DetailSrc.expectFailure ∧
    TTV.Generated.DetailSrc.useFixture = TTV.SrcRef.DetailSrc.useFixture ∧
    TTV.Generated.DetailSrc.reportError = TTV.SrcRef.DetailSrc.reportError ∧
    TTV.Generated.DetailSrc.reportExpectedFailure = TTV.SrcRef.DetailSrc.reportExpectedFailure ∧
    TTV.Generated.DetailSrc.reportFailure = TTV.SrcRef.DetailSrc.reportFailure ∧
    TTV.Generated.DetailSrc.reportSkip = TTV.SrcRef.DetailSrc.reportSkip ∧
    TTV.Generated.DetailSrc.reportUnexpectedSuccess = TTV.SrcRef.DetailSrc.reportUnexpectedSuccess ∧
    TTV.Generated.DetailSrc.runCleanups = TTV.SrcRef.DetailSrc.runCleanups ∧
    TTV.SrcRef.DetailSrc.reportSkip.drop 8 =
      ["  self._add_reason(v0)", "  a0.addSkip(self, details=self.getDetails())"] ∧
    TTV.SrcRef.DetailSrc.reportError.drop 2 = ["  a0.addError(self, details=self.getDetails())"] ∧
    TTV.SrcRef.DetailSrc.reportFailure.drop 2 = ["  a0.addFailure(self, details=self.getDetails())"] ∧
    TTV.SrcRef.DetailSrc.reportExpectedFailure.drop 2 = ["  a0.addExpectedFailure(self, details=self.getDetails())"] ∧
    TTV.SrcRef.DetailSrc.reportUnexpectedSuccess.drop 2 = ["  a0.addUnexpectedSuccess(self, details=self.getDetails())"] ∧
    TTV.SrcRef.DetailSrc.caseReset.drop 1 =
      ["  self._cleanups = []", "  self._unique_id_gen = itertools.count(1)", "  self.__details = None",
       "  self.__setup_called = False", "  self.__teardown_called = False", "  self._traceback_id_gens = {}"] :=
  ⟨rfl, rfl, rfl, rfl, rfl, rfl, rfl, rfl, rfl, rfl, rfl, rfl, rfl, rfl, rfl, rfl⟩

end src

end TTV.Props.C05
