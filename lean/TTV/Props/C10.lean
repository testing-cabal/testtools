import TTV.Lemmas.Stream
import TTV.Lemmas.ConsumerSrc
import TTV.Generated.ConsumerSrc
/-! # C10 — stream consumers account for every test exactly once

All statements are for **every** finite list of `status` events (any ids, route codes, statuses, tags,
attachments, timestamps; no length bound).

The specification's `report` is what `_update_case` accumulates, one event at a time (`report_concat`, `upd_recOf`), so the
table holds exactly the open lifetimes, each record the report of its lifetime so far (`Inv`).  A run is read twice: per key,
where the events of other keys do not matter (`run_key`: `closedOf` is handed over, `openTail` stays as the record), and as a
whole in the specification's order (`run_closed` for the hand-overs, `open_run` for the order in which `stopTestRun` finds
the rest).  The two give `C10_once` and `C10_refines`; the summary and the decorator are read off `C10_refines`.  A consumer
whose callback raises is reduced to the plain one, because the record is popped before the callback runs (`runF_run`,
`stopAll_handed`). -/
namespace TTV.Props.C10
open TTV.Stream TTV.Spec.C10

theorem counted_eq (s : Status) : Generated.Stream.counted s = (s != .exist) := by cases s <;> rfl
theorem bucket_eq (s : Status) : Generated.Stream.bucket s = specBucket s := by cases s <;> rfl

theorem isFinal_eq (e : Event) : isFinal e = evFinal e := by
  unfold isFinal evFinal
  cases h : e.status with
  | none => simp [finalStatus, Generated.Stream.interim]
  | some s => cases s <;> simp [finalStatus, Generated.Stream.interim]

theorem lastSome_snoc {α : Type} (xs : List (Option α)) (x : Option α) (d : α) :
    (lastSome (xs ++ [x])).getD d = x.getD ((lastSome xs).getD d) := by
  cases x <;> simp [lastSome, List.filterMap_append]

theorem mem_firsts_aux (acc xs : List Nat) (y : Nat) :
    y ∈ xs.foldl (fun acc x => if x ∈ acc then acc else acc ++ [x]) acc ↔ y ∈ acc ∨ y ∈ xs := by
  induction xs generalizing acc with
  | nil => simp
  | cons x xs ih =>
    rw [List.foldl_cons, ih, List.mem_cons]
    split
    · next h => exact ⟨.imp_right .inr, fun h1 => h1.elim .inl (·.elim (fun h2 => .inl (h2 ▸ h)) .inr)⟩
    · simp only [List.mem_append, List.mem_singleton, or_assoc]

theorem mem_firsts (xs : List Nat) (y : Nat) : y ∈ firsts xs ↔ y ∈ xs := by
  simpa [firsts] using mem_firsts_aux [] xs y

theorem nodup_firsts_aux (acc xs : List Nat) (h : acc.Nodup) :
    (xs.foldl (fun acc x => if x ∈ acc then acc else acc ++ [x]) acc).Nodup := by
  induction xs generalizing acc with
  | nil => exact h
  | cons x xs ih =>
    apply ih
    show (if x ∈ acc then acc else acc ++ [x]).Nodup
    split
    · exact h
    · next hx => exact List.nodup_append.mpr ⟨h, by simp, fun a ha b hb hab => hx (List.mem_singleton.mp hb ▸ hab ▸ ha)⟩

theorem nodup_firsts (xs : List Nat) : (firsts xs).Nodup := nodup_firsts_aux [] xs List.nodup_nil

theorem firsts_snoc (xs : List Nat) (x : Nat) :
    firsts (xs ++ [x]) = if x ∈ firsts xs then firsts xs else firsts xs ++ [x] := by
  unfold firsts
  rw [List.foldl_append]
  rfl

/-- the `details` field of `report`, as a function of the chunks: `(report id l c).details` unfolds to
`detailsOf (l.filterMap chunk)` -/
def detailsOf (cs : List (Nat × Option Nat × Bytes)) : List Detail := (firsts (cs.map (·.1))).map (detailOf cs)

theorem detailNames_detailsOf (cs : List (Nat × Option Nat × Bytes)) :
    detailNames (detailsOf cs) = firsts (cs.map (·.1)) := by
  simp only [detailNames, detailsOf, List.map_map]
  exact List.map_id' _

theorem detailOf_snoc_other (cs : List (Nat × Option Nat × Bytes)) (c : Nat × Option Nat × Bytes) (x : Nat)
    (h : x ≠ c.1) : detailOf (cs ++ [c]) x = detailOf cs x := by
  have : (c.1 == x) = false := beq_false_of_ne (Ne.symm h)
  simp [detailOf, List.filter_append, this]

theorem detailOf_snoc_new (cs : List (Nat × Option Nat × Bytes)) (n : Nat) (m : Option Nat) (bs : Bytes)
    (h : n ∉ cs.map (·.1)) : detailOf (cs ++ [(n, m, bs)]) n = { name := n, mime := m.getD 0, bytes := bs } := by
  have : cs.filter (fun c => c.1 == n) = [] :=
    List.filter_eq_nil_iff.mpr fun c hc hh => h (List.mem_map.mpr ⟨c, hc, beq_iff_eq.mp hh⟩)
  simp [detailOf, List.filter_append, this]

theorem detailOf_snoc_old (cs : List (Nat × Option Nat × Bytes)) (n : Nat) (m : Option Nat) (bs : Bytes)
    (h : n ∈ cs.map (·.1)) :
    detailOf (cs ++ [(n, m, bs)]) n = { detailOf cs n with bytes := (detailOf cs n).bytes ++ bs } := by
  obtain ⟨c, hc, hcn⟩ := List.mem_map.mp h
  cases hf : cs.filter (fun c => c.1 == n) with
  | nil => exact absurd (beq_iff_eq.mpr hcn) (List.filter_eq_nil_iff.mp hf c hc)
  | cons d ds => simp [detailOf, List.filter_append, hf]

theorem detailsOf_snoc (cs : List (Nat × Option Nat × Bytes)) (n : Nat) (m : Option Nat) (bs : Bytes) :
    detailsOf (cs ++ [(n, m, bs)]) = addFile (detailsOf cs) n m bs := by
  simp only [detailsOf, List.map_append, List.map_cons, List.map_nil, firsts_snoc, mem_firsts]
  split
  · next h =>
    rw [← detailsOf, addFile_eq_map _ n m bs (by rwa [detailNames_detailsOf, mem_firsts])
      (detailNames_detailsOf cs ▸ nodup_firsts _), detailsOf, List.map_map]
    refine List.map_congr_left fun x hx => ?_
    show _ = if x = n then _ else _
    split
    · next hxn => subst hxn; exact detailOf_snoc_old cs x m bs h
    · next hxn => exact detailOf_snoc_other cs _ x hxn
  · next h =>
    have h' : n ∉ firsts (cs.map (·.1)) := fun hm => h ((mem_firsts _ _).mp hm)
    rw [List.map_append, List.map_congr_left fun x hx => detailOf_snoc_other cs (n, m, bs) x fun hxn : x = n => h' (hxn ▸ hx), List.map_cons, List.map_nil,
      detailOf_snoc_new cs n m bs h]
    exact (addFile_of_not_mem _ n m bs (by rwa [← detailsOf, detailNames_detailsOf])).symm

theorem detailsOf_addChunk (l : List Event) (e : Event) :
    detailsOf ((l ++ [e]).filterMap chunk) = addChunk (detailsOf (l.filterMap chunk)) e := by
  rw [List.filterMap_append]
  unfold addChunk
  cases hn : e.fileName <;> rcases hb : e.fileBytes with _ | _ | ⟨b, bs⟩ <;>
    simp only [List.filterMap_cons, List.filterMap_nil, chunk, hn, hb, List.append_nil]
  exact detailsOf_snoc ..

/-- `ts0` is set again because `report id [] true` has none, while a record has its first timestamp from `create` on: for
a non-empty `l` the correction changes nothing -/
theorem report_concat (id : Nat) (l : List Event) (e : Event) :
    report id (l ++ [e]) true
      = { upd (report id l true) e with ts0 := ((l ++ [e]).head?).bind (·.timestamp) } := by
  rw [upd_eq]
  simp only [report, List.map_append, List.map_cons, List.map_nil, lastSome_snoc, List.getLast?_concat, if_true,
    Option.bind_some, Report.mk.injEq, true_and, and_true]
  exact detailsOf_addChunk l e

theorem report_open (id : Nat) (l : List Event) : { report id l true with ts1 := none } = report id l false := by
  simp [report]

theorem openTail_append (acc xs ys : List Event) : openTail acc (xs ++ ys) = openTail (openTail acc xs) ys := by
  induction xs generalizing acc with
  | nil => rfl
  | cons x xs ih => simp only [List.cons_append, openTail]; split <;> exact ih _

theorem openTail_of_no_final (acc xs : List Event) (h : xs.any evFinal = false) : openTail acc xs = acc ++ xs := by
  induction xs generalizing acc with
  | nil => simp [openTail]
  | cons x xs ih =>
    simp only [List.any_cons, Bool.or_eq_false_iff] at h
    simp only [openTail, h.1, Bool.false_eq_true, if_false, ih _ h.2, List.append_assoc, List.singleton_append]

/-- the closed lifetimes of a key's events: cut after every final event (`acc` = events since the last cut).  The
specification speaks of closed lifetimes only one at a time, where `closedReports` builds the report of one from `cur`;
this is the whole list, for the statements per key. -/
def closedOf : List Event → List Event → List (List Event)
  | _, [] => []
  | acc, e :: es => if evFinal e then (acc ++ [e]) :: closedOf [] es else closedOf (acc ++ [e]) es

theorem proj_cons (k : Key) (e : Event) (es : List Event) :
    proj k (e :: es) = if key e = some k then e :: proj k es else proj k es := by
  simp only [proj, List.filter_cons, beq_iff_eq]

theorem cur_append (k : Key) (pre es : List Event) : cur k (pre ++ es) = openTail (cur k pre) (proj k es) := by
  simp only [cur, proj, List.filter_append, openTail_append]

theorem cur_snoc (k : Key) (es : List Event) (e : Event) :
    cur k (es ++ [e]) = if key e = some k then (if evFinal e then [] else cur k es ++ [e]) else cur k es := by
  rw [cur_append, proj_cons]
  split <;> simp only [proj, List.filter_nil, openTail]

/-- the record of a lifetime so far -/
def recOf (k : Key) : List Event → Option Report
  | [] => none
  | a :: l => some (report k.1 (a :: l) true)

theorem recOf_snoc (k : Key) (acc : List Event) (e : Event) : recOf k (acc ++ [e]) = some (report k.1 (acc ++ [e]) true) := by
  cases acc <;> rfl

theorem upd_recOf (k : Key) (acc : List Event) (e : Event) :
    upd ((recOf k acc).getD (create k.1 e)) e = report k.1 (acc ++ [e]) true := by
  rw [report_concat, upd_eq, upd_eq]
  cases acc <;> rfl

/-- the table holds exactly the open lifetimes: one record per key with an open lifetime (none where `cur` is empty:
`report` of no events would still be a record), and that record is the report of the lifetime so far -/
structure Inv (pre : List Event) (t : Tbl) : Prop where
  nodup : (Tbl.keys t).Nodup
  get : ∀ k, t.get k = recOf k (cur k pre)

theorem Inv.nil : Inv [] [] := ⟨List.nodup_nil, fun _ => rfl⟩

theorem Inv.mem_keys {pre : List Event} {t : Tbl} (hI : Inv pre t) (k : Key) :
    k ∈ Tbl.keys t ↔ (cur k pre).isEmpty = false := by
  have h := Tbl.get_eq_none_iff t k
  rw [hI.get k] at h
  cases hc : cur k pre <;> simpa [hc, recOf] using h

theorem step_key_none (t : Tbl) (e : Event) (h : key e = none) : step t e = (t, []) := by simp [step, h]

theorem step_key_some {t : Tbl} {k : Key} {acc : List Event} (ht : t.get k = recOf k acc) {e : Event} (hk : key e = some k) :
    step t e = if evFinal e then (t.del k, [(k, report k.1 (acc ++ [e]) true)])
      else (t.set k (report k.1 (acc ++ [e]) true), []) := by
  simp only [step, hk, isFinal_eq, ht, upd_recOf]

theorem step_key_ne (t : Tbl) {k : Key} {e : Event} (hk : key e ≠ some k) :
    (step t e).1.get k = t.get k ∧ (step t e).2.filter (·.1 == k) = [] := by
  unfold step
  cases hk' : key e with
  | none => exact ⟨rfl, rfl⟩
  | some k' =>
    have hne : k' ≠ k := fun h => hk (hk' ▸ h ▸ rfl)
    dsimp only
    split
    · exact ⟨Tbl.get_del_of_ne _ hne, by simp [hne]⟩
    · exact ⟨Tbl.get_set_of_ne _ _ hne, rfl⟩

theorem run_key {t : Tbl} {k : Key} {acc : List Event} (ht : t.get k = recOf k acc) (es : List Event) :
    (run t es).1.get k = recOf k (openTail acc (proj k es))
    ∧ ((run t es).2.filter (·.1 == k)).map (·.2) = (closedOf acc (proj k es)).map (report k.1 · true) := by
  induction es generalizing t acc with
  | nil => exact ⟨ht, rfl⟩
  | cons e es ih =>
    simp only [run, proj_cons, List.filter_append, List.map_append]
    by_cases hk : key e = some k
    · rw [if_pos hk, step_key_some ht hk, openTail, closedOf]
      split
      · obtain ⟨h1, h2⟩ := ih (acc := []) (Tbl.get_del_self t k)
        exact ⟨h1, by simp [h2]⟩
      · exact ih ((Tbl.get_set_self t k _).trans (recOf_snoc k acc e).symm)
    · obtain ⟨h1, h2⟩ := step_key_ne t hk
      rw [if_neg hk, h2]
      exact ih (h1.trans ht)

theorem nodup_step (t : Tbl) (e : Event) (h : (Tbl.keys t).Nodup) : (Tbl.keys (step t e).1).Nodup := by
  unfold step
  cases key e with
  | none => exact h
  | some k =>
    dsimp only
    split
    · exact Tbl.keys_del t k ▸ h.filter _
    · exact Tbl.nodup_keys_set t k _ h

theorem Inv.after_run {pre : List Event} {t : Tbl} (hI : Inv pre t) (es : List Event) : Inv (pre ++ es) (run t es).1 := by
  refine ⟨?_, fun k => by rw [(run_key (hI.get k) es).1, cur_append]⟩
  have := hI.nodup
  clear hI
  induction es generalizing t with
  | nil => exact this
  | cons e es ih => exact ih (nodup_step t e this)

theorem Inv.after_step {pre : List Event} {t : Tbl} (hI : Inv pre t) (e : Event) : Inv (pre ++ [e]) (step t e).1 :=
  hI.after_run [e]  -- `(run t [e]).1` reduces to `(step t e).1`

theorem keys_step {pre : List Event} {t : Tbl} (hI : Inv pre t) (e : Event) :
    Tbl.keys (step t e).1 = match key e with
      | none => Tbl.keys t
      | some k =>
        if evFinal e then (Tbl.keys t).filter (· != k)
        else if (cur k pre).isEmpty then Tbl.keys t ++ [k] else Tbl.keys t := by
  cases hk : key e with
  | none => rw [step_key_none t e hk]
  | some k =>
    rw [step_key_some (hI.get k) hk]
    dsimp only
    split
    · exact Tbl.keys_del t k
    · cases hc : (cur k pre).isEmpty with
      | false => exact Tbl.keys_set_of_mem _ _ _ ((hI.mem_keys k).mpr hc)
      | true =>
        rw [Tbl.set_of_not_mem _ _ _ (by simp [hI.mem_keys, hc])]
        simp [Tbl.keys]

theorem run_closed {pre : List Event} {t : Tbl} (hI : Inv pre t) (es : List Event) :
    (run t es).2.map (·.2) = closedReports pre es := by
  induction es generalizing pre t with
  | nil => rfl
  | cons e es ih =>
    simp only [run, closedReports, List.map_append, ih (hI.after_step e)]
    congr 1
    cases hk : key e with
    | none => rw [step_key_none t e hk]; rfl
    | some k => rw [step_key_some (hI.get k) hk]; dsimp only; split <;> rfl

def alive (es : List Event) (k : Key) : Bool := !(proj k es).any evFinal

theorem alive_cons (e : Event) (es : List Event) :
    alive (e :: es) = fun k => !(key e == some k && evFinal e) && alive es k := by
  funext k
  simp only [alive, proj_cons]
  split <;> simp [*]

/-- the table's keys in insertion order are the lifetimes still open in the order in which they began.  Both sides are
mapped to the report at the end of the run, `cur k (pre ++ es)`: that, not the lifetime as it was when the key entered the
table, is what `stopTestRun` hands over. -/
theorem open_run {pre : List Event} {t : Tbl} (hI : Inv pre t) (es : List Event) :
    (Tbl.keys (run t es).1).map (fun k => report k.1 (cur k (pre ++ es)) false)
      = ((Tbl.keys t).filter (alive es)).map (fun k => report k.1 (cur k (pre ++ es)) false) ++ openReports pre es := by
  induction es generalizing pre t with
  | nil => simp [run, openReports, show alive [] = fun _ => true from rfl, List.filter_eq_self.mpr]
  | cons e es ih =>
    have := ih (hI.after_step e)
    rw [List.append_assoc, List.singleton_append] at this
    simp only [run, openReports]
    rw [this, keys_step hI e, ← List.append_assoc, alive_cons]
    congr 1
    cases hk : key e with
    | none => simp
    | some k =>
      dsimp only
      cases hf : evFinal e with
      | true =>
        simp only [if_true, List.filter_filter, Bool.not_true, Bool.false_and, Bool.false_eq_true, if_false, List.append_nil]
        congr 1
        refine List.filter_congr fun k' _ => ?_
        rw [Bool.and_comm, bne, BEq.comm]
        simp
      | false =>
        cases hc : cur k pre with
        | cons a l => simp
        | nil =>
          have : (proj k es).any evFinal = false → cur k (pre ++ e :: es) = e :: proj k es := fun ha => by
            rw [cur_append, hc, proj_cons, if_pos hk, openTail_of_no_final [] _ (by simp [hf, ha]), List.nil_append]
          simp only [Bool.false_eq_true, if_false, if_true, Bool.and_false, Bool.not_false, Bool.true_and, List.isEmpty_nil,
            List.filter_append, List.map_append]
          congr 1
          cases ha : (proj k es).any evFinal
          · simp [alive, ha, this ha]
          · simp [alive, ha]

theorem Inv.flush_eq {pre : List Event} {t : Tbl} (hI : Inv pre t) :
    (flush t).map (·.2) = ((Tbl.keys t).map fun k => report k.1 (cur k pre) false).reverse := by
  simp only [flush, Tbl.keys, List.map_map, List.map_reverse]
  congr 1
  refine List.map_congr_left fun p hp => ?_
  have := hI.get p.1
  rw [Tbl.get_of_mem t hI.nodup p.1 p.2 hp] at this
  cases hc : cur p.1 pre with
  | nil => rw [hc] at this; cases this
  | cons a l => rw [hc] at this; simp only [Function.comp, hc, Option.some.inj this, report_open]

/-- **C10 (refinement)**: for every event list the callbacks made by the table-based consumer
(`_StreamToTestRecord`, hence `StreamToDict`) are exactly the reports of the lifetimes: each closed lifetime
when its final status arrives, then at `stopTestRun` the open ones, most recently begun first, without second
timestamp. -/
theorem C10_refines (es : List Event) : consume es = reports es := by
  simp only [consume, consumeKeyed, List.map_append, reports]
  rw [run_closed Inv.nil es, (Inv.nil.after_run es).flush_eq, open_run Inv.nil es]
  rfl

/-- the lifetimes partition the key's events: nothing is lost, nothing is counted twice -/
theorem C10_lifetimes_partition (acc xs : List Event) :
    (closedOf acc xs).flatten ++ openTail acc xs = acc ++ xs := by
  induction xs generalizing acc with
  | nil => simp [closedOf, openTail]
  | cons x xs ih =>
    simp only [closedOf, openTail]
    split
    · simp [ih []]
    · simp [ih (acc ++ [x])]

/-- a closed lifetime ends with a final event and contains no other one (given that the events carried over
from before, `acc`, are not final) -/
theorem C10_lifetimes_closed (acc xs : List Event) (hacc : ∀ e ∈ acc, evFinal e = false) :
    ∀ l ∈ closedOf acc xs, ∃ init e, l = init ++ [e] ∧ evFinal e = true ∧ ∀ x ∈ init, evFinal x = false := by
  induction xs generalizing acc with
  | nil => simp [closedOf]
  | cons x xs ih =>
    intro l hl
    simp only [closedOf] at hl
    split at hl
    · next hx =>
      rcases List.mem_cons.mp hl with hl | hl
      · exact ⟨acc, x, hl, hx, hacc⟩
      · exact ih [] (by simp) l hl
    · next hx =>
      refine ih (acc ++ [x]) (fun e he => ?_) l hl
      rcases List.mem_append.mp he with he | he
      · exact hacc e he
      · rw [List.mem_singleton.mp he]; simpa using hx

/-- from any state of the invariant (`pre`: the events so far): what is handed over for `es` and what a flush would add, for one
key, are the lifetimes that `es` closes, the first continuing the open one, and the lifetime left open -/
theorem once_from {pre : List Event} {t : Tbl} (hI0 : Inv pre t) (es : List Event) (k : Key) :
    (((run t es).2 ++ flush (run t es).1).filter (·.1 == k)).map (·.2)
      = (closedOf (cur k pre) (proj k es)).map (report k.1 · true)
        ++ (match cur k (pre ++ es) with | [] => [] | a :: l => [report k.1 (a :: l) false]) := by
  have hI := hI0.after_run es
  simp only [List.filter_append, List.map_append]
  rw [(run_key (hI0.get k) es).2]
  congr 1
  simp only [flush, List.filter_map, List.filter_reverse]
  have : ((fun x : Key × Report => x.1 == k) ∘ fun p : Key × Report => (p.1, { p.2 with ts1 := none }))
      = fun x => x.1 == k := rfl
  rw [this, Tbl.filter_key _ k hI.nodup, hI.get k]
  cases cur k (pre ++ es) with
  | nil => rfl
  | cons a l => simp [recOf, report_open]

/-- **C10 (exactly once, per key)**: the reports made for key `(test id, route code)` are exactly the lifetimes
of that key, in order — one report per closed lifetime, and one (without second timestamp) for the open lifetime
if there is one.  Events of other keys do not interfere. -/
theorem C10_once (es : List Event) (k : Key) :
    ((consumeKeyed es).filter (·.1 == k)).map (·.2)
      = (closedOf [] (proj k es)).map (report k.1 · true)
        ++ (match cur k es with | [] => [] | a :: l => [report k.1 (a :: l) false]) :=
  once_from Inv.nil es k

/-- **C10**: events without a test id are ignored — removing (or inserting) them anywhere changes nothing. -/
theorem C10_no_id_ignored (es : List Event) : consume (es.filter fun e => e.testId.isSome) = consume es := by
  have h : ∀ t, run t (es.filter fun e => e.testId.isSome) = run t es := by
    induction es with
    | nil => intro t; rfl
    | cons e es ih =>
      intro t
      cases hid : e.testId with
      | none =>
        have : key e = none := by simp [key, hid]
        simp [hid, run, step_key_none t e this, ih t]
      | some n => simp [hid, run, ih]
  simp [consume, consumeKeyed, h]

theorem C10_report_status (id : Nat) (l : List Event) (c : Bool) :
    (report id l c).status = ((l.filterMap (·.status)).getLast?).getD .unknown := by
  simp [report, lastSome, List.filterMap_map]
theorem C10_report_tags (id : Nat) (l : List Event) (c : Bool) :
    (report id l c).tags = ((l.filterMap (·.tags)).getLast?).getD [] := by
  simp [report, lastSome, List.filterMap_map]
theorem C10_report_timestamps (id : Nat) (a : Event) (l : List Event) :
    (report id (a :: l) true).ts0 = a.timestamp ∧ (report id (a :: l) true).ts1 = ((a :: l).getLast?).bind (·.timestamp)
    ∧ (report id (a :: l) false).ts0 = a.timestamp ∧ (report id (a :: l) false).ts1 = none := by
  simp [report]
/-- attachments: one entry per file name that received a non-empty chunk, no name twice; its bytes are the
concatenation of that name's non-empty chunks in arrival order, its content type that of the first of them -/
theorem C10_report_files (id : Nat) (l : List Event) (c : Bool) :
    ((report id l c).details.map (·.name)).Nodup
    ∧ (∀ n, n ∈ (report id l c).details.map (·.name) ↔ ∃ e ∈ l, ∃ m bs, chunk e = some (n, m, bs))
    ∧ ∀ d ∈ (report id l c).details,
        d.bytes = (((l.filterMap chunk).filter (·.1 == d.name)).map (·.2.2)).flatten
        ∧ d.mime = ((((l.filterMap chunk).filter (·.1 == d.name)).head?).bind (·.2.1)).getD 0 := by
  have hmap : (report id l c).details.map (·.name) = firsts ((l.filterMap chunk).map (·.1)) :=
    detailNames_detailsOf (l.filterMap chunk)
  refine ⟨hmap ▸ nodup_firsts _, fun n => ?_, fun d hd => ?_⟩
  · rw [hmap, mem_firsts]
    simp only [List.mem_map, List.mem_filterMap]
    constructor
    · rintro ⟨⟨n', m, bs⟩, ⟨e, he, hc⟩, rfl⟩; exact ⟨e, he, m, bs, hc⟩
    · rintro ⟨e, he, m, bs, hc⟩; exact ⟨(n, m, bs), ⟨e, he, hc⟩, rfl⟩
  · simp only [report, List.mem_map] at hd
    obtain ⟨n, _, rfl⟩ := hd
    simp [detailOf]

theorem push_eq (s : Summary) (b : Bucket) (id : Nat) :
    s.push b id = { s with
      errors := s.errors ++ (if b == .errors then [id] else [])
      failures := s.failures ++ (if b == .failures then [id] else [])
      skipped := s.skipped ++ (if b == .skipped then [id] else [])
      expectedFailures := s.expectedFailures ++ (if b == .expectedFailures then [id] else [])
      unexpectedSuccesses := s.unexpectedSuccesses ++ (if b == .unexpectedSuccesses then [id] else []) } := by
  cases b <;> simp [Summary.push]

theorem idsWith_cons (r : Report) (rs : List Report) (b : Bucket) :
    idsWith (r :: rs) b = (if specBucket r.status == b then [r.id] else []) ++ idsWith rs b := by
  simp only [idsWith, List.filter_cons]; split <;> rfl

theorem gather_eq (s : Summary) (r : Report) :
    gather s r = { s with
      testsRun := s.testsRun + (if r.status != .exist then 1 else 0)
      errors := s.errors ++ (if specBucket r.status == .errors then [r.id] else [])
      skipped := s.skipped ++ (if specBucket r.status == .skipped then [r.id] else [])
      expectedFailures := s.expectedFailures ++ (if specBucket r.status == .expectedFailures then [r.id] else [])
      unexpectedSuccesses := s.unexpectedSuccesses ++ (if specBucket r.status == .unexpectedSuccesses then [r.id] else []) } := by
  rw [gather, counted_eq, bucket_eq]
  by_cases h : r.status = .exist
  · simp [h, specBucket]
  · have hb : (specBucket r.status == .failures) = false := by cases r.status <;> rfl
    simp [bne_iff_ne.mpr h, hb, push_eq]

theorem fold_gather (rs : List Report) (s : Summary) :
    rs.foldl gather s = { s with
      testsRun := s.testsRun + (rs.filter fun r => r.status != .exist).length
      errors := s.errors ++ idsWith rs .errors
      skipped := s.skipped ++ idsWith rs .skipped
      expectedFailures := s.expectedFailures ++ idsWith rs .expectedFailures
      unexpectedSuccesses := s.unexpectedSuccesses ++ idsWith rs .unexpectedSuccesses } := by
  induction rs generalizing s with
  | nil => simp [idsWith]
  | cons r rs ih =>
    rw [List.foldl_cons, ih, gather_eq]
    simp only [idsWith_cons r rs, List.append_assoc, Nat.add_assoc, ← List.countP_eq_length_filter, List.countP_cons,
      Nat.add_comm (List.countP _ rs)]
theorem summarise_eq (rs : List Report) :
    summarise rs = { testsRun := (rs.filter fun r => r.status != .exist).length, errors := idsWith rs .errors, failures := [],
                     skipped := idsWith rs .skipped, expectedFailures := idsWith rs .expectedFailures,
                     unexpectedSuccesses := idsWith rs .unexpectedSuccesses, wasSuccessful := (idsWith rs .errors).isEmpty } := by
  simp [summarise, fold_gather, Summary.empty]

theorem failed_eq_bucket (s : Status) : failedOrIncomplete s = (specBucket s == .errors) := by
  cases s <;> rfl

/-- **C10 (summary)**: `testsRun` counts the reported tests whose status is not `exists`; each of them lands in
exactly the list its status names (none for success) — skip / xfail / uxsuccess in theirs, failed and incomplete
(`inprogress`, `unknown`) tests in `errors`, nothing in `failures`. -/
theorem C10_summary (es : List Event) :
    (summarise (consume es)).testsRun = ((reports es).filter fun r => r.status != .exist).length
    ∧ (summarise (consume es)).errors = idsWith (reports es) .errors
    ∧ (summarise (consume es)).failures = []
    ∧ (summarise (consume es)).skipped = idsWith (reports es) .skipped
    ∧ (summarise (consume es)).expectedFailures = idsWith (reports es) .expectedFailures
    ∧ (summarise (consume es)).unexpectedSuccesses = idsWith (reports es) .unexpectedSuccesses := by
  rw [C10_refines, summarise_eq]
  exact ⟨rfl, rfl, rfl, rfl, rfl, rfl⟩

/-- **C10 (verdict)**: `wasSuccessful()` is false exactly when some reported test failed or is incomplete. -/
theorem C10_verdict (es : List Event) :
    (summarise (consume es)).wasSuccessful = false ↔ ∃ r ∈ reports es, failedOrIncomplete r.status = true := by
  rw [C10_refines, summarise_eq]
  simp only [idsWith, List.isEmpty_eq_false_iff, ne_eq, List.map_eq_nil_iff, List.filter_eq_nil_iff, failed_eq_bucket]
  exact ⟨fun h => Classical.byContradiction fun hn => h fun r hr hb => hn ⟨r, hr, hb⟩, fun ⟨r, hr, hb⟩ h => h r hr hb⟩

theorem timeOk_refl (t : Option Ts) : timeOk t t = true := by
  simpa using timeOk_or t none

theorem body_wrap (mid : List ExtEv) : body ([.startTestRun] ++ mid ++ [.stopTestRun]) = some mid := by
  simp [body]

theorem report_status_ne (tid : Nat) (l : List Event) (c : Bool) (s : Status) (hs : s ≠ .unknown)
    (h : ∀ e ∈ l, e.status ≠ some s) : (report tid l c).status ≠ s := by
  rw [C10_report_status]
  cases hl : (l.filterMap (·.status)).getLast? with
  | none => exact fun hh => hs hh.symm
  | some x =>
    rintro rfl
    obtain ⟨e, he, he2⟩ := List.mem_filterMap.mp (List.mem_of_getLast? hl)
    exact h e he he2

theorem consumeKeyed_lifetime (es : List Event) : ∀ p ∈ consumeKeyed es,
    ∃ (l : List Event) (c : Bool), p.2 = report p.1.1 l c ∧ ∀ e ∈ l, e ∈ proj p.1 es := by
  intro (k, r) hp
  have hm : r ∈ ((consumeKeyed es).filter (·.1 == k)).map (·.2) :=
    List.mem_map_of_mem (List.mem_filter.mpr ⟨hp, beq_self_eq_true k⟩)
  have hsub : ∀ e ∈ (closedOf [] (proj k es)).flatten ++ cur k es, e ∈ proj k es :=
    fun e he => by rwa [cur, C10_lifetimes_partition] at he
  rw [C10_once, List.mem_append, List.mem_map] at hm
  rcases hm with ⟨l, hl, h⟩ | hm
  · exact ⟨l, true, h.symm, fun e he => hsub e (List.mem_append_left _ (List.mem_flatten.mpr ⟨l, hl, he⟩))⟩
  · cases hc : cur k es with
    | nil => rw [hc] at hm; cases hm
    | cons a l =>
      rw [hc] at hm hsub
      exact ⟨a :: l, false, List.mem_singleton.mp hm, fun e he => hsub e (List.mem_append_right _ he)⟩

theorem consume_status_ne (s : Status) (hs : s ≠ .unknown) (es : List Event) (h : ∀ e ∈ es, e.status ≠ some s) :
    ∀ r ∈ consume es, r.status ≠ s := by
  intro r hr
  rw [consume, List.mem_map] at hr
  obtain ⟨p, hp, rfl⟩ := hr
  obtain ⟨l, c, hr, hl⟩ := consumeKeyed_lifetime es p hp
  exact hr ▸ report_status_ne _ _ _ s hs fun e he => h e (List.mem_filter.mp (hl e he)).1

theorem consume_no_exists (es : List Event) : ∀ r ∈ consume (es.filter fun e => e.status != some .exist), r.status ≠ .exist :=
  consume_status_ne .exist (by decide) _ fun e he => by simpa using (List.mem_filter.mp he).2

/-- **C10 (to extended)**: the calls `StreamToExtendedDecorator` makes are `startTestRun`, then for each report of
the stream without its `exists` events one well-formed `startTest · outcome · stopTest` bracket — same id, the
outcome of the status (`fail`/incomplete ↦ failure), the report's tags in force, the supplied times in force, the
same attachments — then `stopTestRun`. -/
theorem C10_to_extended (es : List Event) :
    ∃ mid seen, toExtended es = [.startTestRun] ++ mid ++ [.stopTestRun] ∧ interp {} mid = some seen
      ∧ all2 replays (reports (es.filter fun e => e.status != some .exist)) seen = true := by
  obtain ⟨seen, h1, h2⟩ := interp_brackets _ (consume_no_exists es) none
  exact ⟨_, seen, rfl, h1, C10_refines _ ▸ h2⟩

theorem runF_run (faults : List Nat) : ∀ (es : List Event) (s : FSt) (i : Nat),
    (runF faults s i es).1.tbl = (run s.tbl es).1 ∧ (runF faults s i es).2.1 = (run s.tbl es).2.map (·.2)
  | [], _, _ => ⟨rfl, rfl⟩
  | e :: es, s, i => by
      obtain ⟨h1, h2⟩ := runF_run faults es (statusF faults s e).1 (i + 1)
      obtain ⟨h3, h4⟩ := statusF_step faults s e
      simp only [runF, run, h1, h2, h3, h4, List.map_append, and_self]

/-- one `stopTestRun()` call: handed over ++ left = the records it found; if it raised it left fewer than it found; if it
returned it left none -/
theorem stopLoop_split (faults : List Nat) : ∀ (l : List (Key × Report)) (n : Nat),
    (stopLoop faults l n).1 ++ (stopLoop faults l n).2.1.map (fun p => ({ p.2 with ts1 := none } : Report))
        = l.map (fun p => ({ p.2 with ts1 := none } : Report))
    ∧ ((stopLoop faults l n).2.2.2 = true → (stopLoop faults l n).2.1.length < l.length)
    ∧ ((stopLoop faults l n).2.2.2 = false → (stopLoop faults l n).2.1 = [])
  | [], n => by simp [stopLoop]
  | p :: rest, n => by
      simp only [stopLoop]
      split
      · simp
      · obtain ⟨h1, h2, h3⟩ := stopLoop_split faults rest (n + 1)
        exact ⟨by simp [h1], fun h => Nat.lt_succ_of_lt (h2 h), h3⟩

/-- `consumeF` allows `stopAll` one call more than there are records: a call that raises leaves fewer than it found
(`stopLoop_split`), so the calls run out before the fuel does -/
theorem stopAll_handed (faults : List Nat) : ∀ (fuel : Nat) (l : List (Key × Report)) (n : Nat), l.length < fuel →
    (stopAll faults fuel l n).1 = l.map (fun p => ({ p.2 with ts1 := none } : Report))
  | 0, l, n, h => by omega
  | fuel + 1, l, n, h => by
      obtain ⟨h1, h2, h3⟩ := stopLoop_split faults l n
      simp only [stopAll]
      split
      · next hr =>
        rw [stopAll_handed faults fuel _ _ (by have := h2 hr; omega), h1]
      · next hr =>
        simpa [h3 (Bool.not_eq_true _ ▸ hr)] using h1

/-- **C10 (exactly once, under consumer faults)**: whatever hand-overs the consumer's callback raises at — at a final
status (the exception leaves `status()`), or inside `stopTestRun()` (which the driver then calls again) — the
records handed to it are exactly the reports of the lifetimes, each once and in the same order: the one whose
hand-over raised is not handed over again at `stopTestRun()`, and the open lifetimes are still all reported. -/
theorem C10_once_under_faults (faults : List Nat) (es : List Event) : (consumeF faults es).handed = reports es := by
  obtain ⟨h1, h2⟩ := runF_run faults es { tbl := [], n := 0 } 0
  simp only [consumeF, h2, h1, ← C10_refines, consume, consumeKeyed, flush, List.map_append, List.map_map]
  rw [stopAll_handed faults _ _ _ (by simp)]
  rfl

theorem startIds_append (a b : List ExtEv) : startIds (a ++ b) = startIds a ++ startIds b := by
  induction a with
  | nil => rfl
  | cons x a ih => cases x <;> simp [startIds, ih]

theorem startIds_optTime (t : Option Ts) : startIds (optTime t) = [] := by cases t <;> rfl

theorem startIds_bracket (b : Bool) (r : Report) (h : r.status ≠ .exist) :
    startIds (if b then bracketAborted r else bracket r) = [r.id] := by
  obtain ⟨o, ho⟩ := exists_specOutcome h
  split <;> simp [bracket, bracketAborted, statusMap_eq, ho, startIds_append, startIds_optTime, startIds]

theorem startIds_bracketsF (faults : List Nat) : ∀ (rs : List Report) (n : Nat), (∀ r ∈ rs, r.status ≠ .exist) →
    startIds (bracketsF faults n rs) = rs.map (·.id)
  | [], _, _ => rfl
  | r :: rs, n, h => by
      simp only [bracketsF, startIds_append, startIds_bracket _ r (h r (by simp)),
        startIds_bracketsF faults rs (n + 1) (fun r' hr' => h r' (by simp [hr'])), List.map_cons, List.singleton_append]

theorem bracketsF_nofault (faults : List Nat) : ∀ (rs : List Report) (n : Nat),
    (∀ k ∈ faults, n + rs.length ≤ k) → bracketsF faults n rs = (rs.map bracket).flatten
  | [], _, _ => rfl
  | r :: rs, n, h => by
      have hn : faults.contains n = false := by
        simp only [List.contains_eq_mem, decide_eq_false_iff_not]
        intro hm
        have := h n hm
        simp only [List.length_cons] at this; omega
      simp only [bracketsF, hn, Bool.false_eq_true, if_false, List.map_cons, List.flatten_cons]
      rw [bracketsF_nofault faults rs (n + 1)]
      intro k hk
      have := h k hk
      simp only [List.length_cons] at this; omega

theorem toExtendedF_nofault (faults : List Nat) (es : List Event)
    (h : ∀ k ∈ faults, (reports (es.filter fun e => e.status != some .exist)).length ≤ k) :
    toExtendedF faults es = toExtended es := by
  rw [toExtendedF, toExtended, C10_once_under_faults, C10_refines,
    bracketsF_nofault faults _ 0 fun k hk => by simpa using h k hk]

/-- wherever the wrapped result's outcome methods raise: an aborted bracket has its `startTest` too, and no record is
replayed twice -/
theorem startIds_toExtendedF (faults : List Nat) (es : List Event) :
    startIds (toExtendedF faults es) = (reports (es.filter fun e => e.status != some .exist)).map (·.id) := by
  simp [toExtendedF, C10_once_under_faults, startIds_append, startIds,
    startIds_bracketsF _ _ _ (C10_refines _ ▸ consume_no_exists es)]

theorem perRun_model (c : Run → RunTrace → Bool) (hc : ∀ r, c r (modelRun r) = true) (i : Input) :
    perRun c i (model i) = true := by
  simp only [perRun, model, List.length_map, beq_self_eq_true, Bool.true_and]
  generalize i.runs = runs
  induction runs with
  | nil => rfl
  | cons r rs ih => simp [hc r, ih]

theorem holds_model (i : Input) : holds i (model i) = true := by
  simp only [holds, clauses, List.all_cons, List.all_nil, Bool.and_true, Bool.and_eq_true]
  refine ⟨?_, ?_, ?_, ?_, ?_, ?_, ?_⟩ <;> refine perRun_model _ (fun r => ?_) i
  · simp [rDict, modelRun, C10_once_under_faults]
  · simp [rTestsRun, modelRun, C10_refines, summarise_eq]
  · simp [rBuckets, modelRun, C10_refines, summarise_eq]
  · simp [rErrors, modelRun, C10_refines, summarise_eq]
  · simp only [rVerdict, modelRun, Bool.or_eq_true, Bool.not_eq_true', List.any_eq_false]
    cases hw : (summarise (consume r.events)).wasSuccessful
    · exact Or.inr rfl
    · exact Or.inl fun x hx hf => Bool.noConfusion (hw.symm.trans ((C10_verdict r.events).mpr ⟨x, hx, hf⟩))
  · simp only [rExtended, modelRun, Bool.and_eq_true, beq_iff_eq, Bool.or_eq_true]
    refine ⟨startIds_toExtendedF r.faults r.events, ?_⟩
    by_cases hf : (r.faults.any (· < (reports (r.events.filter fun e => e.status != some .exist)).length)) = true
    · exact Or.inl hf
    · obtain ⟨mid, seen, h1, h2, h3⟩ := C10_to_extended r.events
      rw [toExtendedF_nofault r.faults r.events fun k hk => Nat.le_of_not_lt fun hlt =>
        hf (List.any_eq_true.mpr ⟨k, hk, decide_eq_true hlt⟩), h1, body_wrap]
      exact Or.inr (by simp only [h2, h3])
  · simp [rReal, modelRun, C10_refines]

private def e (tid : Nat) (st : Option Status) (ts : Nat) : Event :=
  { testId := some tid, status := st, tags := none, runnable := true, fileName := none, fileBytes := none,
    eof := false, mime := none, route := none, timestamp := some (.t ts) }
private def f (tid : Nat) (bs : Bytes) : Event :=
  { testId := some tid, status := none, tags := some [7], runnable := true, fileName := some 2, fileBytes := some bs,
    eof := false, mime := some 1, route := none, timestamp := none }

/-- two lifetimes of one key (the id is re-used after its final status), an interleaved second test that stays
open, an attachment split over two chunks around an empty one -/
example : consume [e 0 (some .inprogress) 1, f 0 [65], e 1 (some .inprogress) 2, f 0 [], f 0 [66, 67],
                   e 0 (some .fail) 3, e 0 (some .success) 4] =
    [ { id := 0, tags := [7], details := [{ name := 2, mime := 1, bytes := [65, 66, 67] }], status := .fail,
        ts0 := some (.t 1), ts1 := some (.t 3) },
      { id := 0, tags := [], details := [], status := .success, ts0 := some (.t 4), ts1 := some (.t 4) },
      { id := 1, tags := [], details := [], status := .inprogress, ts0 := some (.t 2), ts1 := none } ] := by
  decide
example : (summarise (consume [e 0 (some .inprogress) 1, e 1 (some .skip) 2])).wasSuccessful = false := by decide
example : (closedOf [] [e 0 (some .fail) 3, e 0 none 4, e 0 (some .success) 5]).length = 2 := by decide

/-- the callback raises at the hand-over of test 0's final status (call number 1) and again inside `stopTestRun()`
(hand-over 2, of the open test 1; the one of test 2 before it went through): three reports, each once -/
example : consumeF [0, 2] [e 0 (some .inprogress) 1, e 0 (some .success) 2, e 1 (some .inprogress) 3, e 2 (some .inprogress) 4]
    = { handed := [ { id := 0, tags := [], details := [], status := .success, ts0 := some (.t 1), ts1 := some (.t 2) },
                    { id := 2, tags := [], details := [], status := .inprogress, ts0 := some (.t 4), ts1 := none },
                    { id := 1, tags := [], details := [], status := .inprogress, ts0 := some (.t 3), ts1 := none } ]
        raisedAt := [1], stopRaises := 1 } := by decide
/-- the spec is sharp: a consumer that keeps the record in the table while the callback runs reports the test a second
time at `stopTestRun()` (as if it had hung) when the callback raised — rejected by the `reports` clause -/
example :
    let r : Run := { events := [e 0 (some .success) 2], faults := [0] }
    let t := modelRun r
    rDict r { t with dict := t.dict ++ [{ id := 0, tags := [], details := [], status := .success, ts0 := some (.t 2), ts1 := none }] }
      = false := by decide

/-! ## ties to the source (`harness/pystream.py` → `TTV/Generated/ConsumerSrc.lean`, regenerated on every run) -/
open TTV.ConsumerSrc in
/-- **`_update_case` is the code's**: the model's `upd` is the interpretation of the four terms that symbolic execution
of `_StreamToTestRecord._update_case` yields — status replaced iff `test_status is not None`, second timestamp always
replaced (also by `None`), a chunk appended iff `file_name is not None and file_bytes` (truthiness: a non-empty chunk),
tags replaced iff `test_tags is not None` (also by an empty set) -/
theorem C10_src_update_case (r : Report) (e : Event) :
    updInterp Generated.ConsumerSrc.updStatus Generated.ConsumerSrc.updTs1 Generated.ConsumerSrc.updDetails
      Generated.ConsumerSrc.updTags r e = some (upd r e) := by
  have h1 : Generated.ConsumerSrc.updStatus = refUpdStatus := by decide
  have h2 : Generated.ConsumerSrc.updTs1 = refUpdTs1 := by decide
  have h3 : Generated.ConsumerSrc.updDetails = refUpdDetails := by decide
  have h4 : Generated.ConsumerSrc.updTags = refUpdTags := by decide
  rw [h1, h2, h3, h4]; exact updInterp_ref r e

open TTV.ConsumerSrc in
/-- **`status` is the code's**: `_ensure_key` (no test id: nothing happens; else a record is created if the key has none),
`_update_case` on the record with every argument handed to its own parameter, and — iff the status is not interim — the
record **popped from the table before** it is handed to the callback, whose exception leaves `status()`: this is the
model's `statusF`, for every fault plan -/
theorem C10_src_status (faults : List Nat) (s : FSt) (e : Event) :
    let r := sInterp faults
      (updInterp Generated.ConsumerSrc.updStatus Generated.ConsumerSrc.updTs1 Generated.ConsumerSrc.updDetails Generated.ConsumerSrc.updTags)
      Generated.ConsumerSrc.ensureKey e Generated.ConsumerSrc.recordStatus { tbl := s.tbl, n := s.n }
    r.bad = false ∧ (({ tbl := r.tbl, n := r.n } : FSt), r.handed, r.raised) = statusF faults s e := by
  have h1 : Generated.ConsumerSrc.ensureKey = refEnsureKey := by decide
  have h2 : Generated.ConsumerSrc.recordStatus = refRecordStatus := by decide
  rw [h1, h2]; exact sInterp_ref faults s e _ (C10_src_update_case · e)

open TTV.ConsumerSrc in
/-- **`stopTestRun` is the code's**: `popitem()` (last in, first out), second timestamp cleared, handed over — each
record out of the table before the callback sees it -/
theorem C10_src_stop (faults : List Nat) (l : List (Key × Report)) (n : Nat) :
    dInterp faults Generated.ConsumerSrc.recordStop l n = stopLoop faults l n := by
  have h : Generated.ConsumerSrc.recordStop = refRecordStop := by decide
  rw [h]; exact dInterp_ref faults l n

open TTV.ConsumerSrc in
/-- **`StreamToDict` and `StreamToExtendedDecorator` are the code's**: `StreamToDict` hands every event on;
`StreamToExtendedDecorator.status` drops exactly the `exists` events *before* the table, `startTestRun` starts the wrapped
result then the table, `stopTestRun` flushes the table then stops the wrapped result, each completed record is replayed by
`to_test_case().run(decorated)` — together the model's `toExtendedF` -/
theorem C10_src_extended (faults : List Nat) (es : List Event) :
    es.filterMap (fStatus · Generated.ConsumerSrc.dictStatus) = es
    ∧ extInterp Generated.ConsumerSrc.extStatus Generated.ConsumerSrc.extStart Generated.ConsumerSrc.extStop
        Generated.ConsumerSrc.extHandle faults es = toExtendedF faults es := by
  have h0 : Generated.ConsumerSrc.dictStatus = refDictStatus := by decide
  have h1 : Generated.ConsumerSrc.extStatus = refExtStatus := by decide
  have h2 : Generated.ConsumerSrc.extStart = refExtStart := by decide
  have h3 : Generated.ConsumerSrc.extStop = refExtStop := by decide
  have h4 : Generated.ConsumerSrc.extHandle = refExtHandle := by decide
  rw [h0, h1, h2, h3, h4]; exact ⟨fStatus_refDict es, extInterp_ref faults es⟩

end TTV.Props.C10
