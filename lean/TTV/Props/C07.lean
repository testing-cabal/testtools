import TTV.Spec.C07
import TTV.Model.MatchSkel
import TTV.Generated.MatchSrc
/-! # C07 — mismatches are always describable; assertThat / expectThat report them faithfully

`text_repr` evaluates back to its argument; `str(matcher)`, `describe()`, `get_details()` and `str(MismatchError)` are total
on the stock matchers, given the table of `__str__` resolutions read from the tree; `assertThat`, `assert_that` and
`expectThat` raise, continue, force the failure and name their details as the source does.  Taken on trust: that the mismatch of
a leaf describes itself (`leafDescr` is constantly `none`), and the model `pyRepr` / `pyEval` of CPython's `repr` and literal
evaluation. -/
namespace TTV.Props.C07

section TextRepr
open TTV.TextRepr

theorem hexVal_hexDigit : ∀ {d : Nat}, d < 16 → hexVal (hexDigit d) = some d := by decide

theorem fromHex_toHex : ∀ (k n acc : Nat) (rest : List Nat), n < 16 ^ k →
    fromHex k acc (toHex k n ++ rest) = some (acc * 16 ^ k + n, rest)
  | 0, n, acc, rest, h => by
    have : n = 0 := by simpa using h
    simp [fromHex, toHex, this]
  | k + 1, n, acc, rest, h => by
    have hm : n % 16 ^ k < 16 ^ k := Nat.mod_lt _ (Nat.pow_pos (by decide))
    have hd : n / 16 ^ k < 16 := Nat.div_lt_of_lt_mul h
    simp only [toHex, List.cons_append, fromHex, hexVal_hexDigit hd]
    rw [fromHex_toHex k _ _ rest hm, Nat.pow_succ, Nat.add_mul, Nat.mul_assoc, Nat.add_assoc,
      Nat.mul_comm (n / 16 ^ k), Nat.div_add_mod, Nat.mul_comm 16]

/-- lower-case hexadecimal digits only: in particular no backslash and no quote -/
def AllHex (l : List Nat) : Prop := ∀ d ∈ l, (48 ≤ d ∧ d ≤ 57) ∨ (97 ≤ d ∧ d ≤ 102)

theorem allHex_toHex : ∀ (k n : Nat), n < 16 ^ k → AllHex (toHex k n)
  | 0, _, _, d, hd => by simp [toHex] at hd
  | k + 1, n, h, d, hd => by
    simp only [toHex, List.mem_cons] at hd
    rcases hd with rfl | hd
    · have : n / 16 ^ k < 16 := Nat.div_lt_of_lt_mul h
      generalize n / 16 ^ k = d at this ⊢
      unfold hexDigit; split <;> omega
    · exact allHex_toHex k _ (Nat.mod_lt _ (Nat.pow_pos (by decide))) d hd

theorem AllHex.not_mem {more : List Nat} {c : Nat} (h : AllHex more) (hc : c < 48 ∨ 57 < c ∧ c < 97 ∨ 102 < c) :
    c ∉ more := fun hm => by
  have := h c hm
  omega

/-- the code points of a str (`b = false`) or of a bytes (`b = true`) -/
def valid (b : Bool) (c : Nat) : Prop := if b then c < 256 else c < 1114112

theorem validText_iff (b : Bool) (s : List Nat) : Spec.C07.validText b s = true ↔ ∀ c ∈ s, valid b c := by
  unfold Spec.C07.validText valid
  cases b <;> simp

/-- the character after the backslash that says which letter escape follows: `t n r x u U` -/
def EscTag (x : Nat) : Prop := x = 116 ∨ x = 110 ∨ x = 114 ∨ x = 120 ∨ x = 117 ∨ x = 85

theorem EscTag.ne {x y : Nat} (hx : EscTag x) (hy : y = BS ∨ y = Q ∨ y = DQ) : x ≠ y := by
  rcases hx with rfl | rfl | rfl | rfl | rfl | rfl <;> rcases hy with rfl | rfl | rfl <;> decide

theorem quote_ne_bs {q : Nat} (hq : q = Q ∨ q = DQ) : q ≠ BS := by
  rcases hq with rfl | rfl <;> decide

theorem dec_quote (b : Bool) (q : Nat) (hq : q = Q ∨ q = DQ) (rest : List Nat) :
    dec b (q :: rest) = some (q, rest) := by
  rcases hq with rfl | rfl <;> simp [dec, BS, Q, DQ]

theorem dec_bs (b : Bool) (rest : List Nat) : dec b (BS :: rest) = some (BS, rest) := by
  simp [dec]

section Grammar

/-- The grammar of a literal's body as a relation: `t` is the text of the characters `v`, token by token, a token being a character
that `bare` lets stand for itself (never the backslash) or a backslash followed by a body that `esc` allows and that `dec` reads
back as the character.  The two literal forms differ only in these two parameters (`ReprReads`, `MlReads`), so one relation serves
both: what prints a literal is shown to write the grammar, what evaluates one to read it. -/
inductive Reads (b : Bool) (bare : Nat → Prop) (esc : List Nat → Prop) : List Nat → List Nat → Prop
  | nil : Reads b bare esc [] []
  | bare {c t v} : c ≠ BS → bare c → Reads b bare esc t v → Reads b bare esc (c :: t) (c :: v)
  | esc {body c t v} : esc body → (∀ rest, dec b (body ++ rest) = some (c, rest)) → Reads b bare esc t v →
      Reads b bare esc (BS :: (body ++ t)) (c :: v)

variable {b : Bool} {bare : Nat → Prop} {esc : List Nat → Prop}

theorem Reads.append {t v t' v'} (h : Reads b bare esc t v) (h' : Reads b bare esc t' v') :
    Reads b bare esc (t ++ t') (v ++ v') := by
  induction h with
  | nil => exact h'
  | bare hc hb _ ih => exact .bare hc hb ih
  | esc he hd _ ih => rw [List.cons_append, List.append_assoc]; exact .esc he hd ih

theorem Reads.length_le {t v} (h : Reads b bare esc t v) : v.length ≤ t.length := by
  induction h with
  | nil => exact Nat.le_refl _
  | bare _ _ _ ih => exact Nat.succ_le_succ ih
  | esc _ _ _ ih => simp only [List.length_cons, List.length_append]; omega

theorem Reads.one_esc {body : List Nat} {c : Nat} (he : esc body) (hd : ∀ rest, dec b (body ++ rest) = some (c, rest)) :
    Reads b bare esc (BS :: body) [c] := by
  simpa using Reads.esc he hd .nil

abbrev QuotedBare (q c : Nat) : Prop := c ≠ q ∧ c ≠ NL

abbrev NoQuote (body : List Nat) : Prop := Q ∉ body

theorem Reads.head_ne {q t v} (hq : q = Q ∨ q = DQ) (h : Reads b (QuotedBare q) esc t v) :
    t.head? ≠ some q := by
  cases h with
  | nil => simp
  | bare _ hb _ => simpa using hb.1
  | esc _ _ _ => simpa using (quote_ne_bs hq).symm

/-- the bodies of the escapes that `repr` writes with quote `q`: `\q`, `\\`, a letter escape (`\t \n \r \xNN \uNNNN \UNNNNNNNN`) -/
def ReprEsc (q : Nat) (body : List Nat) : Prop :=
  body = [q] ∨ body = [BS] ∨ ∃ x more, body = x :: more ∧ EscTag x ∧ AllHex more

/-- what `repr` writes between the quotes -/
abbrev ReprReads (b : Bool) (q : Nat) := Reads b (QuotedBare q) (ReprEsc q)

/-- the body of a `'''` literal: every character but the backslash may stand for itself, no escape has a quote in it — so that
`esc3`, which looks for `'''`, passes over the escapes and the only quotes it sees are characters of the text -/
abbrev MlReads (b : Bool) := Reads b (fun _ => True) NoQuote

theorem reads_letter {q x c : Nat} (h : x = 116 ∧ c = 9 ∨ x = 110 ∧ c = 10 ∨ x = 114 ∧ c = 13) :
    ReprReads b q [BS, x] [c] := by
  refine .one_esc (.inr (.inr ⟨x, [], rfl, ?_, fun d hd => absurd hd List.not_mem_nil⟩)) fun rest => ?_
  · rcases h with ⟨rfl, _⟩ | ⟨rfl, _⟩ | ⟨rfl, _⟩ <;> simp [EscTag]
  · rcases h with ⟨rfl, rfl⟩ | ⟨rfl, rfl⟩ | ⟨rfl, rfl⟩ <;> simp [dec, BS, Q, DQ]

/-- the hexadecimal escapes: `\xNN` in str and bytes, `\uNNNN` and `\UNNNNNNNN` in str only -/
theorem reads_hex {q x k c : Nat} (hx : x = 120 ∧ k = 2 ∨ b = false ∧ (x = 117 ∧ k = 4 ∨ x = 85 ∧ k = 8))
    (hc : c < 16 ^ k) : ReprReads b q (BS :: x :: toHex k c) [c] := by
  refine .one_esc (.inr (.inr ⟨x, _, rfl, ?_, allHex_toHex k c hc⟩)) fun rest => ?_
  · rcases hx with ⟨rfl, _⟩ | ⟨_, ⟨rfl, _⟩ | ⟨rfl, _⟩⟩ <;> simp [EscTag]
  · have := fromHex_toHex k c 0 rest hc
    rcases hx with ⟨rfl, rfl⟩ | ⟨rfl, ⟨rfl, rfl⟩ | ⟨rfl, rfl⟩⟩ <;> simpa [dec, BS, Q, DQ] using this

/-- `p`: `str.isprintable` -/
theorem reads_escChar (p : Nat → Bool) {q c : Nat} (hq : q = Q ∨ q = DQ) (hc : valid b c) :
    ReprReads b q (escChar b p q c) [c] := by
  unfold escChar
  by_cases h12 : c = q ∨ c = BS
  · rw [if_pos h12]
    rcases h12 with rfl | rfl
    · exact .one_esc (.inl rfl) (dec_quote b c hq)
    · exact .one_esc (.inr (.inl rfl)) (dec_bs b)
  obtain ⟨h1, h2⟩ := not_or.mp h12
  rw [if_neg h12]
  by_cases h3 : c = 9
  · rw [if_pos h3]; exact reads_letter (.inl ⟨rfl, h3⟩)
  rw [if_neg h3]
  by_cases h4 : c = 10
  · rw [if_pos h4]; exact reads_letter (.inr (.inl ⟨rfl, h4⟩))
  rw [if_neg h4]
  by_cases h5 : c = 13
  · rw [if_pos h5]; exact reads_letter (.inr (.inr ⟨rfl, h5⟩))
  rw [if_neg h5]
  by_cases h6 : c < 32 ∨ c = 127
  · rw [if_pos h6]; exact reads_hex (.inl ⟨rfl, rfl⟩) (show c < 256 by omega)
  rw [if_neg h6]
  have plain : ReprReads b q [c] [c] := .bare h2 ⟨h1, h4⟩ .nil
  by_cases h7 : c < 127
  · rwa [if_pos h7]
  rw [if_neg h7]
  cases b with
  | true => exact reads_hex (.inl ⟨rfl, rfl⟩) (by simpa [valid] using hc)
  | false =>
    rw [if_neg Bool.false_ne_true]
    by_cases h8 : p c = true
    · rwa [if_pos h8]
    rw [if_neg h8]
    by_cases h9 : c < 256
    · rw [if_pos h9]; exact reads_hex (.inl ⟨rfl, rfl⟩) h9
    rw [if_neg h9]
    by_cases h10 : c < 65536
    · rw [if_pos h10]; exact reads_hex (.inr ⟨rfl, .inl ⟨rfl, rfl⟩⟩) h10
    · have hc8 : c < 16 ^ 8 := by
        have : c < 1114112 := by simpa [valid] using hc
        omega
      rw [if_neg h10]; exact reads_hex (.inr ⟨rfl, .inr ⟨rfl, rfl⟩⟩) hc8

theorem reads_reprBody (p : Nat → Bool) {q : Nat} (hq : q = Q ∨ q = DQ) :
    ∀ (s : List Nat), (∀ c ∈ s, valid b c) → ReprReads b q (reprBody b p q s) s
  | [], _ => .nil
  | c :: s, hv =>
    (reads_escChar p hq (hv c List.mem_cons_self)).append
      (reads_reprBody p hq s fun c' h => hv c' (List.mem_cons_of_mem _ h))

theorem ev1_reads {q t v} (hq : q = Q ∨ q = DQ) (h : Reads b (QuotedBare q) esc t v) :
    ∀ fuel, v.length + 1 ≤ fuel → ev1 b q fuel (t ++ [q]) = some v := by
  have hbq := (quote_ne_bs hq).symm
  have hbn : BS ≠ NL := by decide
  induction h with
  | nil =>
    intro fuel hf
    cases fuel with
    | zero => simp at hf
    | succ n => simp [ev1]
  | bare hc hb _ ih =>
    intro fuel hf
    cases fuel with
    | zero => simp at hf
    | succ n => simp [ev1, hb.1, hb.2, hc, ih n (Nat.le_of_succ_le_succ hf)]
  | esc _ hd _ ih =>
    intro fuel hf
    cases fuel with
    | zero => simp at hf
    | succ n => simp [ev1, hbq, hbn, List.append_assoc, hd, ih n (Nat.le_of_succ_le_succ hf)]

theorem chooseQuote_cases (s : List Nat) : chooseQuote s = Q ∨ chooseQuote s = DQ := by
  unfold chooseQuote; split <;> simp

theorem stripPre_pre (b : Bool) (l : List Nat) : stripPre b (pre b ++ l) = some l := by
  cases b <;> simp [stripPre, pre]

/-- the body does not start with the quote, so the literal is not taken for a triple-quoted one, and `pyEval`'s fuel (one more
than the length of what follows the opening quote) is enough -/
theorem pyEval_quoted {q t v} (hq : q = Q ∨ q = DQ) (h : Reads b (QuotedBare q) esc t v) :
    pyEval b (pre b ++ [q] ++ t ++ [q]) = some v := by
  have hlen := h.length_le
  have hev := ev1_reads hq h (t.length + 2) (by omega)
  have hhead := h.head_ne hq
  unfold pyEval
  rw [List.append_assoc, List.append_assoc, stripPre_pre]
  rcases hq with rfl | rfl
  · cases t with
    | nil => exact hev
    | cons x xs =>
      have hx : x ≠ 39 := by simpa using hhead
      simpa [hx, Q] using hev
  · simpa [DQ] using hev

theorem esc3_cons_ne {c : Nat} (h : c ≠ Q) (t : List Nat) : esc3 (c :: t) = c :: esc3 t := by
  simp [esc3, h]

theorem esc3_noq_prefix (u : List Nat) (hu : Q ∉ u) (t : List Nat) : esc3 (u ++ t) = u ++ esc3 t := by
  induction u with
  | nil => rfl
  | cons c u ih =>
    rw [List.mem_cons, not_or] at hu
    simp [esc3_cons_ne (Ne.symm hu.1), ih hu.2]

/-- behind a bare quote that `esc3` leaves alone there is no `''` after escaping either, so `ev3` does not take it for the end -/
theorem esc3_take2 (L : List Nat) (hlen : 2 ≤ L.length) (h : L.take 2 ≠ [Q, Q]) :
    (esc3 L ++ [Q]).take 2 ≠ [Q, Q] := by
  match L, hlen with
  | a :: c :: t, _ =>
    by_cases ha : a = Q
    · subst ha
      have hb : c ≠ Q := by intro hb; apply h; simp [hb]
      have : esc3 (Q :: c :: t) = Q :: c :: esc3 t := by
        simp [esc3, hb]
      simp [this, hb]
    · simp [esc3_cons_ne ha, ha]

/-- one unit of `ev3`'s fuel reads one token.  `2 ≤ L.length`: behind every token there is at least the `''` that `textRepr`
appends to the body (which, with the closing quote, makes the final `'''`) -/
theorem ev3_bare {c : Nat} (hc : c ≠ BS) (L : List Nat) (hlen : 2 ≤ L.length) (m : Nat) :
    ev3 b (m + 1) (esc3 (c :: L) ++ [Q]) = (ev3 b m (esc3 L ++ [Q])).map (c :: ·) := by
  have hbq : BS ≠ Q := by decide
  by_cases hv : c = Q
  · subst hv
    by_cases hL : L.take 2 = [Q, Q]
    · have : esc3 (Q :: L) = BS :: Q :: esc3 L := by simp [esc3, hL]
      simp [this, ev3, hbq, dec_quote b Q (Or.inl rfl)]
    · have : esc3 (Q :: L) = Q :: esc3 L := by simp [esc3, hL]
      have h2 := esc3_take2 L hlen hL
      simp [this, ev3, h2, hbq.symm]
  · simp [esc3_cons_ne hv, ev3, hv, hc]

theorem ev3_esc {body : List Nat} {c : Nat} (hq : Q ∉ body) (hd : ∀ rest, dec b (body ++ rest) = some (c, rest))
    (L : List Nat) (m : Nat) :
    ev3 b (m + 1) (esc3 (BS :: (body ++ L)) ++ [Q]) = (ev3 b m (esc3 L ++ [Q])).map (c :: ·) := by
  have hbq : BS ≠ Q := by decide
  have hq' : Q ∉ BS :: body := by simp [hbq.symm, hq]
  have : esc3 (BS :: (body ++ L)) = BS :: body ++ esc3 L := esc3_noq_prefix _ hq' L
  simp [this, ev3, hbq, List.append_assoc, hd]

theorem ev3_reads {t v} (h : Reads b bare NoQuote t v) :
    ∀ fuel, v.length + 1 ≤ fuel → ev3 b fuel (esc3 (t ++ [Q, Q]) ++ [Q]) = some v := by
  induction h with
  | nil =>
    intro fuel hf
    cases fuel with
    | zero => simp at hf
    | succ n => simp [esc3, ev3]
  | @bare c t v hc _ _ ih =>
    intro fuel hf
    cases fuel with
    | zero => simp at hf
    | succ n => rw [List.cons_append, ev3_bare hc _ (by simp) n, ih n (Nat.le_of_succ_le_succ hf)]; rfl
  | @esc body c t v hq hd _ ih =>
    intro fuel hf
    cases fuel with
    | zero => simp at hf
    | succ n =>
      rw [List.cons_append, List.append_assoc, ev3_esc hq hd _ n, ih n (Nat.le_of_succ_le_succ hf)]; rfl

theorem esc3_length : ∀ (l : List Nat), l.length ≤ (esc3 l).length
  | [] => by simp [esc3]
  | a :: t => by
    have := esc3_length t
    simp only [esc3]
    split <;> simp <;> omega

theorem pyEval_triple {t v} (h : Reads b bare NoQuote t v) :
    pyEval b (pre b ++ [Q, Q, Q, BS, NL] ++ esc3 (t ++ [Q, Q]) ++ [Q]) = some v := by
  have hlen1 := h.length_le
  have hlen2 := esc3_length (t ++ [Q, Q])
  have key := ev3_reads h ((esc3 (t ++ [Q, Q]) ++ [Q]).length + 1)
    (by simp only [List.length_append, List.length_cons, List.length_nil] at hlen2 ⊢; omega)
  unfold pyEval
  rw [List.append_assoc, List.append_assoc, stripPre_pre]
  simpa [Q, BS, NL] using key

theorem replaceGo_pending (q : Nat) (l : List Nat) (h : l.head? ≠ some q) :
    replaceGo q true l = BS :: replaceGo q false l := by
  cases l with
  | nil => simp [replaceGo]
  | cons c t =>
    have hc : c ≠ q := by simpa using h
    by_cases hb : c = BS
    · subst hb; simp [replaceGo, hc]
    · simp [replaceGo, hc, hb]

theorem replaceGo_plain (q : Nat) (u : List Nat) (hu : BS ∉ u) (l : List Nat) :
    replaceGo q false (u ++ l) = u ++ replaceGo q false l := by
  induction u with
  | nil => rfl
  | cons c t ih =>
    rw [List.mem_cons, not_or] at hu
    simp [replaceGo, Ne.symm hu.1, ih hu.2]

/-- `repr` puts a backslash in front of the quote only to escape it, so `.replace("\\" + q, q)` lets the quote stand for itself
again and leaves every other token as it is -/
theorem reads_replace {q t v} (hq : q = Q ∨ q = DQ) (h : ReprReads b q t v) : MlReads b (replaceGo q false t) v := by
  have hqb := quote_ne_bs hq
  induction h with
  | nil => exact .nil
  | bare hc _ _ ih => simpa [replaceGo, hc] using Reads.bare hc trivial ih
  | @esc body c t v he hd ht ih =>
    rw [replaceGo, if_pos rfl]
    rcases he with rfl | rfl | ⟨x, more, rfl, hx, hm⟩
    · have hcq : c = q := by
        have := (hd []).symm.trans (dec_quote b q hq [])
        simpa using this
      subst hcq
      simpa [replaceGo] using Reads.bare hqb trivial ih
    · rw [List.singleton_append, replaceGo, if_neg hqb.symm, if_pos rfl, replaceGo_pending q _ (ht.head_ne hq)]
      exact .esc (body := [BS]) (by decide) hd ih
    · rw [List.cons_append, replaceGo, if_neg (hx.ne (.inr hq)), if_neg (hx.ne (.inl rfl)),
        replaceGo_plain q more (hm.not_mem (by decide)), ← List.cons_append]
      refine .esc (body := x :: more) ?_ hd ih
      intro hmem
      rcases List.mem_cons.mp hmem with h | h
      · exact hx.ne (.inr (.inl rfl)) h.symm
      · exact hm.not_mem (by decide) h

theorem lineBody_eq (b : Bool) (p : Nat → Bool) (line : List Nat) :
    lineBody b p line = replaceGo (chooseQuote line) false (reprBody b p (chooseQuote line) line) := by
  unfold lineBody pyRepr replace2
  generalize chooseQuote line = q
  have h1 : (pre b ++ [q] ++ reprBody b p q line ++ [q]).getLastD Q = q := by
    rw [List.getLastD_eq_getLast?, List.getLast?_append]; simp
  have h2 : ((pre b ++ [q] ++ reprBody b p q line ++ [q]).drop ((pre b).length + 1)).dropLast
      = reprBody b p q line := by
    rw [List.append_assoc (pre b ++ [q]), List.drop_left' (by simp)]
    simp
  simp only [h1, h2]

theorem reads_lineBody (p : Nat → Bool) (line : List Nat) (hv : ∀ c ∈ line, valid b c) :
    MlReads b (lineBody b p line) line :=
  lineBody_eq b p line ▸ reads_replace (chooseQuote_cases line) (reads_reprBody p (chooseQuote_cases line) line hv)

theorem splitOn_ne_nil (sep : Nat) (s : List Nat) : splitOn sep s ≠ [] := by
  cases s with
  | nil => simp [splitOn]
  | cons c cs =>
    simp only [splitOn]
    split
    · simp
    · split <;> simp

theorem joinNL_cons_cons (c : Nat) (l : List Nat) (ls : List (List Nat)) :
    joinNL ((c :: l) :: ls) = c :: joinNL (l :: ls) := by
  cases ls <;> rfl

theorem joinNL_splitOn : ∀ (s : List Nat), joinNL (splitOn NL s) = s
  | [] => rfl
  | c :: cs => by
    have ih := joinNL_splitOn cs
    obtain ⟨l, ls, hs⟩ := List.exists_cons_of_ne_nil (splitOn_ne_nil NL cs)
    rw [hs] at ih
    simp only [splitOn, hs]
    split
    · next h => simp [joinNL, ih, h]
    · rw [joinNL_cons_cons, ih]

theorem reads_lines (p : Nat → Bool) : ∀ (ls : List (List Nat)), (∀ c ∈ joinNL ls, valid b c) →
    MlReads b (joinNL (ls.map (lineBody b p))) (joinNL ls)
  | [], _ => .nil
  | [l], h => reads_lineBody p l h
  | l :: l2 :: ls, h => by
    have h' : ∀ c ∈ l ++ NL :: joinNL (l2 :: ls), valid b c := h
    exact (reads_lineBody p l fun c hc => h' c (List.mem_append_left _ hc)).append
      (.bare (by decide) trivial
        (reads_lines p (l2 :: ls) fun c hc => h' c (List.mem_append_right _ (List.mem_cons_of_mem _ hc))))

end Grammar

/-- **C07 (`text_repr` round trip).**  For every str / bytes `s` (any code points: quotes, backslashes,
newlines, controls, non-printables, astral characters, lone surrogates), every `multiline` setting
(`None`, `True`, `False`) and every `isprintable` predicate: evaluating the text that `text_repr`
returns as a Python literal gives `s` back.  The proof is about testtools' own logic — per-line `repr`,
taking the quote escapes out again, joining with real newlines, the `'''` escaping loop, the
backslash-newline opener — on top of the model `pyRepr`/`pyEval` of CPython's `repr` and literal
evaluation. -/
theorem C07_text_repr_roundtrip (b : Bool) (p : Nat → Bool) (ml : Option Bool) (s : List Nat)
    (hv : ∀ c ∈ s, valid b c) : pyEval b (textRepr b p ml s) = some s := by
  unfold textRepr
  simp only
  split
  · exact pyEval_quoted (chooseQuote_cases s) (reads_reprBody p (chooseQuote_cases s) s hv)
  · have hr := reads_lines p (splitOn NL s) (by rwa [joinNL_splitOn])
    rw [joinNL_splitOn] at hr
    exact pyEval_triple hr

-- text_repr of  a'''\'  with multiline forced: the literal the real code prints; it evaluates back
example : textRepr false (fun _ => true) (some true) [97, 39, 39, 39, 92, 39]
    = [39, 39, 39, 92, 10, 97, 92, 39, 39, 39, 92, 92, 92, 39, 39, 39, 39] := by decide
example : pyEval false (textRepr false (fun _ => true) none [39, 10, 34, 233, 0]) = some [39, 10, 34, 233, 0] := by decide
example : valid false 0x10ffff ∧ valid true 255 := by simp [valid]

end TextRepr

section Describe
open TTV.Matchers hiding Input Trace model
open TTV.Describe TTV.Generated.C07 TTV.Spec.C07

/-- the class names that `leafClass`, `strM` and `Describe.dictClass` use.  Kept by hand: nothing ties the list to those
definitions, but a class missing from it fails to compile where `strOf_eq_none` is applied to it. -/
def stockNames : List String :=
  ["Equals", "NotEquals", "Is", "LessThan", "GreaterThan", "SameMembers", "StartsWith", "EndsWith", "Contains",
   "IsInstance", "_MatchesPredicateWithParams", "_Always", "_Never", "KeysEqual", "MatchesException", "Raises",
   "MatchesPredicate", "Not", "MatchesAll", "MatchesAny", "AllMatch", "AnyMatch", "MatchesListwise",
   "MatchesSetwise", "MatchesStructure", "MatchesDict", "ContainsDict", "ContainedByDict", "Annotate",
   "AfterPreprocessing"]

/-- the table extracted from the tree (re-checked against it on every run; fails to compile when a stock class loses its
`__str__`): no row resolves `str()` to `Matcher.__str__`, every opaque leaf of the catalog has a `__str__`, and each of
`stockNames` has a row that does not say `inherited` -/
theorem C07_str_table_ok : (strKinds.all fun p => p.2 != StrKind.inherited) = true
    ∧ (opaqueStr.all fun p => p.2) = true
    ∧ (stockNames.all fun n => kindOf n != StrKind.inherited) = true := by
  decide

/-- `by repeat constructor` at the calls finds the class in `stockNames` by comparing string literals (`List.Mem.head` where
they agree, `List.Mem.tail` where not).  `hk` lets the one lemma serve the classes whose `__str__` renders no sub-matcher (`rfl`)
and the combinators (the induction hypothesis). -/
theorem strOf_eq_none {name kids} (h : name ∈ stockNames) (hk : kids = none) : strOf name kids = none := by
  obtain ⟨_, _, hstock⟩ := C07_str_table_ok
  have hn := List.all_eq_true.mp hstock name h
  unfold strOf
  split
  · simp [*] at hn
  · rfl
  · exact hk

theorem leafStr_total (l : Leaf) : leafStr l = none := by
  cases l with
  | «opaque» =>
    simp only [leafStr]
    split
    · rfl
    · rename_i heq
      obtain ⟨_, hopaque, _⟩ := C07_str_table_ok
      simpa using List.all_eq_true.mp hopaque _ (List.mem_of_find?_eq_some heq)
    · rfl
  | _ => simp only [leafStr]; exact strOf_eq_none (by repeat constructor) rfl

mutual
/-- **C07 (`str()` is total).**  `str(matcher)` succeeds for every stock matcher expression of any depth
(given the `__str__` table read from the tree). -/
theorem C07_str_total : ∀ m : M, strM m = none
  | .leaf l => leafStr_total l
  | .excTypeV _ _ | .raises _ | .listwise _ _ | .setwise _ _ _ =>
    strOf_eq_none (by repeat constructor) rfl
  | .not m | .allMatch m | .anyMatch m | .annotate m | .after _ _ m =>
    strOf_eq_none (by repeat constructor) (C07_str_total m)
  | .all _ ms | .any ms | .structure _ ms | .dict .exact _ ms | .dict .contains _ ms | .dict .containedBy _ ms =>
    strOf_eq_none (by repeat constructor) (strML_total ms)
theorem strML_total : ∀ ms : List M, strML ms = none
  | [] => rfl
  | m :: ms => by rw [strML, C07_str_total m, strML_total ms]; rfl
end

theorem descrParts_none (fo : Bool) : ∀ (vs : List Verdict) (ds : List R), (∀ d ∈ ds, d = none) →
    descrParts fo vs ds = none
  | [], _, _ => rfl
  | _ :: _, [], _ => by simp [descrParts]
  | v :: vs, d :: ds, h => by
    obtain ⟨rfl, hs⟩ := List.forall_mem_cons.mp h
    have ih := descrParts_none fo vs ds hs
    cases v <;> cases fo <;> simp [descrParts, seqR, ih]

mutual
/-- **C07 (`describe()` is total).**  For every stock matcher expression (any depth, any constructor
arguments) and every value: describing the mismatch that `match()` returned succeeds.  What is proved is the composition:
a combinator's description fails only if a part's does, or the `str()` that `Not` needs.  That a leaf's own mismatch describes
itself is the model's assumption (`leafDescr` is constantly `none`), checked by the harness only.  (`sel` is only handed on to the
sub-matchers, as in `matchImpl`: no description depends on it.) -/
theorem C07_describe_total (sel : Bool) : ∀ (m : M) (v : V), descr sel m v = none
  | .leaf l, v => rfl
  | .excTypeV cs vm, v => by
    simp only [descr]
    split
    · split
      · exact C07_describe_total sel vm _
      · rfl
    · rfl
  | .raises em, v => by
    simp only [descr]
    split
    · rfl
    · exact C07_describe_total sel em _
  | .not m, _ => C07_str_total m
  | .all _ ms, v | .any ms, v => descrParts_none _ _ _ (descrRow_none sel ms v)
  | .allMatch m, v | .anyMatch m, v => by
    simp only [descr]
    split
    · rfl
    · exact descrParts_none _ _ _ (List.forall_mem_map.mpr fun x _ => C07_describe_total sel m x)
  | .listwise fo ms, v => by
    simp only [descr]
    split
    · rfl
    · exact descrParts_none _ _ _ (descrZip_none sel ms _)
  | .setwise _ _ ms, v => by
    simp only [descr]
    split
    · rfl
    · rename_i xs hv
      clear hv
      induction xs with
      | nil => rfl
      | cons x xs ih => rw [List.foldr_cons, ih, descrParts_none _ _ _ (descrRow_none sel ms x)]; rfl
  | .structure attrs ms, v => descrParts_none _ _ _ (descrZip_none sel ms _)
  | .dict _ ks ms, v => by
    simp only [descr]
    split
    · exact descrParts_none _ _ _ (descrZip_none sel ms _)
    · rfl
  | .annotate m, v => C07_describe_total sel m v
  | .after f _ m, v => by
    simp only [descr]
    split
    · exact C07_describe_total sel m _
    · rfl
theorem descrRow_none (sel : Bool) : ∀ (ms : List M) (v : V), ∀ d ∈ descrRow sel ms v, d = none
  | [], _, _, hd => nomatch hd
  | m :: ms, v, d, hd => by
    simp only [descrRow, List.mem_cons] at hd
    rcases hd with rfl | hd
    · exact C07_describe_total sel m v
    · exact descrRow_none sel ms v d hd
theorem descrZip_none (sel : Bool) : ∀ (ms : List M) (vs : List (Option V)),
    ∀ d ∈ descrZip sel ms vs, d = none
  | [], _, _, hd => nomatch hd
  | _ :: _, [], _, hd => nomatch hd
  | m :: ms, none :: vs, d, hd => descrZip_none sel ms vs d hd
  | m :: ms, some v :: vs, d, hd => by
    simp only [descrZip, List.mem_cons] at hd
    rcases hd with rfl | hd
    · exact C07_describe_total sel m v
    · exact descrZip_none sel ms vs d hd
end

-- a mismatch whose description needs str() of a sub-matcher
example : matchImpl true (.not (.leaf .always)) (.int 1) = .mismatch ∧ descr true (.not (.leaf .always)) (.int 1) = none :=
  ⟨rfl, C07_describe_total true _ _⟩

theorem getD_all_none : ∀ (l : List R), (∀ d ∈ l, d = none) → ∀ i, l.getD i none = none
  | [], _, i => by simp
  | d :: ds, h, 0 => by simpa using h d List.mem_cons_self
  | d :: ds, h, i + 1 => by
    simpa using getD_all_none ds (fun x hx => h x (List.mem_cons_of_mem _ hx)) i

theorem zipWith_all_none (f : Nat → V → R) : ∀ (r : List Nat) (n : List V), (∀ i x, f i x = none) →
    ∀ d ∈ List.zipWith f r n, d = none
  | [], _, _, _, hd => nomatch hd
  | _ :: _, [], _, _, hd => nomatch hd
  | i :: r, x :: n, h, d, hd => by
    simp only [List.zipWith_cons_cons, List.mem_cons] at hd
    rcases hd with rfl | hd
    · exact h i x
    · exact zipWith_all_none f r n h d hd

end Describe

section Assert
open TTV.Matchers hiding Input Trace model
open TTV.Describe TTV.Spec.C07

theorem uniqFrom_base (ex : List Name) (base : Nat) : ∀ fuel k, (uniqFrom ex base fuel k).base = base
  | 0, _ => rfl
  | fuel + 1, k => by
    simp only [uniqFrom]
    split
    · exact uniqFrom_base ex base fuel (k + 1)
    · rfl

/-- `t` holds every existing name that a candidate from `name-k` on can still collide with; each collision uses one up, so
fuel `t.length` is enough -/
theorem uniqFrom_fresh (ex : List Name) (base : Nat) : ∀ (fuel k : Nat) (t : List Name), t.length ≤ fuel →
    (∀ n ∈ ex, n ∈ t ∨ n.base ≠ base ∨ n.suffix < k) → uniqFrom ex base fuel k ∉ ex
  | 0, k, t, hlen, ht => by
    intro hmem
    rcases ht _ hmem with h | h | h
    · rw [List.eq_nil_of_length_eq_zero (Nat.le_zero.mp hlen)] at h; cases h
    · exact h rfl
    · exact Nat.lt_irrefl _ h
  | fuel + 1, k, t, hlen, ht => by
    rw [uniqFrom]
    split
    · rename_i hk
      have hk' : (⟨base, k⟩ : Name) ∈ ex := by simpa using hk
      have hkt : (⟨base, k⟩ : Name) ∈ t := (ht _ hk').resolve_right (by simp)
      refine uniqFrom_fresh ex base fuel (k + 1) (t.erase ⟨base, k⟩) ?_ fun n hn => ?_
      · rw [List.length_erase_of_mem hkt]; omega
      · by_cases hnk : n = ⟨base, k⟩
        · exact .inr (.inr (by rw [hnk]; exact Nat.lt_succ_self k))
        · rcases ht n hn with h | h | h
          · exact .inl ((List.mem_erase_of_ne hnk).mpr h)
          · exact .inr (.inl h)
          · exact .inr (.inr (Nat.lt_succ_of_lt h))
    · rename_i hk
      simpa using hk

theorem uniq_fresh (ex : List Name) (base : Nat) : uniq ex base ∉ ex :=
  uniqFrom_fresh ex base ex.length 0 ex (Nat.le_refl _) fun _ hn => .inl hn

theorem freshAll_iff : ∀ (added ex : List Name), freshAll ex added = true ↔
    (∀ n ∈ added, n ∉ ex) ∧ added.Nodup
  | [], ex => by simp [freshAll]
  | a :: added, ex => by
    have hne : (∀ n ∈ added, n ≠ a) ↔ a ∉ added := ⟨fun h ha => h a ha rfl, fun h n hn e => h (e ▸ hn)⟩
    simp only [freshAll, Bool.and_eq_true, Bool.not_eq_true', List.contains_eq_mem, decide_eq_false_iff_not,
      freshAll_iff added (ex ++ [a]), List.mem_append, List.mem_singleton, not_or, forall_and, hne,
      List.forall_mem_cons, List.nodup_cons]
    exact ⟨fun ⟨h1, ⟨h2, h3⟩, h4⟩ => ⟨⟨h1, h2⟩, h3, h4⟩, fun ⟨⟨h1, h2⟩, h3, h4⟩ => ⟨h1, ⟨h2, h3⟩, h4⟩⟩

theorem foldl_addUnique : ∀ (ds : List Nat) (ex : List Name),
    ∃ added, ds.foldl addUnique ex = ex ++ added ∧ freshAll ex added = true ∧ added.map (·.base) = ds
  | [], ex => ⟨[], by simp [freshAll]⟩
  | d :: ds, ex => by
    obtain ⟨added, h1, h2, h3⟩ := foldl_addUnique ds (addUnique ex d)
    refine ⟨uniq ex d :: added, ?_, ?_, ?_⟩
    · rw [List.foldl_cons, h1, addUnique, List.append_assoc, List.singleton_append]
    · simpa [freshAll, uniq_fresh ex d, addUnique] using h2
    · simp only [List.map_cons, h3, uniq, uniqFrom_base]

theorem assertModel_forceFailure (a : AssertIn) :
    (assertModel a).forceFailure = (a.api == .expectThat && a.mismatch.isSome) := by
  unfold assertModel
  cases a.mismatch <;> cases a.api <;> rfl

/-- `C07_details_nonclobbering` without its hypotheses: nothing is added when `match()` returned `None`, nor by `assert_that`, which
has no test to attach details to -/
theorem assertModel_names (a : AssertIn) : ∃ added, (assertModel a).names = a.existing ++ added ∧
    freshAll a.existing added = true ∧ added.map (·.base) = (match a.mismatch, a.api with
      | none, _ => []
      | some _, .assert_that => []
      | some ds, .assertThat => ds
      | some ds, .expectThat => ds ++ [0]) := by
  unfold assertModel
  cases a.mismatch with
  | none => exact foldl_addUnique [] _
  | some ds =>
    cases a.api with
    | assert_that => exact foldl_addUnique [] _
    | assertThat => exact foldl_addUnique ds _
    | expectThat =>
      have := foldl_addUnique (ds ++ [0]) a.existing
      rw [List.foldl_append] at this
      exact this

/-- **C07 (`assertThat` / `assert_that`)** raise `MismatchError` exactly when `match()` returned a mismatch
(and then the statement after the call does not run). -/
theorem C07_assertThat_iff (a : AssertIn) (h : a.api ≠ .expectThat) :
    ((assertModel a).raised = true ↔ a.mismatch.isSome = true) ∧
    ((assertModel a).continued = true ↔ a.mismatch.isSome = false) := by
  unfold assertModel
  cases hm : a.mismatch <;> cases ha : a.api <;> simp_all

/-- **C07 (`expectThat`)** never raises and the test body continues; the test is marked to fail once it
has finished exactly when `match()` returned a mismatch. -/
theorem C07_expectThat (a : AssertIn) (h : a.api = .expectThat) :
    (assertModel a).raised = false ∧ (assertModel a).continued = true ∧
    ((assertModel a).forceFailure = true ↔ a.mismatch.isSome = true) := by
  unfold assertModel
  cases hm : a.mismatch <;> simp_all

theorem somesExn_eq_filterMap : ∀ (l : List (Option Exn)), somesExn l = l.filterMap id
  | [] => rfl
  | none :: r => by simp [somesExn, somesExn_eq_filterMap r]
  | some x :: r => by simp [somesExn, somesExn_eq_filterMap r]

theorem selectExn_forced (xs : List Exn) :
    selectExn (xs ++ [.fail]) = if .intr ∈ xs then some .intr else some .fail := by
  unfold selectExn
  rw [List.find?_append]
  cases hf : xs.find? (· == Exn.intr) with
  | some e =>
    have he : e = .intr := by simpa using List.find?_some hf
    have hmem : Exn.intr ∈ xs := he ▸ List.mem_of_find?_eq_some hf
    simp [hmem, he]
  | none =>
    have hmem : Exn.intr ∉ xs := fun hm => by simpa using List.find?_eq_none.mp hf _ hm
    simp [hmem, Exn.benign]

/-- `tearDown` runs: the call sits in the test method, or `setUp` (with the call in it) returned -/
def tearDownRuns (a : AssertIn) : Prop := a.place = .body ∨ a.after = .ret

theorem setUpGaveUp_false (a : AssertIn) : setUpGaveUp false a = true ↔ ¬ tearDownRuns a := by
  simp [setUpGaveUp, tearDownRuns]

/-- some stage of the test that runs raises an exception that no handler claims (`KeyboardInterrupt`): the stage with the
call has run in any case (`after` is what it does next), the cleanups always run, `tearDown` only if `setUp` did not give up -/
def interrupted (a : AssertIn) : Prop :=
  a.after = .interrupt ∨ (tearDownRuns a ∧ a.tearDown = .interrupt) ∨ .interrupt ∈ a.cleanups

theorem act_exn_eq_intr (x : Act) : x.exn = some .intr ↔ x = .interrupt := by
  cases x <;> simp [Act.exn]

theorem intr_mem_stageExns (a : AssertIn) : Exn.intr ∈ stageExns false a ↔ interrupted a := by
  by_cases ht : tearDownRuns a <;>
    simp [stageExns, somesExn_eq_filterMap, interrupted, setUpGaveUp_false, ht, eq_comm (a := some Exn.intr), act_exn_eq_intr]

/-- **C07 (a failed expectation fails the test — whatever happens afterwards).**  If `expectThat` recorded a mismatch, the run is
reported with `addFailure`, except when a stage raised an exception that has to propagate (`interrupted`): then the outcome is
`addError` for that exception and `run()` re-raises it.  Never success, skip, expected failure or unexpected success.  This holds
wherever the expectation was recorded (in the test method or in `setUp`, before or after its upcall: `a.place`) and for every
continuation of the test: the rest of that stage, `tearDown` (which does not run when `setUp` gave up) and any number of cleanups,
each returning, skipping, raising an expected failure, an unexpected success, a failure, an error or a `KeyboardInterrupt`.  The
reason: the forced `AssertionError` is appended last to the collected exceptions, and `_select_exception` prefers the last
exception that is not a skip / expected failure. -/
theorem C07_expectThat_fails (a : AssertIn) (ds : List Nat) (h : a.api = .expectThat) (hm : a.mismatch = some ds) :
    (¬ interrupted a → (assertModel a).outcome = .failure ∧ (assertModel a).propagated = false) ∧
    (interrupted a → (assertModel a).outcome = .error ∧ (assertModel a).propagated = true) ∧
    failureClass (assertModel a).outcome = true := by
  have hrun : runExns false true a = stageExns false a ++ [.fail] := by simp [runExns]
  unfold assertModel
  simp only [hm, h, hrun, selectExn_forced, ← intr_mem_stageExns]
  by_cases hmem : Exn.intr ∈ stageExns false a <;> simp [hmem, Exn.outcome, failureClass]

-- a failed expectation followed by skipTest in the body, an expected failure in tearDown and an erroring cleanup: addFailure
example : (assertModel { api := .expectThat, existing := [], mismatch := some [], after := .skip, tearDown := .xfail,
                         cleanups := [.error, .ret] }).outcome = .failure := by decide
-- … and with a KeyboardInterrupt in a cleanup: addError, re-raised; without the mismatch the skip would be reported
example : (assertModel { api := .expectThat, existing := [], mismatch := some [], after := .skip, cleanups := [.interrupt] })
    = { raised := false, continued := true, names := [⟨0, 0⟩], forceFailure := true, outcome := .error, propagated := true } := by decide
example : (assertModel { api := .expectThat, existing := [], mismatch := none, after := .skip }).outcome = .skip := by decide
-- a failed expectation in setUp, which then skips: the test method and tearDown do not run, the run is a failure (not
-- addSkip); likewise when setUp ends with an expected failure and a cleanup skips; without the mismatch: the skip
example : (assertModel { api := .expectThat, existing := [], mismatch := some [], after := .skip, tearDown := .error,
                         place := .setUp })
    = { raised := false, continued := true, names := [⟨0, 0⟩], forceFailure := true, outcome := .failure, propagated := false } := by decide
example : (assertModel { api := .expectThat, existing := [], mismatch := some [2], after := .xfail, cleanups := [.skip],
                         place := .setUp }).outcome = .failure := by decide
-- recorded in setUp before the upcall to the base setUp, setUp then returns: still a failure
example : (assertModel { api := .expectThat, existing := [], mismatch := some [], place := .setUpEarly }).outcome = .failure := by decide
example : (assertModel { api := .expectThat, existing := [], mismatch := none, after := .skip, tearDown := .error,
                         place := .setUp }).outcome = .skip := by decide

theorem runExns_allRet (a : AssertIn) (h : allRet a = true) (raised : Bool) :
    runExns raised false a = if raised then [.fail] else [] := by
  simp only [allRet, Bool.and_eq_true, beq_iff_eq, List.all_eq_true] at h
  obtain ⟨⟨h1, h2⟩, h3⟩ := h
  have hc : ∀ x ∈ a.cleanups, x.exn = none := fun x hx => by rw [h3 x hx]; rfl
  simp only [runExns, stageExns, somesExn_eq_filterMap, h1, h2, Act.exn]
  cases raised <;> simpa using hc

/-- without a mismatch and with nothing else happening the test succeeds; a `MismatchError` raised by
`assertThat` / `assert_that` and nothing else is a failure -/
theorem C07_plain_outcomes (a : AssertIn) (h : allRet a = true) :
    (a.mismatch = none → (assertModel a).outcome = .success) ∧
    (a.mismatch.isSome = true → a.api ≠ .expectThat → (assertModel a).outcome = .failure) := by
  constructor
  · intro hm
    simp [assertModel, hm, runExns_allRet a h, selectExn]
  · intro hm ha
    obtain ⟨ds, hds⟩ := Option.isSome_iff_exists.mp hm
    cases hapi : a.api with
    | expectThat => exact absurd hapi ha
    | _ => simp [assertModel, hds, hapi, runExns_allRet a h, selectExn, Exn.benign, Exn.outcome]

/-- **C07 (details attached under non-clobbering names)**: `assertThat` and `expectThat` keep every
existing detail (same names, same order) and add one detail per entry of the mismatch's `get_details()`
(`expectThat` also the "Failed expectation" one), each under a name that is neither an existing one nor
one added before it. -/
theorem C07_details_nonclobbering (a : AssertIn) (ds : List Nat) (hm : a.mismatch = some ds)
    (h : a.api ≠ .assert_that) :
    ∃ added, (assertModel a).names = a.existing ++ added ∧ freshAll a.existing added = true ∧
      added.map (·.base) = (if a.api = .expectThat then ds ++ [0] else ds) := by
  obtain ⟨added, h1, h2, h3⟩ := assertModel_names a
  refine ⟨added, h1, h2, ?_⟩
  rw [h3, hm]
  cases ha : a.api with
  | assert_that => exact absurd ha h
  | _ => rfl
-- expectThat with colliding names: "Failed expectation" exists, the detail d2 exists twice
example : (assertModel { api := .expectThat, existing := [⟨0, 0⟩, ⟨2, 0⟩, ⟨2, 1⟩], mismatch := some [2] }).names
    = [⟨0, 0⟩, ⟨2, 0⟩, ⟨2, 1⟩, ⟨2, 2⟩, ⟨0, 1⟩] := by decide

example : (assertModel { api := .expectThat, existing := [], mismatch := some [], after := .skip, tearDown := .xfail,
                         cleanups := [.error, .ret] }).outcome = .failure := by decide
example : (assertModel { api := .expectThat, existing := [], mismatch := some [], after := .skip, cleanups := [.interrupt] })
    = { raised := false, continued := true, names := [⟨0, 0⟩], forceFailure := true, outcome := .error, propagated := true } := by decide
example : (assertModel { api := .expectThat, existing := [], mismatch := none, after := .skip }).outcome = .skip := by decide
-- tearDown's KeyboardInterrupt counts only if tearDown runs
example : ¬ interrupted { api := .expectThat, existing := [], mismatch := some [], after := .skip, tearDown := .interrupt,
                          place := .setUp } := by simp [interrupted, tearDownRuns]

end Assert

section Headline
open TTV.Matchers hiding Input Trace model
open TTV.Describe TTV.Spec.C07 TTV.TextRepr

theorem eq_stripAnnot {α : Type} (f : M → α) (h : ∀ m, f (.annotate m) = f m) (m : M) : f m = f (stripAnnot m) := by
  fun_induction stripAnnot m with
  | case1 m ih => exact (h m).trans ih
  | case2 m _ => rfl

theorem matchImpl_stripAnnot (sel : Bool) (m : M) (v : V) : matchImpl sel m v = matchImpl sel (stripAnnot m) v :=
  eq_stripAnnot (matchImpl sel · v) (fun _ => rfl) m

theorem coarse_stripAnnot : ∀ (m : M), coarse m = coarse (stripAnnot m) :=
  eq_stripAnnot coarse fun _ => rfl

/-- **C07 (a well-formed `MatchesPredicate` returns its Mismatch)**: for every value `v` of which the
predicate is false — a tuple included, the message is formatted with `(v,)` — `match()` returns a Mismatch.
(`'%s' % (v,)` is `str(v)`: the values of the universe whose `__str__` raises, the instances of the harness's
`StrRaisesError`, are excluded — see `C07_predicate_str_raises`.) -/
theorem C07_predicate_mismatch_built (sel : Bool) (id : Nat) (dom : List V) (res : List Verdict) (v : V)
    (hno : lookupTbl v dom res = .mismatch) (hstr : strRaises v = false) :
    matchImpl sel (.leaf (.predicate id .one dom res)) v = .mismatch := by
  simp [matchImpl, leafImpl, hno, fmtErr, hstr]
/-- For the values whose `__str__` raises, the `ValueError` propagates out of `match()` of a well-formed `MatchesPredicate`. -/
theorem C07_predicate_str_raises (sel : Bool) (id : Nat) (dom : List V) (res : List Verdict) (v : V)
    (hno : lookupTbl v dom res = .mismatch) (hstr : strRaises v = true) :
    matchImpl sel (.leaf (.predicate id .one dom res)) v = .raised .valueError := by
  simp [matchImpl, leafImpl, hno, fmtStr, hstr]
-- a MatchesPredicate on an exc_info tuple returns its Mismatch; built outside its domain (empty message) it raises
example : matchImpl true (.leaf (.predicate 1 .one [.exc ⟨.valueError, 1⟩ true] [.mismatch])) (.exc ⟨.valueError, 1⟩ true) = .mismatch
    ∧ matchImpl true (.leaf (.predicate 1 .empty [.dict [] []] [.mismatch])) (.dict [] []) = .raised .typeError := by decide

/-- `str()` of an instance of any class of the table succeeds (no row resolves to `Matcher.__str__`) -/
theorem C07_str_known_total (cls : String) : strKnown cls = none := by
  unfold strKnown
  split
  · rename_i heq
    obtain ⟨hkinds, _, _⟩ := C07_str_table_ok
    simpa using List.all_eq_true.mp hkinds _ (List.mem_of_find?_eq_some heq)
  · rfl

theorem model_describe (m : M) (v : V) (annotated verbose : Bool) :
    model (.describe m v annotated verbose) =
      .describe none (canon (withMessage annotated m) (matchImpl true (withMessage annotated m) v)) none none none := by
  simp [model, C07_str_total, C07_describe_total, seqR]

/-- **C07 (`str(MismatchError)` is total)**, verbose or not, annotated or not: for every
expression and every value, `str(matcher)`, `describe()`, `get_details()` and `str(MismatchError(...))`
all succeed in the model. -/
theorem C07_mismatch_error_str_total (m : M) (v : V) (annotated verbose : Bool) :
    ∃ r, model (.describe m v annotated verbose) = .describe none r none none none :=
  ⟨_, model_describe m v annotated verbose⟩

theorem matchImpl_of_predicateSaysNo (sel : Bool) (m : M) (v : V) (h : predicateSaysNo m v = true) :
    matchImpl sel m v = .mismatch := by
  rw [matchImpl_stripAnnot]
  unfold predicateSaysNo at h
  split at h
  · rename_i heq
    rw [Bool.and_eq_true, beq_iff_eq, Bool.not_eq_eq_eq_not, Bool.not_true] at h
    rw [heq]
    exact C07_predicate_mismatch_built sel _ _ _ v h.1 h.2
  · cases h

/-- The executable specification holds of the model's trace, for every input.  The clauses stand in the order of
`Spec.C07.clauses`: str-total, describe-total, error-str-total, mismatch-built, text-repr-roundtrip, raises-iff, fails-afterwards,
details-non-clobbering; a clause that does not speak of the input's kind holds by `rfl`. -/
theorem holds_model (i : Input) : holds i (model i) = true := by
  simp only [holds, clauses, List.all_cons, List.all_nil, Bool.and_true, Bool.and_eq_true]
  cases i with
  | describe m v annotated verbose =>
    rw [model_describe]
    refine ⟨rfl, Bool.or_true _, Bool.or_true _, ?mismatchBuilt, rfl, rfl, rfl, rfl⟩
    simp only [cMismatchBuilt]
    split
    · rename_i hp
      rw [matchImpl_of_predicateSaysNo true _ v hp]
      rfl
    · rfl
  | textRepr b ml np s =>
    refine ⟨rfl, rfl, rfl, rfl, ?textReprRoundTrip, rfl, rfl, rfl⟩
    simp only [cTextReprRoundTrip, model]
    cases hvt : validText b s with
    | false => simp
    | true =>
      rw [C07_text_repr_roundtrip b _ ml s ((validText_iff b s).mp hvt)]
      simp
  | ctor cls row variant matchee annotated verbose =>
    refine ⟨?strTotal, rfl, rfl, rfl, rfl, rfl, rfl, rfl⟩
    simp [cStrTotal, model, C07_str_known_total]
  | assert a =>
    refine ⟨rfl, rfl, rfl, rfl, rfl, ?raisesIff, ?failsAfterwards, ?nonClobbering⟩
    case raisesIff =>
      simp only [cRaisesIff, model, assertModel]
      cases a.mismatch <;> cases a.api <;> rfl
    case failsAfterwards =>
      simp only [cFailsAfterwards, model, assertModel_forceFailure]
      cases hm : a.mismatch with
      | none =>
        have hs : (!allRet a || (assertModel a).outcome == .success) = true := by
          cases hr : allRet a with
          | false => rfl
          | true => simp [(C07_plain_outcomes a hr).1 hm]
        cases ha : a.api <;> simp [hs]
      | some ds =>
        cases ha : a.api with
        | expectThat => simp [(C07_expectThat_fails a ds ha hm).2.2]
        | _ =>
          cases hr : allRet a with
          | false => simp
          | true => simp [(C07_plain_outcomes a hr).2 (by simp [hm]) (by simp [ha])]
    case nonClobbering =>
      obtain ⟨added, h1, h2, h3⟩ := assertModel_names a
      simp [cNonClobbering, model, h1, h2, h3]
      cases a.mismatch <;> cases a.api <;> rfl   -- the same `match` on both sides, compiled once for each

example : (assertModel { api := .expectThat, existing := [], mismatch := some [], after := .skip, tearDown := .xfail,
                         cleanups := [.error, .ret] }).outcome = .failure := by decide
example : (assertModel { api := .expectThat, existing := [], mismatch := some [], after := .skip, cleanups := [.interrupt] })
    = { raised := false, continued := true, names := [⟨0, 0⟩], forceFailure := true, outcome := .error, propagated := true } := by decide
example : (assertModel { api := .expectThat, existing := [], mismatch := none, after := .skip }).outcome = .skip := by decide
example : (assertModel { api := .expectThat, existing := [], mismatch := some [], after := .skip, tearDown := .xfail,
                         cleanups := [.error, .ret] }).outcome = .failure := by decide
example : (assertModel { api := .expectThat, existing := [], mismatch := some [], after := .skip, cleanups := [.interrupt] })
    = { raised := false, continued := true, names := [⟨0, 0⟩], forceFailure := true, outcome := .error, propagated := true } := by decide
example : (assertModel { api := .expectThat, existing := [], mismatch := none, after := .skip }).outcome = .skip := by decide

end Headline

section SourceTies
open TTV.Matchers hiding Input Trace model
open TTV.Describe TTV.MatchSkel TTV.Generated

/-- `Mismatch.__init__` keeps a description that `is not None` (an empty one too), `describe()` returns it and raises
`NotImplementedError` only when none was given, `get_details()` returns the details, `MismatchDecorator` forwards both;
`MismatchError.__str__`: describe first; verbose: `text_repr(matchee, multiline=False)` for str / bytes, `repr` otherwise,
interpolated in the order matchee, matcher, difference; terse: the difference alone -/
theorem C07_src_mismatch : MatchSrc.mismatch = refMismatch ∧ MatchSrc.mismatchErrorStr = refErrStr :=
  ⟨rfl, rfl⟩

/-- `_matchHelper`, `assertThat`, `expectThat`, `addDetailUniqueName` and `assert_that` as found in the source -/
theorem C07_src_assert_skel : MatchSrc.assertFamily = refAssert := rfl

/-- The model of the three entry points (raised?, detail names afterwards, forced failure) is the interpretation of `MatchSrc.assertFamily`. -/
theorem C07_src_assert (a : AssertIn) :
    assertI MatchSrc.assertFamily a = ((assertModel a).raised, (assertModel a).names, (assertModel a).forceFailure) := by
  rw [C07_src_assert_skel]
  unfold assertI assertModel
  cases hm : a.mismatch <;> cases ha : a.api <;>
    simp [refAssert, ResTest.holds, assertI.mismatched']

/-- the loops whose collected sub-mismatches `descrParts` describes, and the two wrappers, are in the source what `TTV.MatchSkel`
gives as reference (`C06_src_matchesAll` … `C06_src_annotate` read the matcher model's clauses off these) -/
theorem C07_src_described_parts : MatchSrc.matchesAll = refAll ∧ MatchSrc.matchesAny = refAny ∧
    MatchSrc.allMatch = refAllMatch ∧ MatchSrc.anyMatch = refAnyMatch ∧ MatchSrc.matchesListwise = refListwise ∧
    MatchSrc.notM = refNot ∧ MatchSrc.annotate = refAnnotate :=
  ⟨rfl, rfl, rfl, rfl, rfl, rfl, rfl⟩

end SourceTies

end TTV.Props.C07
