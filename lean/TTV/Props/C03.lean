import TTV.Lemmas.RunTrace
import TTV.Lemmas.RunSkel
import TTV.Generated.RunSkel
import TTV.Spec.C03
/-! # C03 — the reported outcome is sound; failures are never masked

For every program, handler table, flavour and left-over `force_failure` (see `Props/C01.lean` for the
quantifier).  The documented type→outcome mapping `Spec.C03.docDefault` is stated independently of the
`exception_handlers` table extracted from the source; `lookup_default` proves that the extracted table
implements it (a reordered or edited table breaks this proof). -/
namespace TTV.Props.C03
open TTV.Run TTV.Spec.Run TTV.Spec.C03

theorem lookup_default (e : Exc) : lookup defaultHandlers e = docDefault e.cls := by
  simp only [lookup, handlerFor, defaultHandlers, TTV.Generated.C01.exceptionHandlers, List.map_cons, List.map_nil,
    clsOfRow, outcomeOfRow, List.find?_cons, List.find?_nil, docDefault]
  -- both sides try the five classes in the same order
  cases isSub e.cls .skip
  case true => rfl
  cases isSub e.cls .failure
  case true => rfl
  cases isSub e.cls .xfail
  case true => rfl
  cases isSub e.cls .uxs
  case true => rfl
  cases isSub e.cls .exc <;> rfl

theorem lookup_getD_eq_mapsTo (p : Program) (e : Exc) :
    (lookup (handlers p) e).getD .error = mapsTo p e := by
  rw [handlers, lookup_append, lookup_default, mapsTo, lookup]
  cases handlerFor p.userHandlers e <;> rfl

theorem degrade_unsuccessful (f : Flavour) (o : Outcome) (h : o.unsuccessful = true) :
    (degrade f o).unsuccessful = true := by
  cases o <;> first | (cases f <;> rfl) | cases h

theorem degrade_success (f : Flavour) (o : Outcome) (hf : f ≠ .py26) : degrade f o = .success ↔ o = .success := by
  cases f <;> first | exact absurd rfl hf | exact Iff.rfl | (cases o <;> decide)

theorem select_not_benign (hs : Handlers) (es : List Exc) (h : ∃ e ∈ es, benign hs e = false)
    (hall : ∀ e ∈ es, claimed hs e = true) :
    ∃ e, select hs es = some e ∧ benign hs e = false := by
  rw [select_of_claimed hs es hall]
  cases hf : es.reverse.find? fun e => !benign hs e with
  | some e => exact ⟨e, rfl, by simpa using List.find?_some hf⟩
  | none =>
    obtain ⟨e, hmem, hb⟩ := h
    have := List.find?_eq_none.mp hf e (by simpa using hmem)
    simp [hb] at this

theorem observed_of_view {p : Program} {ff0 : Bool} {o : Outcome} {r sel : Option Exc} (v : RunView p ff0 o r sel) :
    observed (runOnce p ff0) = some (degrade p.flavour o) := by
  rw [observed, v.outcome]; rfl

theorem decided_single {p : Program} {es : List Exc} {e : Exc} {o : Outcome} {r sel : Option Exc}
    (h : Decided (handlers p) es o r sel) (he : es = [e]) : o = mapsTo p e := by
  subst he
  rw [← lookup_getD_eq_mapsTo, lookup]
  cases h with
  | success hnil => cases hnil
  | handled e' rep hsel hh | lastResort e' hsel hh => cases hsel.symm.trans (select_single _ e); rw [hh]; rfl

theorem reporter_ne_success (p : Program) (hus : p.userHandlers.any (fun h => h.2.outcome == .success) = false)
    {e : Exc} {rep : Reporter} (hh : handlerFor (handlers p) e = some rep) : rep.outcome ≠ .success := by
  rcases reporter_cases p e rep hh with ⟨c, hm⟩ | ⟨o', rfl, ho'⟩
  · intro hs
    have := List.any_eq_false.mp hus (c, rep) hm
    simp [hs] at this
  · exact ho'

theorem decided_success_iff {p : Program} (hus : p.userHandlers.any (fun h => h.2.outcome == .success) = false)
    {es : List Exc} {o : Outcome} {r sel : Option Exc} (h : Decided (handlers p) es o r sel) : o = .success ↔ es = [] := by
  cases h with
  | success hnil => simp [hnil]
  | handled e rep hsel hh => simpa [List.ne_nil_of_mem (select_mem _ _ _ hsel)] using reporter_ne_success p hus hh
  | lastResort e hsel hh => simp [List.ne_nil_of_mem (select_mem _ _ _ hsel)]

/-- the forced failure, raised last, is reported as a failure unless something has to propagate -/
theorem decided_forced {p : Program} (hu : handlerFor p.userHandlers forcedFailure = none) {L : List Exc} {o : Outcome}
    {r sel : Option Exc} (h : Decided (handlers p) (L ++ [forcedFailure]) o r sel) : o = .failure ∨ o = .error := by
  have hh0 : handlerFor (handlers p) forcedFailure = some (.std .failure) := by
    simp only [handlers, handlerFor_append, hu, Option.none_or, handlerFor_default_forced]
  cases h with
  | success hnil => simp at hnil
  | lastResort e hsel hh => exact Or.inr rfl
  | handled e rep hsel hh =>
    -- everything is claimed, so the forced failure, raised last, is the one selected
    have hall := select_handled_all _ _ e rep hsel hh
    rw [select_last_of_claimed _ _ _ hall (by simp [benign, hh0])] at hsel
    cases hsel
    rw [hh0] at hh; cases hh
    exact Or.inl rfl

theorem decided_unsuccessful {p : Program} (hu : userHandlersUnsuccessful p = true) {es : List Exc} {o : Outcome}
    {r sel : Option Exc} (h : Decided (handlers p) es o r sel) (hx : ∃ x ∈ es, mapsTo p x = .failure ∨ mapsTo p x = .error) :
    o.unsuccessful = true := by
  obtain ⟨x, hx, hxm⟩ := hx
  cases h with
  | success hnil => rw [hnil] at hx; cases hx
  | lastResort e hsel hh => rfl
  | handled e rep hsel hh =>
    -- `x` is not benign: the case's own skip / expected-failure reporter would make it map to skip / xfail
    have hxb : benign (handlers p) x = false := by
      have hm := lookup_getD_eq_mapsTo p x
      unfold lookup at hm
      unfold benign
      split <;> first | rfl | (rename_i hh'; rw [hh'] at hm; rcases hxm with h | h <;> rw [h] at hm <;> cases hm)
    -- so a non-benign exception is selected; its reporter is a user handler's (unsuccessful by hypothesis) or one
    -- of the case's own other than skip / expected failure
    obtain ⟨e', hsel', hb'⟩ := select_not_benign _ _ ⟨x, hx, hxb⟩ (select_handled_all _ _ e rep hsel hh)
    rw [hsel] at hsel'
    cases hsel'
    rcases reporter_cases p e rep hh with ⟨c, hm⟩ | ⟨o', rfl, ho'⟩
    · exact List.all_eq_true.mp hu (c, rep) hm
    · simp only [benign, hh] at hb'
      cases o' <;> first | rfl | exact absurd rfl ho' | cases hb'

/-- C03 (success): on results that show every outcome kind, and unless a user-supplied handler itself
reports success, a success is reported iff no stage raised anything, no `expectThat` mismatched and
`force_failure` was not set (a mismatch / the flag adds the forced failure to `excs`). -/
theorem C03_success_iff (p : Program) (ff0 : Bool) (hwf : wf p = true) (hskip : p.skipDeco = none)
    (hpy : p.flavour ≠ .py26) (hus : p.userHandlers.any (fun h => h.2.outcome == .success) = false) :
    observed (runOnce p ff0) = some .success ↔ (runCore p ff0).1.excs = [] := by
  obtain ⟨o, r, sel, v⟩ := runOnce_view p ff0 hwf hskip
  rw [observed_of_view v, Option.some.injEq, degrade_success _ _ hpy, decided_success_iff hus v.decided]

/-- C03 (forced failure): when the run ends with `force_failure` set (`ff`: in the model set by a mismatching `expectThat`
in an executed stage — `setUp` included, whether or not `setUp` then completes — or left set from before, `ff0`), it
raises the forced failure — so by `C03_success_iff` it is not a success. -/
theorem C03_forced (p : Program) (ff0 : Bool) (hwf : wf p = true) (hskip : p.skipDeco = none)
    (hff : (runCore p ff0).1.ff = true) : forcedFailure ∈ (runCore p ff0).1.excs := by
  have cf := runCore_facts p ff0 hwf hskip
  rw [cf.excs]; simp [hff]

/-- C03 (a failed expectation is never reported as anything milder): if an `expectThat` mismatched in an executed
stage (or `force_failure` was left set) and the user inserted no handler claiming the forced `AssertionError`, the
one reported outcome is a failure, or the error of an exception that has to propagate — whatever else was raised,
in particular when `setUp` recorded the mismatch and then raised a skip or an expected failure. -/
theorem C03_expectation_fails (p : Program) (ff0 : Bool) (hwf : wf p = true) (hskip : p.skipDeco = none)
    (hu : handlerFor p.userHandlers forcedFailure = none) (hff : (runCore p ff0).1.ff = true) :
    observed (runOnce p ff0) = some (degrade p.flavour .failure) ∨
    observed (runOnce p ff0) = some (degrade p.flavour .error) := by
  obtain ⟨o, r, sel, v⟩ := runOnce_view p ff0 hwf hskip
  have hd := v.decided
  rw [v.core.excs, if_pos hff] at hd
  rw [observed_of_view v]
  exact (decided_forced hu hd).imp (fun h => by rw [h]) (fun h => by rw [h])

/-- C03 (single exception): exactly one exception ⇒ the outcome its type maps to, user handlers first. -/
theorem C03_single (p : Program) (ff0 : Bool) (hwf : wf p = true) (hskip : p.skipDeco = none) (e : Exc)
    (h : (runCore p ff0).1.excs = [e]) : observed (runOnce p ff0) = some (degrade p.flavour (mapsTo p e)) := by
  obtain ⟨o, r, sel, v⟩ := runOnce_view p ff0 hwf hskip
  rw [observed_of_view v, decided_single v.decided h]

/-- C03 (never masked): if any stage raised an exception that maps to failure or error — wherever, and
whatever other stages raised before or after it (skips, expected failures, anything) — the one reported
outcome is failure, error or unexpected success.  Hypothesis: handlers inserted by the user report
unsuccessful outcomes (a user handler is arbitrary code). -/
theorem C03_no_downgrade (p : Program) (ff0 : Bool) (hwf : wf p = true) (hskip : p.skipDeco = none)
    (hu : userHandlersUnsuccessful p = true)
    (h : ∃ e ∈ (runCore p ff0).1.excs, mapsTo p e = .failure ∨ mapsTo p e = .error) :
    ∃ o, observed (runOnce p ff0) = some o ∧ o.unsuccessful = true := by
  obtain ⟨o, r, sel, v⟩ := runOnce_view p ff0 hwf hskip
  exact ⟨_, observed_of_view v, degrade_unsuccessful _ _ (decided_unsuccessful hu v.decided h)⟩

section perRun
variable (p : Program) (ff0 : Bool) (hwf : wf p = true)
include hwf

theorem clause_successIff : cSuccessIff p ff0 (runOnce p ff0) = true := by
  cases hskip : p.skipDeco with
  | some r => simp [cSuccessIff, hskip]
  | none =>
    simp only [cSuccessIff, hskip, Option.isSome_none, Bool.false_or, Bool.or_eq_true, beq_iff_eq]
    by_cases hpy : p.flavour = .py26
    · exact Or.inl (Or.inl hpy)
    by_cases hus : p.userHandlers.any (fun h => h.2.outcome == .success) = true
    · exact Or.inl (Or.inr hus)
    right
    obtain ⟨o, r, sel, v⟩ := runOnce_view p ff0 hwf hskip
    have := C03_success_iff p ff0 hwf hskip hpy (by simpa using hus)
    rw [v.reads.raised, Bool.eq_iff_iff]
    simpa [List.isEmpty_iff] using this

theorem clause_single : cSingle p ff0 (runOnce p ff0) = true := by
  cases hskip : p.skipDeco with
  | some r => simp [cSingle, hskip]
  | none =>
    obtain ⟨o, r, sel, v⟩ := runOnce_view p ff0 hwf hskip
    simp only [cSingle, hskip, Option.isSome_none, Bool.false_or, v.reads.raised]
    split
    · rename_i e hex
      simp [C03_single p ff0 hwf hskip e hex]
    · rfl

theorem clause_noDowngrade : cNoDowngrade p ff0 (runOnce p ff0) = true := by
  cases hskip : p.skipDeco with
  | some r => simp [cNoDowngrade, hskip]
  | none =>
    obtain ⟨o, r, sel, v⟩ := runOnce_view p ff0 hwf hskip
    simp only [cNoDowngrade, hskip, Option.isSome_none, Bool.false_or, Bool.or_eq_true, v.reads.raised]
    by_cases hu : userHandlersUnsuccessful p = true
    case neg => left; left; simpa using hu
    by_cases hany : (runCore p ff0).1.excs.any (fun e => mapsTo p e == .failure || mapsTo p e == .error) = true
    case neg => left; right; simpa using hany
    right
    obtain ⟨x, hx, hxm⟩ := List.any_eq_true.mp hany
    obtain ⟨o', ho', hun⟩ := C03_no_downgrade p ff0 hwf hskip hu ⟨x, hx, by simpa using hxm⟩
    rw [ho']; exact hun

theorem clause_expectationFails : cExpectationFails p ff0 (runOnce p ff0) = true := by
  cases hskip : p.skipDeco with
  | some r => simp [cExpectationFails, hskip]
  | none =>
    obtain ⟨o, r, sel, v⟩ := runOnce_view p ff0 hwf hskip
    simp only [cExpectationFails, hskip, Option.isSome_none, Bool.false_or, Bool.or_eq_true, v.reads.ffNow, beq_iff_eq]
    by_cases hff : (runCore p ff0).1.ff = true
    case neg => left; left; simpa using hff
    cases hu : handlerFor p.userHandlers forcedFailure with
    | some x => exact Or.inl (Or.inr rfl)
    | none => exact Or.inr (C03_expectation_fails p ff0 hwf hskip hu hff)

end perRun

theorem holds_model (i : Input) : holds i (model i) = true := by
  simp only [holds, clauses, List.all_cons, List.all_nil, Bool.and_true, Bool.and_eq_true]
  exact ⟨lift_model _ i (fun hwf ff0 => clause_successIff _ ff0 hwf),
    lift_model _ i (fun hwf ff0 => clause_single _ ff0 hwf),
    lift_model _ i (fun hwf ff0 => clause_noDowngrade _ ff0 hwf),
    lift_model _ i (fun hwf ff0 => clause_expectationFails _ ff0 hwf)⟩

/-! ## non-vacuity: a failure in the test method followed by a skip raised in a cleanup
The example evaluates the static hypotheses of `C03_no_downgrade` (`wf`, the user handler, what the failure maps to), not that
the failure is recorded. -/
def demo : Program :=
  { skipDeco := none, xfailDeco := false
    setUp := .mk 1 [] .ret
    body := .mk 2 [.cleanup (.mk 4 [] (.raise1 ⟨.skip, 7⟩))] (.raise1 ⟨.failure, 1⟩)
    tearDown := .mk 3 [] .ret
    userHandlers := [(.user 2 .exc, .user 0 .failure)], nOnExc := 0, attrs0 := [], flavour := .ext }

example : wf demo = true ∧ userHandlersUnsuccessful demo = true ∧ mapsTo demo ⟨.failure, 1⟩ = .failure := by decide

/-! ### tie to the source: `RunTest._select_exception` / `_handler_for`
`TTV.Generated.RunSkel.selectRules` is produced by `harness/pyskel.py` from `testtools/runtest.py` on every run. -/
/-- the model's `select` is the interpretation of the selection rules found in the source, and `_handler_for`
is the first-isinstance-match loop that `handlerFor` transcribes -/
theorem C03_src_select (hs : Handlers) (es : List Exc) :
    RunSkel.selInterp hs es Generated.RunSkel.selectRules = select hs es
      ∧ Generated.RunSkel.handlerForIsFirstMatch = true := by
  have e : Generated.RunSkel.selectRules = RunSkel.refSelect := by decide
  rw [e]; exact ⟨RunSkel.selInterp_refSelect hs es, by decide⟩

end TTV.Props.C03
