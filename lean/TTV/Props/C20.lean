import TTV.Model.Deferred
import TTV.Spec.C20
import TTV.Lemmas.DeferredSkel
import TTV.Generated.DeferredSrc
/-! # C20 — Deferred matchers classify fired/failed/unfired without firing anything

All statements are for **every** state of the Deferred (any pending callbacks, any probes) and every history of fire /
add-callback / resume / match / classify / extract operations, and every inner matcher of the model's alphabet.  The matchers as
implemented (capturing callbacks, `addErrback`) refine their declaration: `matchOp_decl` writes the implemented matcher as the
declared effect plus one capturing pair, and `Rel`, equality of two states up to capturing pairs, is kept by every operation
(`sim_step`), whence `C20_invisible`. -/
namespace TTV.Props.C20
open TTV.Deferred TTV.Spec.C20

theorem add_cases (d : D) (cb : Cb) :
    (∃ r, d.st = .fired r ∧ add d cb = (runCbs [cb] r d.seen, some r)) ∨
    ((∀ r, d.st ≠ .fired r) ∧ add d cb = ({ d with cbs := d.cbs ++ [cb] }, none)) := by
  unfold add
  cases h : d.st with
  | fired r => exact Or.inl ⟨r, rfl, rfl⟩
  | unfired => exact Or.inr ⟨by simp, rfl⟩
  | paused => exact Or.inr ⟨by simp, rfl⟩

theorem runCbs_capture_cons (l : List Cb) (r : Res) (seen : List (Nat × Res)) :
    runCbs (captureCb :: l) r seen = runCbs l r seen := by
  cases r <;> rfl

theorem runCbs_capture (r : Res) (seen : List (Nat × Res)) : runCbs [captureCb] r seen = ⟨.fired r, [], seen⟩ :=
  runCbs_capture_cons [] r seen

theorem runCbs_handle_fail (e : Nat) (seen : List (Nat × Res)) :
    runCbs [handleCb] (.fail e) seen = ⟨.fired (.ok .none), [], seen⟩ := rfl

theorem run_extract (r : Res) (seen : List (Nat × Res)) :
    runCbs [extractCb] r seen = ⟨.fired (.ok .none), [], seen⟩ := by
  cases r <;> rfl

def strip (l : List Cb) : List Cb := l.filter (· != captureCb)

theorem strip_append (l l' : List Cb) : strip (l ++ l') = strip l ++ strip l' := List.filter_append ..

theorem strip_capture : strip [captureCb] = [] := rfl

/-- the declared state `d` and the implementation's state `d'` agree up to capturing callbacks.  Pending callbacks do not
matter once there is a result: they have been consumed.  (`D` also has states with a result AND pending pairs; no history
reaches one, but `D.byState` and the theorems below range over them, hence the guard of `cbs`.) -/
structure Rel (d d' : D) : Prop where
  st : d.st = d'.st
  seen : d.seen = d'.seen
  cbs : (∀ r, d.st ≠ .fired r) → strip d.cbs = strip d'.cbs

theorem Rel.refl (d : D) : Rel d d := ⟨rfl, rfl, fun _ => rfl⟩

theorem Rel.symm {a b : D} (h : Rel a b) : Rel b a :=
  ⟨h.st.symm, h.seen.symm, fun hp => (h.cbs (h.st ▸ hp)).symm⟩

theorem Rel.trans {a b c : D} (h : Rel a b) (h' : Rel b c) : Rel a c :=
  ⟨h.st.trans h'.st, h.seen.trans h'.seen, fun hp => (h.cbs hp).trans (h'.cbs (h.st ▸ hp))⟩

theorem rel_capture (d : D) : Rel d (add d captureCb).1 := by
  rcases add_cases d captureCb with ⟨r, hs, e⟩ | ⟨_, e⟩ <;> rw [e]
  · rw [runCbs_capture]
    exact ⟨hs, rfl, fun hp => absurd hs (hp r)⟩
  · exact ⟨rfl, rfl, fun _ => by rw [strip_append, strip_capture, List.append_nil]⟩

/-- `matcher.match(deferred)` through its declaration; after this and `extractOp_decl` neither `matchOp` nor `extractOp` is
unfolded again -/
theorem matchOp_decl (m : Matcher) (d : D) : matchOp m d = ((add (declAfter m d) captureCb).1, declVerdict m d.st) := by
  cases d using D.byState <;> cases m <;> rfl

theorem matchOp_verdict (m : Matcher) (d : D) : (matchOp m d).2 = declVerdict m d.st := by rw [matchOp_decl]

theorem rel_matchOp (m : Matcher) (d : D) : Rel (declAfter m d) (matchOp m d).1 := by
  rw [matchOp_decl]; exact rel_capture _

theorem matchOp_st (m : Matcher) (d : D) : (matchOp m d).1.st = (declAfter m d).st := (rel_matchOp m d).st.symm

theorem declAfter_eq_self {m : Matcher} {d : D} (h : (∀ e, d.st ≠ .fired (.fail e)) ∨ m = .noResult) : declAfter m d = d := by
  rcases h with h | rfl
  · unfold declAfter
    split
    · rfl
    · exact absurd ‹_› (h _)
    · rfl
  · rfl

theorem declAfter_handled {m : Matcher} {d : D} {e : Nat} (hs : d.st = .fired (.fail e)) (hm : m ≠ .noResult) :
    declAfter m d = { d with st := .fired (.ok .none) } := by
  cases m with
  | noResult => exact absurd rfl hm
  | _ => simp [declAfter, hs]

theorem called_congr {d d' : D} (h : d.st = d'.st) : d.called = d'.called := by simp [D.called, h]

theorem isFailed_congr {d d' : D} (h : d.st = d'.st) : isFailed d = isFailed d' := by simp [isFailed, h]

/-- the declared effect only turns a fired state into a fired state -/
theorem declAfter_called (m : Matcher) (d : D) : (declAfter m d).called = d.called := by
  cases d using D.byState <;> cases m <;> rfl

/-- C20 (no result): `has_no_result()` matches iff the Deferred has no current result (not fired, or waiting
for a chained Deferred). -/
theorem C20_noResult_iff (d : D) : (matchOp .noResult d).2 = true ↔ (d.st = .unfired ∨ d.st = .paused) := by
  rw [matchOp_verdict]; cases d.st <;> simp [declVerdict]

/-- C20 (succeeded): `succeeded(m)` matches iff the Deferred has fired with a value `v` and `m` matches `v`. -/
theorem C20_succeeded_iff (vm : VM) (d : D) :
    (matchOp (.succeeded vm) d).2 = true ↔ ∃ v, d.st = .fired (.ok v) ∧ vm.eval v = true := by
  rw [matchOp_verdict]
  cases hs : d.st with
  | fired r => cases r <;> simp [declVerdict]
  | _ => simp [declVerdict]

/-- C20 (failed): `failed(m)` matches iff the Deferred has fired with a failure and `m` matches it. -/
theorem C20_failed_iff (fm : FM) (d : D) :
    (matchOp (.failed fm) d).2 = true ↔ ∃ e, d.st = .fired (.fail e) ∧ fm.eval e = true := by
  rw [matchOp_verdict]
  cases hs : d.st with
  | fired r => cases r <;> simp [declVerdict]
  | _ => simp [declVerdict]

/-- C20 (trichotomy): for every Deferred exactly one of `has_no_result()`, `succeeded(Always())`,
`failed(Always())` matches. -/
theorem C20_trichotomy (d : D) :
    exactlyOne (matchOp .noResult d).2 (matchOp (.succeeded .always) d).2 (matchOp (.failed .always) d).2 = true := by
  simp only [matchOp_verdict]
  cases hs : d.st with
  | fired r => cases r <;> rfl
  | _ => rfl

theorem extractOp_decl (d : D) : extractOp d = ((add d extractCb).1, declExtract d.st) := by
  cases d using D.byState <;> rfl

/-- C20 (extract): `extract_result` returns the value, raises the failure's exception, or raises `DeferredNotFired`. -/
theorem C20_extract (d : D) :
    (extractOp d).2 = (match d.st with
      | .fired (.ok v) => Extracted.value v
      | .fired (.fail e) => .raised e
      | _ => .notFired) := by
  rw [extractOp_decl]; rfl

/-- C20 (never fires): matching leaves `called` as it was. -/
theorem C20_passive_never_fires (m : Matcher) (d : D) : (matchOp m d).1.called = d.called :=
  (called_congr (matchOp_st m d)).trans (declAfter_called m d)

/-- C20 (unfired unchanged): on a Deferred without a result the only effect is one more pass-through callback. -/
theorem C20_passive_unfired (m : Matcher) (d : D) (h : d.st = .unfired ∨ d.st = .paused) :
    (matchOp m d).1 = { d with cbs := d.cbs ++ [captureCb] } := by
  have hp : ∀ r, d.st ≠ .fired r := by rcases h with h | h <;> simp [h]
  rw [matchOp_decl, declAfter_eq_self (.inl fun _ => hp _)]
  rcases add_cases d captureCb with ⟨r, hs, _⟩ | ⟨_, e⟩
  · exact absurd hs (hp r)
  · rw [e]

/-- C20 (value intact): a successful result is still that result afterwards, whatever the matcher. -/
theorem C20_passive_value_intact (m : Matcher) (d : D) (v : Val) (h : d.st = .fired (.ok v)) :
    (matchOp m d).1.st = .fired (.ok v) ∧ (matchOp m d).1.seen = d.seen := by
  have r := rel_matchOp m d
  rw [declAfter_eq_self (.inl fun e => by simp [h])] at r
  exact ⟨r.st.symm.trans h, r.seen.symm⟩

/-- C20 (failure handled): after `succeeded(m)` or `failed(m)` inspected a failure the result is not a failure any more
(nothing to log at collection); after `has_no_result()` it still is. -/
theorem C20_passive_failure (m : Matcher) (d : D) (e : Nat) (h : d.st = .fired (.fail e)) :
    isFailed (matchOp m d).1 = (match m with | .noResult => true | _ => false) := by
  unfold isFailed
  rw [matchOp_st]
  cases m <;> simp [declAfter, h]

/-! ## repetition: what a second matcher sees

The statement's "leaves an unfired Deferred and a successful result intact" and "a failure inspected … is marked
handled" are claims about *one* `match`; read under repetition they say what the next matcher on the same Deferred
sees. -/

/-- C20 (repetition, intact): unless the first matcher inspected a failure, a second matcher — any matcher — gives
exactly the verdict it would have given on the untouched Deferred. -/
theorem C20_rematch_stable (m m' : Matcher) (d : D)
    (h : (∀ e, d.st ≠ .fired (.fail e)) ∨ m = .noResult) :
    (matchOp m' (matchOp m d).1).2 = (matchOp m' d).2 := by
  rw [matchOp_verdict, matchOp_verdict, matchOp_st, declAfter_eq_self h]

/-- C20 (repetition, handled): after `succeeded(m)` or `failed(m)` inspected a failure, every later matcher sees a
Deferred that fired with the value `None` — so `failed(Always())` matches a failed Deferred once, not twice. -/
theorem C20_rematch_after_handled (m m' : Matcher) (d : D) (e : Nat)
    (hs : d.st = .fired (.fail e)) (hm : m ≠ .noResult) :
    (matchOp m' (matchOp m d).1).2 = declVerdict m' (.fired (.ok .none)) := by
  rw [matchOp_verdict, matchOp_st, declAfter_handled hs hm]

/-- C20 (repetition, trichotomy again): whatever was matched before, in whatever number, exactly one of the three
classes matches afterwards, and none of it fired the Deferred. -/
theorem C20_rematch_trichotomy (ms : List Matcher) (d : D) :
    let d' := ms.foldl (fun d m => (matchOp m d).1) d
    exactlyOne (matchOp .noResult d').2 (matchOp (.succeeded .always) d').2 (matchOp (.failed .always) d').2 = true
      ∧ d'.called = d.called := by
  induction ms generalizing d with
  | nil => exact ⟨C20_trichotomy d, rfl⟩
  | cons m ms ih =>
    have := ih (matchOp m d).1
    exact ⟨this.1, this.2.trans (C20_passive_never_fires m d)⟩

-- non-vacuity: a failed Deferred, `failed(Always())` twice: matches, then does not
example : (matchOp (.failed .always) ⟨.fired (.fail 1), [], []⟩).2 = true
    ∧ (matchOp (.failed .always) (matchOp (.failed .always) ⟨.fired (.fail 1), [], []⟩).1).2 = false
    ∧ (matchOp (.succeeded .always) (matchOp (.failed .always) ⟨.fired (.fail 1), [], []⟩).1).2 = true := by decide
-- and `has_no_result()` in between changes nothing
example : (matchOp (.failed .always) (matchOp .noResult ⟨.fired (.fail 1), [], []⟩).1).2 = true := by decide

/-! `rel_…`: the same operation on both sides keeps `Rel`; `sim_…`: the declared operation on the left, the implemented one on the
right. -/

theorem runCbs_strip (l : List Cb) : ∀ (r : Res) (seen : List (Nat × Res)),
    Rel (runCbs l r seen) (runCbs (strip l) r seen) := by
  induction l with
  | nil => exact fun _ _ => Rel.refl _
  | cons c l ih =>
    intro r seen
    by_cases hc : c = captureCb
    · rw [hc, runCbs_capture_cons]
      exact ih r seen
    · have : strip (c :: l) = c :: strip l := by simp [strip, hc]
      rw [this]
      simp only [runCbs]
      cases applyAct (c.act r) r with
      | some r' => exact ih r' _
      | none => exact ⟨rfl, rfl, fun _ => by simp [strip]⟩

section
variable {d d' : D}

theorem rel_runCbs (h : Rel d d') (hp : ∀ r, d.st ≠ .fired r) (r : Res) :
    Rel (runCbs d.cbs r d.seen) (runCbs d'.cbs r d'.seen) := by
  rw [← h.seen]
  refine (runCbs_strip d.cbs r d.seen).trans ?_
  rw [h.cbs hp]
  exact (runCbs_strip d'.cbs r d.seen).symm

theorem rel_add (h : Rel d d') (cb : Cb) : Rel (add d cb).1 (add d' cb).1 := by
  unfold add
  rw [← h.st, ← h.seen]
  cases hs : d.st with
  | fired r => exact Rel.refl _
  | _ => exact ⟨rfl, rfl, fun _ => by simp only [strip_append, h.cbs (by simp [hs])]⟩

theorem rel_fire (h : Rel d d') (r : Res) : Rel (fire d r).1 (fire d' r).1 ∧ (fire d r).2 = (fire d' r).2 := by
  unfold fire
  rw [← h.st]
  cases hs : d.st with
  | unfired => exact ⟨rel_runCbs h (by simp [hs]) r, rfl⟩
  | _ => exact ⟨h, rfl⟩

theorem rel_resume (h : Rel d d') (r : Res) :
    Rel (resume d r).1 (resume d' r).1 ∧ (resume d r).2 = (resume d' r).2 := by
  unfold resume
  rw [← h.st]
  cases hs : d.st with
  | paused => exact ⟨rel_runCbs h (by simp [hs]) r, rfl⟩
  | _ => exact ⟨h, rfl⟩

theorem rel_declAfter (h : Rel d d') (m : Matcher) : Rel (declAfter m d) (declAfter m d') := by
  unfold declAfter
  rw [← h.st]
  split
  · exact h
  · exact ⟨rfl, h.seen, fun hp => absurd rfl (hp _)⟩
  · exact h

theorem sim_step (h : Rel d d') (op : Op) :
    Rel (declStep d op).1 (step d' op).1 ∧ (declStep d op).2 = (step d' op).2 := by
  cases op with
  | fire r => exact ⟨(rel_fire h r).1, congrArg Obs.fired (rel_fire h r).2⟩
  | add cb => exact ⟨rel_add h cb, rfl⟩
  | resume r => exact ⟨(rel_resume h r).1, congrArg Obs.resumed (rel_resume h r).2⟩
  | matchD m =>
    refine ⟨(rel_declAfter h m).trans (rel_matchOp m d'), ?_⟩
    simp only [declStep, step, matchOp_verdict, C20_passive_never_fires, h.st, called_congr h.st]
  | classify =>
    simp only [declStep, step, matchOp_verdict, h.st]
    exact ⟨h, trivial⟩
  | extract =>
    refine ⟨rel_add h extractCb, ?_⟩
    simp only [declStep, step, extractOp_decl, h.st]

end

/-- C20 (invisible): for every history, started in related states, the implementation's observations — verdicts,
`AlreadyCalledError`s, extracted results, what every later callback is called with — are exactly those of the
declared semantics, in which `has_no_result` does nothing and `succeeded`/`failed` only handle an inspected failure. -/
theorem C20_invisible : ∀ (ops : List Op) (d d' : D), Rel d d' →
    Rel (declRun d ops).1 (run d' ops).1 ∧ (declRun d ops).2 = (run d' ops).2
  | [], _, _, h => ⟨h, rfl⟩
  | op :: ops, d, d', h => by
    have hs := sim_step h op
    have ih := C20_invisible ops _ _ hs.1
    simp only [declRun, run]
    exact ⟨ih.1, by rw [hs.2, ih.2]⟩

theorem run_length : ∀ (ops : List Op) (d : D), (run d ops).2.length = ops.length
  | [], _ => rfl
  | _ :: ops, _ => congrArg (· + 1) (run_length ops _)

theorem run_classes : ∀ (ops : List Op) (d : D),
    ((run d ops).2.all fun o => match o with | .classes a b c => exactlyOne a b c | _ => true) = true
  | [], _ => rfl
  | op :: ops, d => by
    simp only [run, List.all_cons, Bool.and_eq_true]
    refine ⟨?_, run_classes ops _⟩
    cases op <;> first | rfl | exact C20_trichotomy d

/-- C20 (sync runner): whatever the test method does, `_run_user` leads to the outcome of doing it directly;
in particular returning an already-fired Deferred is reported like returning the value, and returning an
already-failed Deferred like raising the exception. -/
theorem C20_sync_runner (b : Beh) : runUser b = directOutcome b := by
  cases b with
  | returnsFired k v => cases k with
    | none => rfl
    | some k => cases k <;> rfl
  | raises k => cases k <;> rfl
  | _ => rfl

theorem C20_sync_runner_fired_value (v : Val) : runUser (.returnsFired none v) = runUser (.returns v) := by
  rw [C20_sync_runner, C20_sync_runner]; rfl

theorem C20_sync_runner_fired_failure (k : ExcKind) (v : Val) : runUser (.returnsFired (some k) v) = runUser (.raises k) := by
  rw [C20_sync_runner, C20_sync_runner]; rfl

theorem holds_model (i : Input) : holds i (model i) = true := by
  cases i with
  | runUser b =>
    simp only [holds, clauses, model, cShape, cVerdicts, cTrichotomy, cExtract, cPassive, cLogged, cSyncRunner,
      List.all_cons, List.all_nil, C20_sync_runner, beq_self_eq_true, Bool.and_self]
  | history ops =>
    obtain ⟨hrel, hobs⟩ := C20_invisible ops D.new D.new (Rel.refl _)
    simp only [holds, clauses, model, cShape, cVerdicts, cTrichotomy, cExtract, cPassive, cLogged, cSyncRunner,
      List.all_cons, List.all_nil, hobs, hrel.seen, called_congr hrel.st, isFailed_congr hrel.st, run_length, beq_self_eq_true,
      Bool.true_and, Bool.and_true]
    exact run_classes ops D.new

/-- a failure inspected by `failed(Always())`, then looked at again: handled, the later probe sees `None` -/
example : model (.history [.fire (.fail 1), .matchD (.failed .always), .add ⟨.keep, .keep, .probe 0⟩, .classify]) =
    .history [.fired false, .verdict true true true, .added, .classes false true false] [(0, .ok .none)] true false := by
  decide

/-- `has_no_result()` on a failure: mismatch, and the failure is still unhandled -/
example : model (.history [.fire (.fail 1), .matchD .noResult]) =
    .history [.fired false, .verdict false true true] [] true true := by decide

/-- matching an unfired Deferred, then firing it: the later callback sees the value -/
example : model (.history [.matchD (.succeeded .always), .add ⟨.keep, .keep, .probe 0⟩, .fire (.ok (.num 5)),
      .matchD (.succeeded (.equals (.num 5)))]) =
    .history [.verdict false false false, .added, .fired false, .verdict true true true] [(0, .ok (.num 5))] true false := by
  decide

/-! ## tie to the source (the generated terms and their interpreters: `TTV/Model/DeferredSkel.lean`) -/

/- The proofs below do not compare the generated terms with fixed reference terms: they EVALUATE the interpreter on the
generated arms and handlers in each of the states a Deferred can be in (fired with a value / with a failure, so that the installed
pair is called with it; unfired or paused, so that it is not called).  So any source whose arms and handlers mean what the model
does is accepted — e.g. mutually exclusive arms in another order — and any other source fails in the case of the state in which
it differs.
(Reference terms exist all the same, `DeferredSkel.refOdr`, `refSucceeded`, …; that they mean the model's functions too is
`matchI_ref_*`, `extractI_ref`, `runUserI_ref` in `TTV/Lemmas/DeferredSkel.lean`.) -/

/-- the model's `has_no_result()` is the interpretation of `_NoResult.match` + `on_deferred_result` as found in the source -/
theorem C20_src_no_result (d : D) :
    DeferredSkel.matchI Generated.DeferredSrc.onDeferredResult Generated.DeferredSrc.noResult (fun _ => false) d
      = some (matchOp .noResult d) := by
  cases d using D.byState <;> rfl

/-- the model's `succeeded(m)` is the interpretation of `_Succeeded.match`, its handlers and `on_deferred_result` as found
in the source — for every Deferred state and inner matcher -/
theorem C20_src_succeeded (vm : VM) (d : D) :
    DeferredSkel.matchI Generated.DeferredSrc.onDeferredResult Generated.DeferredSrc.succeeded (DeferredSkel.innerV vm) d
      = some (matchOp (.succeeded vm) d) := by
  cases d using D.byState <;> rfl

/-- the model's `failed(m)` is the interpretation of `_Failed.match`, its handlers and `on_deferred_result` as found in
the source -/
theorem C20_src_failed (fm : FM) (d : D) :
    DeferredSkel.matchI Generated.DeferredSrc.onDeferredResult Generated.DeferredSrc.failed (DeferredSkel.innerF fm) d
      = some (matchOp (.failed fm) d) := by
  cases d using D.byState <;> rfl

/-- the model's `extract_result` is the interpretation of the arms found in the source -/
theorem C20_src_extract (d : D) :
    DeferredSkel.extractI Generated.DeferredSrc.extractResult d = some (extractOp d) := by
  cases d using D.byState <;> rfl

/-- `SynchronousDeferredRunTest._run_user` has the signature `(self, function, /, *args, **kwargs)` - no keyword name of a cleanup can
collide with its own parameters (seed C20-g) -, is `maybeDeferred` of a THUNK calling the user's function with the user's arguments
(none of them reaches `maybeDeferred`'s own parameter `f`), `addErrback(self._got_user_failure)`, `extract_result`, and the errback
`_got_user_failure` reports EVERY failure it is given as the user's exception - no exception class is let through (seed C20-f) -/
theorem C20_src_run_user (b : Beh) :
    DeferredSkel.runUserI Generated.DeferredSrc.runUserSig Generated.DeferredSrc.runUser Generated.DeferredSrc.gotUserFailure b
      = some (runUser b) :=
  if_pos (by decide)

end TTV.Props.C20
